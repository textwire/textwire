/-
  TwProofs.Lemmas.TextRuns — templates of text runs, each with any number of escaped "{{" and escaped
  directives, separated by comments with arbitrary bodies (C05).  One HTML token per run, its literal the
  run without the escaping backslashes (`lexAll_items`, which counts a `NextToken` body per item), one text
  statement per token, and the render is the concatenation of the literals.  The languages from TextIf on
  do not count: they are written from `Ready` (the state in which an item starts), `ReadsTo` (what an item
  does) and `Lexes.item`.
-/
import TwProofs.Lemmas.TextPieces
import TwProofs.Lemmas.Render
import TwProofs.Lemmas.ParseStmts
namespace Tw
open Lx

inductive Seg where
  | plain (p : Bytes)
  | esc (c : Byte)

def Seg.src : Seg → Bytes
  | .plain p => p
  | .esc c => [92, c]

def Seg.lit : Seg → Bytes
  | .plain p => p
  | .esc c => [c]

def segsSrc : List Seg → Bytes
  | [] => []
  | s :: r => s.src ++ segsSrc r

def segsLit : List Seg → Bytes
  | [] => []
  | s :: r => s.lit ++ segsLit r

/-- `c` followed by `rest` is where a code block or a directive would start -/
def isSyn (c : Byte) (rest : Bytes) : Bool :=
  (c == 123 && rest.headD 0 == 123) || (c == 64 && hasDirectivePrefix (c :: rest))

/-- the run is what it says: nothing in its plain pieces starts syntax (given what follows the run),
    and every escape stands in front of something that does -/
def SegsOK : List Seg → Bytes → Prop
  | [], _ => True
  | .plain p :: r, tl => PlainBefore p (segsSrc r ++ tl) ∧ SegsOK r tl
  | .esc c :: r, tl => isSyn c (segsSrc r ++ tl) = true ∧ SegsOK r tl

theorem htmlScan_esc (prev : Byte) (out : Bytes) (n : Nat) (pan : Bool) (c : Byte) (rest : Bytes) (h : isSyn c rest = true) :
    htmlScan prev out n pan (92 :: c :: rest) = htmlScan c (c :: out) (n + 2) pan rest := by
  rw [htmlScan]
  have h1 : ((92 : Byte) == 64) = false := by decide
  have h2 : ((92 : Byte) == 123) = false := by decide
  simp only [h1, h2, Bool.false_and, Bool.or_self, Bool.false_eq_true, if_false]
  rw [htmlScan]
  have hs : ((c == 123 && rest.headD 0 == 123) || (c == 64 && hasDirectivePrefix (c :: rest))) = true := h
  simp only [hs, beq_self_eq_true, Bool.not_true, Bool.and_false, Bool.false_eq_true, if_false, if_true, List.tail_cons,
    List.isEmpty_cons, Bool.or_false]

theorem htmlScan_run : ∀ (segs : List Seg) (tl : Bytes) (prev : Byte) (out : Bytes) (n : Nat) (pan : Bool), SegsOK segs tl →
    htmlScan prev out n pan (segsSrc segs ++ tl) =
      htmlScan (lastOr (segsSrc segs) prev) ((segsLit segs).reverse ++ out) (n + (segsSrc segs).length) pan tl
  | [], tl, prev, out, n, pan, _ => by simp [segsSrc, segsLit, lastOr_nil]
  | .plain p :: r, tl, prev, out, n, pan, h => by
    obtain ⟨hp, hr⟩ := h
    simp only [segsSrc, segsLit, Seg.src, Seg.lit, List.append_assoc]
    rw [htmlScan_plainBefore p (segsSrc r ++ tl) prev out n pan hp, htmlScan_run r tl _ _ _ pan hr, lastOr_append]
    simp [Nat.add_assoc]
  | .esc c :: r, tl, prev, out, n, pan, h => by
    obtain ⟨hs, hr⟩ := h
    simp only [segsSrc, segsLit, Seg.src, Seg.lit, List.cons_append, List.nil_append]
    rw [htmlScan_esc prev out n pan c (segsSrc r ++ tl) hs, htmlScan_run r tl _ _ _ pan hr, lastOr_cons, lastOr_cons]
    simp [Nat.add_assoc, Nat.add_comm 2]

inductive Item where
  | text (segs : List Seg)
  | comment (cm : Bytes)

def Item.src : Item → Bytes
  | .text segs => segsSrc segs
  | .comment cm => [123, 123, 45, 45] ++ cm ++ [45, 45, 125, 125]

def itemsSrc : List Item → Bytes
  | [] => []
  | i :: r => i.src ++ itemsSrc r

def itemsLits : List Item → List Bytes
  | [] => []
  | .text segs :: r => segsLit segs :: itemsLits r
  | .comment _ :: r => itemsLits r

def startsRun : List Seg → Prop
  | .plain (_ :: _) :: _ => True
  | .esc _ :: _ => True
  | _ => False

def afterRun (segs : List Seg) : List Item → Prop
  | [] => True
  | .comment _ :: _ => lastOr (segsSrc segs) 0 ≠ 92
  | .text _ :: _ => False

def ItemsOK : List Item → Prop
  | [] => True
  | .comment cm :: r => commentScan (cm ++ [45, 45, 125, 125] ++ itemsSrc r) = cm.length ∧ ItemsOK r
  | .text segs :: r => startsRun segs ∧ SegsOK segs (itemsSrc r) ∧ afterRun segs r ∧ ItemsOK r

/- The `Decidable` instances of the well-formedness predicates are there for the test vectors: an `example` proves
   `XItemsOK exItems` of its concrete template by `decide +kernel`.  An instance without a name calls itself by the
   name Lean gives it (`instDecidableSegsOK`). -/
instance : (segs : List Seg) → (tl : Bytes) → Decidable (SegsOK segs tl)
  | [], _ => isTrue trivial
  | .plain p :: r, tl =>
    have : Decidable (SegsOK r tl) := instDecidableSegsOK r tl
    by unfold SegsOK; exact inferInstance
  | .esc c :: r, tl =>
    have : Decidable (SegsOK r tl) := instDecidableSegsOK r tl
    by unfold SegsOK; exact inferInstance

instance : (segs : List Seg) → Decidable (startsRun segs)
  | [] => isFalse (by simp [startsRun])
  | .plain [] :: _ => isFalse (by simp [startsRun])
  | .plain (_ :: _) :: _ => isTrue trivial
  | .esc _ :: _ => isTrue trivial

instance (segs : List Seg) : (r : List Item) → Decidable (afterRun segs r)
  | [] => isTrue trivial
  | .comment _ :: _ => by unfold afterRun; exact inferInstance
  | .text _ :: _ => isFalse (by simp [afterRun])

instance : (items : List Item) → Decidable (ItemsOK items)
  | [] => isTrue trivial
  | .comment cm :: r =>
    have : Decidable (ItemsOK r) := instDecidableItemsOK r
    by unfold ItemsOK; exact inferInstance
  | .text segs :: r =>
    have : Decidable (ItemsOK r) := instDecidableItemsOK r
    by unfold ItemsOK; exact inferInstance

theorem run_head (segs : List Seg) (tl : Bytes) (s : Lx) (hst : startsRun segs) (hok : SegsOK segs tl) (hr : s.rest = segsSrc segs ++ tl) :
    segsSrc segs ≠ [] ∧ ¬ (s.char = 123 ∧ s.peek = 123) ∧ (isDirectiveToken s).1 = false := by
  cases segs with
  | nil => exact absurd hst (by simp [startsRun])
  | cons sg r =>
    cases sg with
    | esc c =>
      have hrest : s.rest = 92 :: c :: (segsSrc r ++ tl) := by rw [hr]; simp [segsSrc, Seg.src]
      have hc : s.char = 92 := Lx.char_of_rest hrest
      refine ⟨by simp [segsSrc, Seg.src], fun h => by rw [hc] at h; exact absurd h.1 (by decide), ?_⟩
      rw [isDirectiveToken_fst, hc]
      rfl
    | plain p =>
      cases p with
      | nil => exact absurd hst (by simp [startsRun])
      | cons c p' =>
        obtain ⟨⟨h1, h2, _⟩, _⟩ := hok
        have hrest : s.rest = c :: (p' ++ (segsSrc r ++ tl)) := by rw [hr]; simp [segsSrc, Seg.src]
        refine ⟨by simp [segsSrc, Seg.src], ?_, ?_⟩
        · rw [Lx.char_of_rest hrest, Lx.peek_of_rest hrest]
          exact h1
        · rw [isDirectiveToken_fst, Lx.char_of_rest hrest, hrest]
          by_cases h64 : c = 64
          · rw [Bool.eq_false_iff.mpr fun hpx => h2 ⟨h64, hpx⟩]
            simp
          · simp [h64]

/-- what ends a run: the end of the input, "{{", or a directive keyword -/
def Stops (tl : Bytes) : Prop :=
  tl = [] ∨ (∃ r, tl = 123 :: 123 :: r) ∨ (∃ r, tl = 64 :: r ∧ hasDirectivePrefix (64 :: r) = true)

theorem htmlScan_of_stops (prev : Byte) (out : Bytes) (n : Nat) (pan : Bool) (tl : Bytes) (hs : Stops tl) (hp : tl ≠ [] → prev ≠ 92) :
    htmlScan prev out n pan tl = (out, n, pan) := by
  rcases hs with h | ⟨r, h⟩ | ⟨r, h, hd⟩
  · subst h; rfl
  · subst h
    have : (prev == 92) = false := by simpa using hp (by simp)
    simp [htmlScan, this]
  · subst h
    have : (prev == 92) = false := by simpa using hp (by simp)
    rw [htmlScan]
    simp [hd, this]

theorem run_step (s : Lx) (segs : List Seg) (tl : Bytes) (hh : s.isHTML = true) (hst : startsRun segs) (hok : SegsOK segs tl)
    (hr : s.rest = segsSrc segs ++ tl) (hstop : Stops tl) (hlast : tl ≠ [] → lastOr (segsSrc segs) 0 ≠ 92) :
    ∃ t s1, nextStep s = (.tok t, s1) ∧ key t = (.HTML, segsLit segs) ∧ s1.rest = tl ∧ s1.prev = lastOr (segsSrc segs) 0 ∧
      mode s1 = mode s := by
  obtain ⟨hne, hnb, hnd⟩ := run_head segs tl s hst hok hr
  -- the run is not empty, so its last byte is the same whatever stands before it: `0` in `hlast`, `s.prev` in the scan
  have hscan : htmlScan s.prev [] 0 false s.rest = ((segsLit segs).reverse, (segsSrc segs).length, false) := by
    rw [hr, htmlScan_run segs tl s.prev [] 0 false hok,
      htmlScan_of_stops _ _ _ _ tl hstop (fun h => by rw [lastOr_of_ne_nil hne s.prev 0]; exact hlast h)]
    simp
  obtain ⟨t, s1, hst1, k1, hr1, hpre, m⟩ := text_step s (segsSrc segs) tl (segsLit segs) hh hr hne hnb hnd hscan
  refine ⟨t, s1, hst1, k1, hr1, ?_, m⟩
  rw [Lx.prev, hpre, headD_reverse_append]
  exact lastOr_of_ne_nil hne _ _

theorem lex_run (s : Lx) (segs : List Seg) (tl : Bytes) (hh : s.isHTML = true) (hst : startsRun segs) (hok : SegsOK segs tl)
    (hr : s.rest = segsSrc segs ++ tl) (hstop : Stops tl) (hlast : tl ≠ [] → lastOr (segsSrc segs) 0 ≠ 92) :
    ∃ t s1, nextStep s = (.tok t, s1) ∧ key t = (.HTML, segsLit segs) ∧ t.ty ≠ .EOF ∧ s1.rest = tl ∧ s1.isHTML = true ∧
      s1.panicked = s.panicked ∧ s1.braces = s.braces ∧ s1.parens = s.parens ∧ s1.isDirective = s.isDirective ∧
      s1.prev = lastOr (segsSrc segs) 0 := by
  obtain ⟨t, s1, st, k, r1, pv, m⟩ := run_step s segs tl hh hst hok hr hstop hlast
  exact ⟨t, s1, st, k, key_ne_eof k (by decide), r1, (mode_html m).trans hh, mode_pan m, mode_braces m, mode_parens m, mode_dir m, pv⟩

/-- text without "{", "@" and backslash: plain whatever follows it -/
def VeryPlain (t : Bytes) : Prop := ∀ c ∈ t, c ≠ 123 ∧ c ≠ 64 ∧ c ≠ 92

instance (t : Bytes) : Decidable (VeryPlain t) := by unfold VeryPlain; exact inferInstance

theorem VeryPlain.before : ∀ {t : Bytes}, VeryPlain t → ∀ tl, PlainBefore t tl
  | [], _, _ => trivial
  | c :: a, h, tl => by
    have hc := h c (by simp)
    exact ⟨fun e => hc.1 e.1, fun e => hc.2.1 e.1, VeryPlain.before (t := a) (fun x hx => h x (List.mem_cons_of_mem _ hx)) tl⟩

theorem VeryPlain.last {t : Bytes} (h : VeryPlain t) (hne : t ≠ []) : lastOr t 0 ≠ 92 := by
  unfold lastOr
  cases hr : t.reverse with
  | nil => exact absurd (by simpa using hr) hne
  | cons c r =>
    simp only [List.cons_append, List.headD_cons]
    have : c ∈ t := by rw [← List.mem_reverse, hr]; simp
    exact (h c this).2.2

theorem lex_vplain (s : Lx) (t tl : Bytes) (hh : s.isHTML = true) (ht : VeryPlain t) (hne : t ≠ []) (hr : s.rest = t ++ tl)
    (hstop : Stops tl) :
    ∃ tk s1, nextStep s = (.tok tk, s1) ∧ key tk = (.HTML, t) ∧ tk.ty ≠ .EOF ∧ s1.rest = tl ∧ s1.prev ≠ 92 ∧ mode s1 = mode s := by
  have hst : startsRun [.plain t] := by
    cases t with
    | nil => exact absurd rfl hne
    | cons c a => trivial
  have hok : SegsOK [.plain t] tl := ⟨by simpa [segsSrc] using ht.before tl, trivial⟩
  obtain ⟨tk, s1, h1, h2, h3, h4, h5, h6, h7, h8, h9, h10⟩ := lex_run s [.plain t] tl hh hst hok (by simpa [segsSrc, Seg.src] using hr) hstop
    (fun _ => by simpa [segsSrc, Seg.src] using ht.last hne)
  refine ⟨tk, s1, h1, by simpa [segsLit, Seg.lit] using h2, h3, h4, ?_, ?_⟩
  · rw [h10]; simpa [segsSrc, Seg.src] using ht.last hne
  · simp only [mode, h5, hh, h9, h8, h7, h6]

/-- a text that does not begin with "if" does not either with what ends the run behind it: when the text is one byte, the
    second byte is the "{" or "@" that follows, not "f" -/
theorem not_if_append {t x : Bytes} (hne : t ≠ []) (h : ¬ (t.headD 0 = 105 ∧ (t.drop 1).headD 0 = 102)) (hx : Stops x) :
    ¬ ((t ++ x).headD 0 = 105 ∧ ((t ++ x).drop 1).headD 0 = 102) := by
  cases t with
  | nil => exact absurd rfl hne
  | cons a r =>
    cases r with
    | nil =>
      intro e
      rcases hx with rfl | ⟨_, rfl⟩ | ⟨_, rfl, _⟩ <;> simp at e
    | cons a2 r2 => exact h

structure Ready (s : Lx) : Prop where
  html : s.isHTML = true
  braces : s.braces = 0
  parens : s.parens = 0
  dir : s.isDirective = false
  pan : s.panicked = false

theorem Ready.congr {s s1 : Lx} (h : Ready s) (m : mode s1 = mode s) : Ready s1 :=
  ⟨(mode_html m).trans h.html, (mode_braces m).trans h.braces, (mode_parens m).trans h.parens, (mode_dir m).trans h.dir,
    (mode_pan m).trans h.pan⟩

theorem Ready.of_mode {s s1 : Lx} (h : Ready s) (m : mode s1 = (true, false, 0, s.braces, s.panicked)) : Ready s1 :=
  h.congr (m.trans (by rw [mode, h.html, h.dir, h.parens]))

def ReadsTo (s : Lx) (ks : List (TT × Bytes)) (tl : Bytes) : Prop :=
  ∃ ts s1, Run s ts s1 ∧ ts.map key = ks ∧ s1.rest = tl ∧ Ready s1 ∧ (tl ≠ [] → s1.prev ≠ 92)

theorem ReadsTo.append {s : Lx} {ks ks2 : List (TT × Bytes)} {tm tl : Bytes} (h : ReadsTo s ks tm)
    (h2 : ∀ s1, s1.rest = tm → Ready s1 → (tm ≠ [] → s1.prev ≠ 92) → ReadsTo s1 ks2 tl) : ReadsTo s (ks ++ ks2) tl := by
  obtain ⟨ts, s1, run, hk, r1, hs1, pv1⟩ := h
  obtain ⟨ts2, s2, run2, hk2, r2, hs2, pv2⟩ := h2 s1 r1 hs1 pv1
  exact ⟨ts ++ ts2, s2, run.append run2, by rw [List.map_append, hk, hk2], r2, hs2, pv2⟩

theorem Ready.run {s : Lx} (h : Ready s) {segs : List Seg} {tl : Bytes} (hst : startsRun segs) (hok : SegsOK segs tl)
    (hr : s.rest = segsSrc segs ++ tl) (hstop : Stops tl) (hlast : tl ≠ [] → lastOr (segsSrc segs) 0 ≠ 92) :
    ReadsTo s [(.HTML, segsLit segs)] tl := by
  obtain ⟨t, s1, st1, k1, r1, pv1, m⟩ := run_step s segs tl h.html hst hok hr hstop hlast
  exact ⟨[t], s1, .cons _ _ _ _ _ st1 (key_ne_eof k1 (by decide)) (.nil _), by rw [List.map_singleton, k1], r1, h.congr m,
    fun hne => by rw [pv1]; exact hlast hne⟩

theorem Ready.comment {s : Lx} (h : Ready s) {cm r : Bytes} (hr : s.rest = [123, 123, 45, 45] ++ cm ++ [45, 45, 125, 125] ++ r)
    (hcm : commentScan (cm ++ [45, 45, 125, 125] ++ r) = cm.length) :
    ∃ s', nextStep s = (.again, s') ∧ s'.rest = r ∧ Ready s' ∧ s'.prev ≠ 92 := by
  obtain ⟨s', st, r1, pv1, m⟩ := comment_step s cm r h.html hr hcm
  exact ⟨s', st, r1, h.congr m, by rw [pv1]; decide⟩

def LexesTo (fuel : Nat) (s : Lx) (ks : List (TT × Bytes)) : Prop :=
  ∃ toks e sf, lexAll fuel s = some (toks ++ [e], sf) ∧ toks.map key = ks ∧ e.ty = .EOF ∧ e.lit = [] ∧
    sf.isHTML = true ∧ sf.panicked = false

theorem LexesTo.eof {fuel : Nat} {s : Lx} (hh : s.isHTML = true) (hp : s.panicked = false) (hr : s.rest = []) (hf : 1 ≤ fuel) :
    LexesTo fuel s [] := by
  obtain ⟨g, rfl⟩ : ∃ g, fuel = g + 1 := ⟨fuel - 1, by omega⟩
  exact ⟨[], s.tokenBegins.newToken .EOF [], s.tokenBegins, lexAll_eof (nextStep_eof s hh hr) rfl, rfl, rfl, rfl, hh, hp⟩

theorem LexesTo.again {fuel : Nat} {s s1 : Lx} {ks : List (TT × Bytes)} (h : nextStep s = (.again, s1))
    (hl : LexesTo (fuel - 1) s1 ks) (hf : 1 ≤ fuel) : LexesTo fuel s ks := by
  obtain ⟨g, rfl⟩ : ∃ g, fuel = g + 1 := ⟨fuel - 1, by omega⟩
  rw [LexesTo, lexAll_again h]
  exact hl

theorem LexesTo.run {fuel : Nat} {s s1 : Lx} {ts : List Token} {ks : List (TT × Bytes)} (h : Run s ts s1)
    (hl : LexesTo (fuel - ts.length) s1 ks) (hf : ts.length ≤ fuel) : LexesTo fuel s (ts.map key ++ ks) := by
  obtain ⟨toks, e, sf, hl, hm, he⟩ := hl
  refine ⟨ts ++ toks, e, sf, ?_, by rw [List.map_append, hm], he⟩
  rw [show fuel = ts.length + (fuel - ts.length) by omega, h.lexAll_append _ _ hl, List.append_assoc]

/-- with whatever fuel makes the loop return: once it returns, `lexAll` does not depend on the
    fuel (`lexAll_mono`, through which `Lexes.tokenize` reaches `tokenize`), so a language stated with `Lexes` does
    not count its `NextToken` bodies -/
def Lexes (s : Lx) (ks : List (TT × Bytes)) : Prop := ∃ fuel, LexesTo fuel s ks

theorem Lexes.eof {s : Lx} (hs : Ready s) (hr : s.rest = []) : Lexes s [] := ⟨1, .eof hs.html hs.pan hr (Nat.le_refl _)⟩

theorem Lexes.again {s s1 : Lx} {ks : List (TT × Bytes)} (h : nextStep s = (.again, s1)) (hl : Lexes s1 ks) : Lexes s ks := by
  obtain ⟨f, hl⟩ := hl
  exact ⟨f + 1, .again h hl (Nat.le_add_left _ _)⟩

theorem Lexes.item {s : Lx} {ks ks2 : List (TT × Bytes)} {tl : Bytes} (h : ReadsTo s ks tl)
    (h2 : ∀ s1, s1.rest = tl → Ready s1 → (tl ≠ [] → s1.prev ≠ 92) → Lexes s1 ks2) : Lexes s (ks ++ ks2) := by
  obtain ⟨ts, s1, run, hk, r1, hs1, pv1⟩ := h
  obtain ⟨f, hl⟩ := h2 s1 r1 hs1 pv1
  exact ⟨ts.length + f, hk ▸ .run run (by rwa [Nat.add_sub_cancel_left]) (Nat.le_add_right _ _)⟩

theorem Stops.braces (x : Bytes) : Stops (123 :: 123 :: x) := Or.inr (Or.inl ⟨x, rfl⟩)

/-- what may follow a run of text, in any language of items (`after` is its `afterRun`, `srcs` its source): the end of the
    template, or an item that is no text — its source ends the run, and the run must not end in a backslash, which would
    escape it.  A language contributes `hcons`: that the source of each of its items other than text `Stops`. -/
theorem Stops.after_run {α : Type} {srcs : List α → Bytes} {after : List α → Prop} {P : Prop} (hnil : srcs [] = [])
    (hcons : ∀ i r, after (i :: r) → Stops (srcs (i :: r)) ∧ P) : ∀ r, after r → Stops (srcs r) ∧ (srcs r ≠ [] → P)
  | [], _ => ⟨Or.inl hnil, fun h => absurd hnil h⟩
  | i :: r, h => ⟨(hcons i r h).1, fun _ => (hcons i r h).2⟩

theorem afterRun_stops (segs : List Seg) : ∀ r : List Item, afterRun segs r →
    Stops (itemsSrc r) ∧ (itemsSrc r ≠ [] → lastOr (segsSrc segs) 0 ≠ 92) :=
  Stops.after_run rfl fun it _ h => by
    cases it with
    | text _ => exact h.elim
    | comment _ => exact ⟨.braces _, h⟩

/-- C05 `text_and_comments_tokens`, through `tokenize_items`.  The fuel: a `NextToken` body per item and one for EOF -/
theorem lexAll_items : ∀ (items : List Item), ItemsOK items → ∀ (s : Lx) (fuel : Nat), s.rest = itemsSrc items →
    s.isHTML = true → s.panicked = false → items.length + 1 ≤ fuel →
    ∃ toks e sf, lexAll fuel s = some (toks ++ [e], sf) ∧ toks.map (·.lit) = itemsLits items ∧
      (∀ t ∈ toks, t.ty = .HTML) ∧ e.ty = .EOF ∧ sf.isHTML = true ∧ sf.panicked = false
  | [], _, s, fuel, hr, hh, hp, hf => by
    obtain ⟨toks, e, sf, hl, hm, he, _, hhf, hpf⟩ := LexesTo.eof hh hp hr hf
    cases List.map_eq_nil_iff.mp hm
    exact ⟨[], e, sf, hl, rfl, nofun, he, hhf, hpf⟩
  | .comment cm :: r, hok, s, fuel, hr, hh, hp, hf => by
    obtain ⟨g, rfl⟩ : ∃ g, fuel = g + 1 := ⟨fuel - 1, by omega⟩
    obtain ⟨s2, hst2, hr2, hh2, hp2, _⟩ := nextStep_comment s cm (itemsSrc r) hh (by rw [hr]; simp [itemsSrc, Item.src]) hok.1
    rw [lexAll_again hst2]
    exact lexAll_items r hok.2 s2 g hr2 hh2 (hp2.trans hp) (by simp at hf; omega)
  | .text segs :: r, hok, s, fuel, hr, hh, hp, hf => by
    obtain ⟨hstart, hsegs, hafter, hokr⟩ := hok
    obtain ⟨g, rfl⟩ : ∃ g, fuel = g + 1 := ⟨fuel - 1, by omega⟩
    obtain ⟨hstop, hlast⟩ := afterRun_stops segs r hafter
    obtain ⟨t, s1, hst1, hk1, hne1, hr1, hh1, hp1, _⟩ := lex_run s segs (itemsSrc r) hh hstart hsegs hr hstop hlast
    obtain ⟨toks, e, sf, hl, hm, hty, he, hhf, hpf⟩ := lexAll_items r hokr s1 g hr1 hh1 (hp1.trans hp) (by simp at hf; omega)
    refine ⟨t :: toks, e, sf, by rw [lexAll_tok hst1 hne1, hl]; rfl, ?_, ?_, he, hhf, hpf⟩
    · rw [List.map_cons, hm]; exact congrArg (· :: _) (congrArg Prod.snd hk1)
    · exact List.forall_mem_cons.mpr ⟨congrArg Prod.fst hk1, hty⟩

theorem tokenize_eq_of_lexAll_text {src : Bytes} {f : Nat} {ts : List Token} {sf : Lx} (hl : lexAll f (Lx.init src) = some (ts, sf))
    (hh : sf.isHTML = true) (hp : sf.panicked = false) :
    tokenize src = some { toks := ts, insideCode := false, panicked := false } := by
  rw [tokenize_eq_of_lexAll hl, hh, hp]
  rfl

theorem Ready.init (src : Bytes) : Ready (Lx.init src) := ⟨rfl, rfl, rfl, rfl, rfl⟩

theorem init_prev (src : Bytes) : (Lx.init src).prev ≠ 92 := by simp [Lx.prev, Lx.init]

theorem Lexes.tokenize {src : Bytes} {ks : List (TT × Bytes)} (h : Lexes (Lx.init src) ks) :
    ∃ toks e, tokenize src = some { toks := toks ++ [e], insideCode := false, panicked := false } ∧ toks.map key = ks ∧ e.ty = .EOF := by
  obtain ⟨_, toks, e, sf, hl, hm, he, _, hhf, hpf⟩ := h
  exact ⟨toks, e, tokenize_eq_of_lexAll_text hl hhf hpf, hm, he⟩

theorem tokenize_items (items : List Item) (hok : ItemsOK items) :
    ∃ toks e, tokenize (itemsSrc items) = some { toks := toks ++ [e], insideCode := false, panicked := false } ∧
      toks.map (·.lit) = itemsLits items ∧ (∀ t ∈ toks, t.ty = .HTML) ∧ e.ty = .EOF := by
  obtain ⟨toks, e, sf, hl, hm, hty, he, hhf, hpf⟩ := lexAll_items items hok (Lx.init (itemsSrc items)) _ rfl rfl rfl (Nat.le_refl _)
  exact ⟨toks, e, tokenize_eq_of_lexAll_text hl hhf hpf, hm, hty, he⟩

theorem NoIll.of_texts {toks : List Token} {e : Token} (hty : ∀ t ∈ toks, t.ty = .HTML) (he : e.ty = .EOF) : NoIll (toks ++ [e]) :=
  NoIll.append (fun t ht => by rw [hty t ht]; decide) (.one (by rw [he]; decide))

theorem loop_text {t e : Token} {rest : List Token} (ht : t.ty = .HTML) {p : PS} (hp : p.toks = t :: (rest ++ [e])) (hk : NoIll (rest ++ [e]))
    {f : Nat} (hf : 1 ≤ f) {acc stmts : List Stmt} {pf : PS}
    (hloop : parseProgramLoop f (acc ++ [.html t]) { p with toks := rest ++ [e] } = (some (acc ++ [.html t] ++ stmts), pf)) :
    parseProgramLoop (f + 1) acc p = (some (acc ++ .html t :: stmts), pf) :=
  loop_cons (.html ht) hp (by simp [ht]) rfl (by simp [ht]) (by simp) hk hf hloop

theorem parseLoop_texts : ∀ (toks : List Token) (e : Token) (acc : List Stmt) (f : Nat), (∀ t ∈ toks, t.ty = .HTML) → e.ty = .EOF →
    toks.length + 2 ≤ f →
    parseProgramLoop f acc ({ toks := toks ++ [e] } : PS) = (some (acc ++ toks.map Stmt.html), { toks := [e] })
  | [], e, acc, f, _, he, hf => by
    obtain ⟨g, rfl⟩ : ∃ g, f = g + 1 := ⟨f - 1, by omega⟩
    simpa using loop_eof g acc _ e [] rfl he
  | t :: r, e, acc, f, hty, he, hf => by
    obtain ⟨g, rfl⟩ : ∃ g, f = g + 1 := ⟨f - 1, by omega⟩
    have ht := hty t List.mem_cons_self
    have hr := fun x hx => hty x (List.mem_cons_of_mem _ hx)
    exact loop_text ht rfl (NoIll.of_texts hr he) (by simp at hf; omega) (parseLoop_texts r e (acc ++ [.html t]) g hr he (by simp at hf; omega))

theorem parse_texts (src : Bytes) (toks : List Token) (e : Token)
    (htok : tokenize src = some { toks := toks ++ [e], insideCode := false, panicked := false })
    (hty : ∀ t ∈ toks, t.ty = .HTML) (he : e.ty = .EOF) :
    parseSource src = .ok { tok := (toks ++ [e]).headD e, stmts := toks.map Stmt.html } := by
  exact parseSource_tokens htok (NoIll.of_texts hty he)
    (by simpa using parseLoop_texts toks e [] (parseFuel (toks ++ [e])) hty he (by simp [parseFuel]; omega)) rfl rfl

theorem yieldsAll_texts (c : Ctx) (env : Env) : ∀ toks : List Token,
    YieldsAll c env (toks.map Stmt.html) (toks.map (·.lit)).flatten env (toks.length + 1)
  | [] => .nil env 0
  | t :: r => .cons (Renders.html c env t) (yieldsAll_texts c env r) (by simp) (by simp)

theorem evalProg_texts (c : Ctx) (env : Env) : ∀ (toks : List Token) (acc : Bytes) (f : Nat), toks.length + 1 ≤ f →
    evalProg f c env (toks.map Stmt.html) acc = .ok (acc ++ (toks.map (·.lit)).flatten, env) :=
  fun toks acc f hf => (yieldsAll_texts c env toks).evalProg f acc hf

theorem items_render (custom : List ((VType × Bytes) × Nat)) (items : List Item) (hok : ItemsOK items)
    (hsize : (itemsLits items).length + 1 ≤ evalFuel)
    (data : List (Bytes × GoVal)) (env : Env) (henv : envFromMap data = .ok env) :
    evaluateStringPure custom (itemsSrc items) data = .ok (itemsLits items).flatten := by
  obtain ⟨toks, e, htok, hm, hty, he⟩ := tokenize_items items hok
  have hlen : toks.length = (itemsLits items).length := by rw [← hm]; simp
  rw [← hm]
  exact source_renders (parse_texts _ toks e htok hty he) henv
    (evalProg_texts { custom := custom } env toks [] evalFuel (by rw [hlen]; exact hsize))

theorem plainBefore_append (a c tl : Bytes) : PlainBefore (a ++ c) tl ↔ PlainBefore a (c ++ tl) ∧ PlainBefore c tl := by
  induction a with
  | nil => simp [PlainBefore]
  | cons x r ih => simp [PlainBefore, ih, and_assoc]

theorem render_escaped (custom : List ((VType × Bytes) × Nat)) (a : Bytes) (x : Byte) (b : Bytes)
    (hpa : PlainBefore (a ++ [92]) (x :: b)) (hx : isSyn x b = true) (hpb : Plain b)
    (data : List (Bytes × GoVal)) (env : Env) (henv : envFromMap data = .ok env) :
    evaluateStringPure custom ((a ++ [92]) ++ x :: b) data = .ok (a ++ x :: b) := by
  have hpa' : PlainBefore a (92 :: x :: b) := ((plainBefore_append a [92] (x :: b)).mp hpa).1
  cases a with
  | nil =>
    have hok : ItemsOK [.text [.esc x, .plain b]] := by
      simpa [ItemsOK, SegsOK, startsRun, afterRun, itemsSrc, segsSrc, Seg.src, plainBefore_nil] using
        (show _ ∧ _ from ⟨hx, hpb⟩)
    have := items_render custom _ hok (by show 1 + 1 ≤ evalFuel; decide) data env henv
    simpa [itemsSrc, Item.src, segsSrc, Seg.src, itemsLits, segsLit, Seg.lit] using this
  | cons c r =>
    have hok : ItemsOK [.text [.plain (c :: r), .esc x, .plain b]] := by
      simpa [ItemsOK, SegsOK, startsRun, afterRun, itemsSrc, segsSrc, Seg.src, plainBefore_nil] using
        (show _ ∧ _ ∧ _ from ⟨hpa', hx, hpb⟩)
    have := items_render custom _ hok (by show 1 + 1 ≤ evalFuel; decide) data env henv
    simpa [itemsSrc, Item.src, segsSrc, Seg.src, itemsLits, segsLit, Seg.lit] using this

end Tw
