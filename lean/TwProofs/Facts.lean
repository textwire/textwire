/-
  TwProofs.Facts — obligations about the tables regenerated from the Go sources (TIE-1).

  `TwModel/Generated/Facts.lean` is rewritten from /repo's working tree on every run.  Each
  theorem below compares a regenerated table with what the hand-written model uses (or with a
  list of individually justified code sites).  A source change that alters a table breaks the
  corresponding obligation; the check then searches for a failing input (see DESIGN.md §4).
  F1 … F13 are the numbers of the facts in DESIGN.md §3.1.
-/
import TwModel

namespace Tw.FactsOk
open Tw

/-- every construct the extractor looks for was found -/
theorem nothing_missing : Gen.missing = [] := rfl

/-- F4: the lexer's tables of keywords and directives -/
theorem keywords_ok : Gen.keywords = Tw.keywords := rfl
theorem directives_ok : Gen.directives = Tw.directives := rfl

/-- F5: the one-byte tokens -/
theorem simpleTokens_ok : Gen.simpleTokens = Tw.simpleTokens := rfl

def sameSet (a c : List TT) : Bool := a.all (c.contains ·) && c.all (a.contains ·)

/-- F5: the directives that take no parentheses, or optional ones (as sets) -/
theorem tokensWithoutParens_ok : sameSet Gen.tokensWithoutParens Tw.tokensWithoutParens = true := by decide +kernel
theorem tokensWithOptionalParens_ok : sameSet Gen.tokensWithOptionalParens Tw.tokensWithOptionalParens = true := by decide +kernel

/-- F4: the token types, in declaration order, are exactly the constructors of `TT` -/
def allTT : List TT :=
  [.ILLEGAL, .EOF, .IDENT, .HTML, .INT, .FLOAT, .STR, .ADD, .SUB, .MUL, .DIV, .MOD, .INC, .DEC, .NOT, .ASSIGN,
   .EQ, .NOT_EQ, .LTHAN, .GTHAN, .LTHAN_EQ, .GTHAN_EQ, .LBRACES, .RBRACES, .LBRACE, .RBRACE, .LPAREN, .RPAREN,
   .LBRACKET, .RBRACKET, .QUESTION, .COLON, .COMMA, .DOT, .SEMI, .TRUE, .FALSE, .NIL, .IN, .IF, .ELSE, .ELSE_IF,
   .END, .FOR, .USE, .EACH, .BREAK_IF, .CONTINUE_IF, .INSERT, .RESERVE, .BREAK, .CONTINUE, .COMPONENT, .SLOT, .DUMP]

theorem tokenTypes_ok : Gen.tokenTypes = allTT.map TT.name := by decide +kernel

/-- F4: `token.String` has a name for every token type (an index past the table would panic) and
    the names are the ones the model prints in "unexpected token" errors -/
theorem tokenNames_total : allTT.all (fun t => (Gen.tokenNames.find? fun p => p.1 == t).map (·.2) == some (tokenString t)) = true := by
  decide +kernel

def levelOf (name : String) : Nat := ((Gen.levels.find? fun p => p.1 == name).map (·.2)).getD 0

/-- F1: the level constants have the values the model uses (and hence the stated order
    ternary < equality < comparison < additive < multiplicative < member < prefix < call < index < postfix) -/
theorem levels_ok :
    Gen.levels = [("LOWEST", LOWEST), ("TERNARY", TERNARY), ("EQ", EQL), ("LESS_GREATER", LESS_GREATER), ("SUM", SUM),
      ("PRODUCT", PRODUCT), ("MEMBER_ACCESS", MEMBER_ACCESS), ("PREFIX", PREFIX), ("CALL", CALL), ("INDEX", INDEX),
      ("POSTFIX", POSTFIX)] := rfl

/-- F1: `parser.precedences` gives every token type the level the model's `precedence` gives it -/
theorem precedences_ok :
    allTT.all (fun t =>
      match Gen.precedences.find? fun p => p.1 == t with
      | some (_, lv) => levelOf lv == precedence t
      | none => precedence t == LOWEST) = true := by decide +kernel

/-- F2: the registered prefix parse functions are those the model dispatches on -/
theorem prefixFns_ok :
    Gen.prefixFns = [(.FALSE, "parseBooleanLiteral"), (.FLOAT, "parseFloatLiteral"), (.IDENT, "parseIdentifier"),
      (.INT, "parseIntegerLiteral"), (.LBRACE, "parseObjectLiteral"), (.LBRACKET, "parseArrayLiteral"),
      (.LPAREN, "parseGroupedExpression"), (.NIL, "parseNilLiteral"), (.NOT, "parsePrefixExp"), (.STR, "parseStringLiteral"),
      (.SUB, "parsePrefixExp"), (.TRUE, "parseBooleanLiteral")] := rfl

/-- F2: the registered infix parse functions agree with the model's `hasInfix` / `isBinaryOp` -/
theorem infixFns_ok :
    allTT.all (fun t =>
      match Gen.infixFns.find? fun p => p.1 == t with
      | some (_, f) =>
        hasInfix t && (isBinaryOp t == (f == "parseInfixExp")) &&
          ((t == .QUESTION) == (f == "parseTernaryExp")) && ((t == .LBRACKET) == (f == "parseIndexExp")) &&
          ((t == .INC || t == .DEC) == (f == "parsePostfixExp")) && ((t == .DOT) == (f == "parseDotExp"))
      | none => !hasInfix t) = true := by decide +kernel

/-- F3: the binding power passed at every `parseExpression` call site: the right operand of a binary
    operator at the operator's own level (`precedence := p.curPrecedence()`), the operand of a
    prefix operator at PREFIX, the then-part of a ternary at TERNARY, everything else at LOWEST -/
theorem parseExpressionCalls_ok :
    Gen.parseExpressionCalls =
      [("parseAssignStmt", "LOWEST"), ("parseBreakIfStmt", "LOWEST"), ("parseComponentStmt", "LOWEST"),
       ("parseContinueIfStmt", "LOWEST"), ("parseEachStmt", "LOWEST"), ("parseElseIfStmt", "LOWEST"),
       ("parseExpressionList", "LOWEST"), ("parseExpressionList", "LOWEST"), ("parseExpressionStmt", "LOWEST"),
       ("parseForStmt", "LOWEST"), ("parseGroupedExpression", "LOWEST"), ("parseIfStmt", "LOWEST"),
       ("parseIndexExp", "LOWEST"), ("parseInfixExp", "precedence"), ("parseInsertStmt", "LOWEST"),
       ("parseObjectLiteral", "LOWEST"), ("parseObjectLiteral", "LOWEST"), ("parsePrefixExp", "PREFIX"),
       ("parseTernaryExp", "LOWEST"), ("parseTernaryExp", "TERNARY")] := rfl

def typeConst : VType → String
  | .STRING => "STR_OBJ" | .ARRAY => "ARR_OBJ" | .FLOAT => "FLOAT_OBJ" | .INTEGER => "INT_OBJ" | .BOOLEAN => "BOOL_OBJ"
  | .NIL => "NIL_OBJ" | .OBJECT => "OBJ_OBJ"

/-- F6: `evaluator.functions` has, for every receiver type, the names of `builtinNames` -/
theorem builtins_ok :
    [VType.STRING, .ARRAY, .FLOAT, .INTEGER, .BOOLEAN, .NIL, .OBJECT].all (fun ty =>
      ((Gen.builtins.find? fun p => p.1 == typeConst ty).map (·.2)).getD [] == builtinNames ty) = true := by decide +kernel

/-- every name in the table is implemented by the model's dispatcher (on a probe receiver) -/
theorem builtins_dispatch :
    (builtinNames .STRING).all (fun n => (strBuiltin (b n) [] []).isSome) &&
    (builtinNames .ARRAY).all (fun n => (arrBuiltin (b n) [] []).isSome) &&
    (builtinNames .FLOAT).all (fun n => (floatBuiltin (b n) 0.0).isSome) &&
    (builtinNames .INTEGER).all (fun n => (intBuiltin (b n) 0 []).isSome) &&
    (builtinNames .BOOLEAN).all (fun n => (boolBuiltin (b n) true []).isSome) = true := by decide +kernel

def usedCodes : List String :=
  ["ErrEmptyBraces", "ErrWrongNextToken", "ErrExpectedExpression", "ErrCouldNotParseAs", "ErrNoPrefixParseFunc",
   "ErrIllegalToken", "ErrUnexpectedEOF", "ErrElseifCannotFollowElse", "ErrExpectedObjectLiteral", "ErrExpectedComponentName",
   "ErrDuplicateInserts", "ErrUndefinedInsert", "ErrUndefinedComponent", "ErrSlotNotDefined", "ErrDefaultSlotNotDefined",
   "ErrDuplicateSlotUsage", "ErrComponentMustHaveBlock", "ErrInsertMustHaveContent", "ErrIdentifierNotFound",
   "ErrIndexNotSupported", "ErrUnknownOperator", "ErrTypeMismatch", "ErrUnknownTypeForOperator", "ErrPrefixOperatorIsWrong",
   "ErrUseStmtMustHaveProgram", "ErrUseStmtNotAllowed", "ErrLoopVariableIsReserved", "ErrVariableTypeMismatch",
   "ErrDotOperatorNotSupported", "ErrPropertyNotFound", "ErrDivisionByZero", "ErrEachNotArray", "ErrNoFuncForThisType",
   "ErrFuncRequiresOneArg", "ErrFuncFirstArgInt", "ErrFuncFirstArgStr", "ErrFuncSecondArgInt", "ErrFuncSecondArgStr",
   "ErrFuncMaxArgs", "ErrFuncArgNegative", "ErrFuncResultTooLong", "ErrUnsupportedType", "ErrTemplateNotFound",
   "ErrFuncAlreadyDefined"]

/-- F7: every error constant the model raises has a format string in `fail/fail.go` -/
theorem errFormats_cover : usedCodes.all (fun c => (fmtLookup c).isSome) = true := by decide +kernel

/-- F8: `config.New` is called with four defaults -/
theorem configDefaults_ok : Gen.configDefaults.length = 4 := rfl

/-- F9: on the paths from String / Response / EvaluateString / EvaluateFile the only writes to
    package-level state are atomic stores of the mode flag (which no render reads: C16) -/
theorem renderPathWrites_ok :
    Gen.renderPathWrites.all (fun w => w.2.1 == "textwire.usesTemplates" && w.2.2 == "atomic") = true := by decide +kernel

/-- F9: all writes to package-level variables of the module -/
theorem stateWrites_ok :
    Gen.stateWrites.all (fun w =>
      [("textwire.Configure", "textwire.userConfig"), ("textwire.Configure", "textwire.usesTemplates"),
       ("textwire.EvaluateFile", "textwire.usesTemplates"), ("textwire.EvaluateString", "textwire.usesTemplates"),
       ("textwire.RegisterArrFunc", "textwire.customFunc"), ("textwire.RegisterBoolFunc", "textwire.customFunc"),
       ("textwire.RegisterFloatFunc", "textwire.customFunc"), ("textwire.RegisterIntFunc", "textwire.customFunc"),
       ("textwire.RegisterStrFunc", "textwire.customFunc")].contains (w.1, w.2.1)) = true := by decide +kernel

/-- F10: every `range` over a map in the sources, each either building another map / a key list
    that is sorted before use, or order-insensitive:
    * `ObjectLiteral.String` (AST printing, not on any render path)
    * `Program.ApplyInserts` over the layout's reserves (assigns `reserve.Insert`, commutative)
    * `checkUndefinedInsert`, `evaluator.sortedKeys`, `EnvFromMap`, `Obj.sortedKeys`, `parsePrograms` (collect keys, then `sort.Strings`)
    * `Obj.Val` (builds a map), `token.LongestDirective` (a maximum) -/
def expectedMapRanges : List (String × String) :=
  [("ast.ObjectLiteral.String", "ol.Pairs"), ("ast.Program.ApplyInserts", "p.Reserves"),
   ("ast.Program.checkUndefinedInsert", "inserts"), ("evaluator.sortedKeys", "pairs"), ("object.EnvFromMap", "data"),
   ("object.Obj.Val", "o.Pairs"), ("object.Obj.sortedKeys", "o.Pairs"), ("textwire.parsePrograms", "paths"),
   ("token.LongestDirective", "directives")]

theorem mapRanges_ok : Gen.mapRanges.all (expectedMapRanges.contains ·) = true := by decide +kernel

/-- F12: the package-level variables of the module.  Rendering state can only live in one of them,
    in a struct field (F13) or in a closure: a variable that appears here (a cache, a pool, a
    counter) is new state that the model does not have. -/
def expectedPackageVars : List (String × String) := [
  ("evaluator.BREAK", "= &object.Break{}"),
  ("evaluator.CONTINUE", "= &object.Continue{}"),
  ("evaluator.FALSE", "= &object.Bool{Value: false}"),
  ("evaluator.NIL", "= &object.Nil{}"),
  ("evaluator.TRUE", "= &object.Bool{Value: true}"),
  ("evaluator.functions", "= map[object.ObjectType]map[string]*object.Builtin{ object.S"),
  ("lexer.simpleTokens", "= map[byte]token.TokenType{ '*': token.MUL, '?': token.QUEST"),
  ("lexer.tokensWithOptionalParens", "= map[token.TokenType]bool{ token.SLOT: true, }"),
  ("lexer.tokensWithoutParens", "= map[token.TokenType]bool{ token.ELSE: true, token.END: tru"),
  ("object.outputHTML", "= `<style> .textwire-dump { overflow-x: auto; overflow-y: hi"),
  ("parser.precedences", "= map[token.TokenType]int{ token.QUESTION: TERNARY, token.EQ"),
  ("textwire.customFunc", "= config.NewFunc()"),
  ("textwire.defaultErrorPage", "string"),
  ("textwire.userConfig", "= config.New(\"templates\", \".tw.html\", \"\", false)"),
  ("textwire.usesTemplates", "atomic.Bool"),
  ("token.directives", "= map[string]TokenType{ \"@if\": IF, \"@else\": ELSE, \"@elseif\":"),
  ("token.keywords", "= map[string]TokenType{ \"true\": TRUE, \"false\": FALSE, \"nil\":"),
  ("token.tokens", "= [...]string{ ILLEGAL: \"ILLEGAL\", EOF: \"EOF\", IDENT: \"IDENT")]

theorem packageVars_ok : Gen.packageVars = expectedPackageVars := rfl

/-- F13: the fields of every struct type of the module (the lexer, the parser, the evaluator, the
    template, the environment, every tree node and every value): a new field is new state -/
def expectedStructFields : List (String × List String) := [
  ("ast.ArrayLiteral", ["Token token.Token", "Elements []Expression", "Pos token.Position"]),
  ("ast.AssignStmt", ["Token token.Token", "Name *Identifier", "Value Expression", "Pos token.Position"]),
  ("ast.BlockStmt", ["Token token.Token", "Statements []Statement", "Pos token.Position"]),
  ("ast.BooleanLiteral", ["Token token.Token", "Value bool", "Pos token.Position"]),
  ("ast.BreakIfStmt", ["Token token.Token", "Condition Expression", "Pos token.Position"]),
  ("ast.BreakStmt", ["Token token.Token", "Pos token.Position"]),
  ("ast.CallExp", ["Token token.Token", "Receiver Expression", "Function *Identifier", "Arguments []Expression", "Pos token.Position"]),
  ("ast.ComponentStmt", ["Token token.Token", "Name *StringLiteral", "Argument *ObjectLiteral", "Block *Program", "Slots []*SlotStmt", "Pos token.Position"]),
  ("ast.ContinueIfStmt", ["Token token.Token", "Condition Expression", "Pos token.Position"]),
  ("ast.ContinueStmt", ["Token token.Token", "Pos token.Position"]),
  ("ast.DotExp", ["Token token.Token", "Left Expression", "Key Expression", "Pos token.Position"]),
  ("ast.DumpStmt", ["Token token.Token", "Arguments []Expression", "Pos token.Position"]),
  ("ast.EachStmt", ["Token token.Token", "Var *Identifier", "Array Expression", "Alternative *BlockStmt", "Block *BlockStmt", "Pos token.Position"]),
  ("ast.ElseIfStmt", ["Token token.Token", "Condition Expression", "Consequence *BlockStmt", "Pos token.Position"]),
  ("ast.ExpressionStmt", ["Token token.Token", "Expression Expression", "Pos token.Position"]),
  ("ast.FloatLiteral", ["Token token.Token", "Value float64", "Pos token.Position"]),
  ("ast.ForStmt", ["Token token.Token", "Init Statement", "Condition Expression", "Post Statement", "Alternative *BlockStmt", "Block *BlockStmt", "Pos token.Position"]),
  ("ast.HTMLStmt", ["Token token.Token", "Pos token.Position"]),
  ("ast.Identifier", ["Token token.Token", "Value string", "Pos token.Position"]),
  ("ast.IfStmt", ["Token token.Token", "Condition Expression", "Consequence *BlockStmt", "Alternative *BlockStmt", "Alternatives []*ElseIfStmt", "Pos token.Position"]),
  ("ast.IndexExp", ["Token token.Token", "Left Expression", "Index Expression", "Pos token.Position"]),
  ("ast.InfixExp", ["Token token.Token", "Operator string", "Left Expression", "Right Expression", "Pos token.Position"]),
  ("ast.InsertStmt", ["Token token.Token", "Name *StringLiteral", "Argument Expression", "Block *BlockStmt", "FilePath string", "Pos token.Position"]),
  ("ast.IntegerLiteral", ["Token token.Token", "Value int64", "Pos token.Position"]),
  ("ast.NilLiteral", ["Token token.Token", "Pos token.Position"]),
  ("ast.ObjectLiteral", ["Token token.Token", "Pairs map[string]Expression", "Pos token.Position"]),
  ("ast.PostfixExp", ["Token token.Token", "Operator string", "Left Expression", "Pos token.Position"]),
  ("ast.PrefixExp", ["Token token.Token", "Operator string", "Right Expression", "Pos token.Position"]),
  ("ast.Program", ["Token token.Token", "IsLayout bool", "UseStmt *UseStmt", "Statements []Statement", "Components []*ComponentStmt", "Reserves map[string]*ReserveStmt", "Inserts map[string]*InsertStmt", "Pos token.Position"]),
  ("ast.ReserveStmt", ["Token token.Token", "Insert *InsertStmt", "Name *StringLiteral", "Pos token.Position"]),
  ("ast.SlotStmt", ["Token token.Token", "Name *StringLiteral", "Body *BlockStmt", "Pos token.Position"]),
  ("ast.StringLiteral", ["Token token.Token", "Value string", "Pos token.Position"]),
  ("ast.TernaryExp", ["Token token.Token", "Condition Expression", "Consequence Expression", "Alternative Expression", "Pos token.Position"]),
  ("ast.UseStmt", ["Token token.Token", "Name *StringLiteral", "Program *Program", "Pos token.Position"]),
  ("config.Config", ["TemplateDir string", "TemplateExt string", "ErrorPagePath string", "DebugMode bool"]),
  ("config.Func", ["Str map[string]StrCustomFunc", "Arr map[string]ArrayCustomFunc", "Int map[string]IntCustomFunc", "Float map[string]FloatCustomFunc", "Bool map[string]BoolCustomFunc"]),
  ("ctx.EvalCtx", ["AbsPath string", "CustomFunc *config.Func", "Config *config.Config"]),
  ("evaluator.Evaluator", ["ctx *ctx.EvalCtx"]),
  ("fail.Error", ["message string", "line uint", "filepath string", "origin string"]),
  ("lexer.Lexer", ["input string", "pos int", "readPos int", "char byte", "col uint", "prevCol uint", "startCol uint", "shouldResetCol bool", "line uint", "prevLine uint", "startLine uint", "isHTML bool", "isDirective bool", "countDirectiveParentheses int", "countCurlyBraces int"]),
  ("object.Array", ["Elements []Object"]),
  ("object.Block", ["Elements []Object"]),
  ("object.Bool", ["Value bool"]),
  ("object.Break", []),
  ("object.Builtin", ["Fn BuiltinFunction"]),
  ("object.Component", ["Name string", "Content Object"]),
  ("object.Continue", []),
  ("object.Dump", ["Values []string"]),
  ("object.Env", ["store map[string]Object", "outer *Env"]),
  ("object.Error", ["Err *fail.Error"]),
  ("object.Float", ["Value float64"]),
  ("object.HTML", ["Value string"]),
  ("object.Int", ["Value int64"]),
  ("object.Nil", []),
  ("object.Obj", ["Pairs map[string]Object"]),
  ("object.Reserve", ["Name string", "Content Object", "Argument Object"]),
  ("object.Slot", ["Name string", "Content Object"]),
  ("object.Str", ["Value string"]),
  ("object.Use", ["Path string", "Content Object"]),
  ("parser.Parser", ["l *lexer.Lexer", "errors []*fail.Error", "filepath string", "curToken token.Token", "peekToken token.Token", "unreadToken *token.Token", "prefixParseFns map[token.TokenType]prefixParseFn", "infixParseFns map[token.TokenType]infixParseFn", "useStmt *ast.UseStmt", "components []*ast.ComponentStmt", "inserts map[string]*ast.InsertStmt", "reserves map[string]*ast.ReserveStmt"]),
  ("textwire.Template", ["programs map[string]*ast.Program"]),
  ("token.Position", ["StartLine uint", "StartCol uint", "EndLine uint", "EndCol uint"]),
  ("token.Token", ["Type TokenType", "Literal string", "Pos Position"])]

theorem structFields_ok : Gen.structFields = expectedStructFields := rfl

end Tw.FactsOk
