/-
  TwProofs.C07 — each `@component` use renders the component file with its own arguments and slots.

  In the model every use written in a page has its own allocation number `cid`; the loader
  (`applyComponents`, transcription of applyComponentToProgram / Program.ApplyComponent, which build
  one program per use) attaches to each number the statements of the component file with that
  use's slot bodies filled in.  Theorems: the program attached to a use is a function of that
  use alone; evaluation binds the arguments in a new innermost scope (the surrounding variables
  stay visible) and hands the caller's environment back; slot placeholders render the passed
  body or nothing; the load-time errors.  And from the bytes of the page and of the component
  files, lexer, parser and loader included: `component_page_renders_from_the_sources`.
-/
import TwModel
import TwProofs.Lemmas.EvalStep
import TwProofs.Lemmas.LoadWhole
import TwProofs.Lemmas.TextComp

namespace Tw.C07
open Tw

/-- a use renders its own program (looked up by the use's allocation number) with the
    arguments — evaluated at the place of use, in alphabetical key order — bound in a new scope on
    top of the caller's environment, and gives the caller's environment back -/
theorem component_renders_its_program (f : Nat) (c : Ctx) (env : Env) (t : Token) (name : Bytes) (cid : Nat)
    (pairs : List (Bytes × Expr)) (prog : List Stmt) (hp : lookupNat c.comps cid = some prog) :
    evalStmt (f + 1) c env (.component t name (some pairs) cid) =
      (evalPairs f c env (sortByKey pairs)).bind fun kvs =>
      (bindArgs env.push kvs t.errorLine).bind fun env1 =>
      (evalProg f c env1 prog []).bind fun r => .ok ({ text := r.1 }, env) := by
  rw [evalStmt_succ]
  simp only [stmtBody, hp, calleesAt_pairs, calleesAt_prog]

theorem component_without_arguments (f : Nat) (c : Ctx) (env : Env) (t : Token) (name : Bytes) (cid : Nat)
    (prog : List Stmt) (hp : lookupNat c.comps cid = some prog) :
    evalStmt (f + 1) c env (.component t name none cid) =
      (evalProg f c env.push prog []).bind fun r => .ok ({ text := r.1 }, env) := by
  rw [evalStmt_succ]
  simp only [stmtBody, hp, calleesAt_prog, Res.bind_ok, bindArgs]

/-- arguments go into the new innermost scope only … -/
theorem bindArgs_shape : ∀ (kvs : List (Bytes × Val)) (s : List (Bytes × Val)) (outer : Env) (line : Nat) (env1 : Env),
    bindArgs (s :: outer) kvs line = .ok env1 → ∃ s', env1 = s' :: outer
  | [], s, outer, _, env1, h => by simp [bindArgs] at h; exact ⟨s, h.symm⟩
  | (k, v) :: r, s, outer, line, env1, h => by
    unfold bindArgs at h
    split at h
    · rename_i env' hset
      rw [Env.set_ok_eq hset] at h
      exact bindArgs_shape r _ outer line env1 h
    · cases h

/-- the environment inside a use is one new scope `s'` on top of the caller's, so every variable of the
    place of use that `s'` does not bind is still visible inside (that `s'` binds the argument names
    and nothing else is not part of the statement) -/
theorem surrounding_variables_visible (kvs : List (Bytes × Val)) (env env1 : Env) (line : Nat) (x : Bytes)
    (h : bindArgs env.push kvs line = .ok env1) :
    ∃ s', env1 = s' :: env ∧ (mapGet s' x = none → env1.get x = env.get x) := by
  obtain ⟨s', hs'⟩ := bindArgs_shape kvs [] env line env1 h
  refine ⟨s', hs', fun hn => ?_⟩
  rw [hs']
  simp [Env.get, hn]

/-- a placeholder whose body was passed renders that body; one that got none renders nothing -/
theorem filled_slot_renders_body (f : Nat) (c : Ctx) (env : Env) (t : Token) (n : Bytes) (blk : List Stmt) :
    evalStmt (f + 1) c env (.slot t n (some blk)) = (evalBlock f c env blk).bind fun r => .ok ({ text := r.1.text }, r.2) := by
  rw [evalStmt_succ]
  simp only [stmtBody, calleesAt_block]

theorem empty_slot_renders_nothing (f : Nat) (c : Ctx) (env : Env) (t : Token) (n : Bytes) :
    evalStmt (f + 1) c env (.slot t n none) = .ok ({}, env) := rfl

/-- `fillSlot` gives the body to the first top-level placeholder of that name and changes nothing else -/
theorem fillSlot_fills_first (pre post : List Stmt) (t : Token) (n : Bytes) (bd : Option (List Stmt)) (body : List Stmt)
    (hpre : ∀ s ∈ pre, ∀ t' n' bd', s = Stmt.slot t' n' bd' → n' ≠ n) :
    fillSlot (pre ++ .slot t n bd :: post) n body = some (pre ++ .slot t n (some body) :: post) := by
  induction pre with
  | nil => simp [fillSlot]
  | cons s r ih =>
    have ih' := ih (fun s' hs' => hpre s' (List.mem_cons_of_mem _ hs'))
    cases s with
    | slot t' n' bd' =>
      have hne : (n' == n) = false := by simpa using hpre _ List.mem_cons_self t' n' bd' rfl
      simp only [List.cons_append, fillSlot, hne, Bool.false_eq_true, if_false, ih', Option.map_some]
    | _ => simp only [List.cons_append, fillSlot, ih', Option.map_some]

/-- **the uses of a component are independent**: the loader attaches to every use — in order, under the use's own number — the
    program computed from that use alone; nothing of one use (its slot bodies, its arguments)
    enters the program of another, also when they name the same component file -/
theorem applyComponents_is_per_use (fs : Fs) (c : Cfg) (path : Bytes) (uses : List CompUse) (out : List (Nat × List Stmt))
    (h : applyComponents fs c uses path = .ok out) :
    ∃ progs : List (List Stmt), progs.length = uses.length ∧
      out = (uses.zip progs).map (fun x => (x.1.cid, x.2)) ∧
      ∀ i (hi : i < uses.length) (hj : i < progs.length), programOf fs c path uses[i] = .ok progs[i] := by
  rw [applyComponents_eq] at h
  simpa using foldlM_collect_eq_ok _ (fun (u : CompUse) s => (u.cid, s)) uses [] out h

/-- a slot the component does not declare -/
theorem undeclared_slot_is_reported (use : CompUse) (comp : Program) (path : Bytes) (sl : SlotUse)
    (hdup : findDuplicateSlot use.slots = none) (hone : use.slots = [sl]) (hmiss : fillSlot comp.stmts sl.name sl.body = none)
    (hname : sl.name.isEmpty = false) :
    applyComponent use comp path = .error (failOf "ErrSlotNotDefined" comp.tok.errorLine [sl.name, use.name] path) := by
  unfold applyComponent
  rw [hdup, hone]
  simp [List.foldlM, hmiss, hname, bind, Except.bind]

/-- a slot passed twice -/
theorem duplicate_slot_is_reported (use : CompUse) (comp : Program) (path : Bytes) (dn : Bytes) (times : Nat)
    (hdup : findDuplicateSlot use.slots = some (dn, times)) :
    applyComponent use comp path =
      .error (failOf "ErrDuplicateSlotUsage" comp.tok.errorLine [dn, natToBytes times, use.name] path) := by
  unfold applyComponent
  rw [hdup]

/-- a missing component file, naming the component -/
theorem missing_component_is_reported (fs : Fs) (c : Cfg) (path : Bytes) (use : CompUse)
    (h : readFile fs (templatePath c use.name) = .notExist) :
    programOf fs c path use = .error (failOf "ErrUndefinedComponent" use.tok.errorLine [use.name] path) := by
  unfold programOf
  rw [h]

/-- `~name` means `components/name` -/
theorem tilde_means_components (p : PS) (rest : Bytes) (h : p.cur.lit = 126 :: rest) :
    (aliasPath p "components").1 = b "components" ++ [47] ++ rest := by
  unfold aliasPath
  simp [h]

def prender (comp : Bytes → List VItem) (env : Env) : List PItem → Bytes
  | [] => []
  | .text segs :: r => segsLit segs ++ prender comp env r
  | .use u :: r => fill ([(u.k, .str (literalValue u.v))] :: env) (vpieces (comp (compName u.n))) ++ prender comp env r

def prenderS (comp : Bytes → List VItem) (env : Env) : List PSpec → Bytes
  | [] => []
  | .text t :: r => t ++ prenderS comp env r
  | .use name k v _ :: r => fill ([(k, .str (literalValue v))] :: env) (vpieces (comp name)) ++ prenderS comp env r

theorem prenderS_pspec (comp : Bytes → List VItem) (env : Env) : ∀ (items : List PItem) (base : Nat),
    prenderS comp env (pspec base items) = prender comp env items
  | [], _ => rfl
  | .text segs :: r, base => by simp [pspec, prenderS, prender, prenderS_pspec comp env r base]
  | .use u :: r, base => by simp [pspec, prenderS, prender, prenderS_pspec comp env r (base + 1)]

/-- what every use needs of the environment: its argument name is not `loop`, does not clash with a
    visible name of another type, and the names the component file prints are the argument or visible -/
def UsesFit (comp : Bytes → List VItem) (env : Env) : List PSpec → Prop
  | [] => True
  | .text _ :: r => UsesFit comp env r
  | .use name k v _ :: r =>
    (k == b "loop") = false ∧ (∀ old, env.get k = some old → old.type = .STRING) ∧
      holesBound ([(k, .str (literalValue v))] :: env) (vpieces (comp name)) ∧ UsesFit comp env r

/-- the table of component programs the loader built, as far as the evaluator looks at it -/
def CompsFit (comp : Bytes → List VItem) (tbl : List (Nat × List Stmt)) (specs : List PSpec) : Prop :=
  ∀ name k v cid, PSpec.use name k v cid ∈ specs →
    ∃ stmts, lookupNat tbl cid = some stmts ∧ simpleBlock stmts = true ∧ piecesOf stmts = vpieces (comp name)

/-- evaluation fuel that suffices: per statement one for the step through the list; a use needs the `+ 4` of `use_renders` and one
    for the statement -/
def pneed (comp : Bytes → List VItem) : List PSpec → Nat
  | [] => 1
  | .text _ :: r => 1 + max 1 (pneed comp r)
  | .use name _ _ _ :: r => 1 + max ((vpieces (comp name)).length + 5) (pneed comp r)

theorem use_renders (comp : Bytes → List VItem) (f : Nat) (c : Ctx) (env : Env) (t tv : Token) (name k v : Bytes) (cid : Nat)
    (stmts : List Stmt) (hl : lookupNat c.comps cid = some stmts) (hsb : simpleBlock stmts = true)
    (hpc : piecesOf stmts = vpieces (comp name)) (hk : (k == b "loop") = false)
    (hty : ∀ old, env.get k = some old → old.type = .STRING)
    (hb : holesBound ([(k, .str (literalValue v))] :: env) (vpieces (comp name)))
    (hf : (vpieces (comp name)).length + 4 ≤ f) :
    evalStmt (f + 1) c env (.component t name (some [(k, .str tv v)]) cid) =
      .ok ({ text := fill ([(k, .str (literalValue v))] :: env) (vpieces (comp name)) }, env) := by
  rw [component_renders_its_program f c env t name cid [(k, .str tv v)] stmts hl]
  obtain ⟨g, rfl⟩ : ∃ g, f = g + 2 := ⟨f - 2, by omega⟩
  have hsort : sortByKey [(k, Expr.str tv v)] = [(k, Expr.str tv v)] := rfl
  have hpairs : evalPairs (g + 2) c env (sortByKey [(k, Expr.str tv v)]) = .ok [(k, .str (literalValue v))] := by
    rw [hsort]
    simp [evalPairs, evalExpr]
  rw [hpairs, Res.bind_ok]
  have hbind : bindArgs env.push [(k, .str (literalValue v))] t.errorLine = .ok ([(k, .str (literalValue v))] :: env) := by
    unfold bindArgs
    rw [Env.set_eq_ok (v := .str (literalValue v)) hk fun old ho => hty old (get_push env k ▸ ho)]
    rfl
  rw [hbind, Res.bind_ok]
  have hlen : stmts.length = (vpieces (comp name)).length := by rw [simple_length _ hsb, hpc]
  rw [evalProg_simple c _ stmts (g + 2) [] hsb (by rw [hpc]; exact hb) (by omega), Res.bind_ok, hpc]
  simp

theorem pspecOf_renders (comp : Bytes → List VItem) (c : Ctx) (env : Env) {st : Stmt} {sp : PSpec} (h : pspecOf st = some sp)
    (hb : CompsFit comp c.comps [sp] ∧ UsesFit comp env [sp]) : Renders c env st (prenderS comp env [sp]) (pneed comp [sp] - 1) := by
  unfold pspecOf at h
  split at h <;> cases h
  · exact fun f hf => by simpa [prenderS] using Renders.html c env _ f (by simp [pneed] at hf; omega)
  · rename_i t name k tv v cid
    obtain ⟨stmts, hl, hsb, hpc⟩ := hb.1 name k v cid (by simp)
    obtain ⟨hk, hty, hbd, _⟩ := hb.2
    intro f hf
    obtain ⟨g, rfl⟩ : ∃ g, f = g + 1 := ⟨f - 1, by simp [pneed] at hf; omega⟩
    simpa [prenderS] using use_renders comp g c env t tv name k v cid stmts hl hsb hpc hk hty hbd (by simp [pneed] at hf; omega)

theorem evalProg_pspec (comp : Bytes → List VItem) (c : Ctx) (env : Env) : ∀ (specs : List PSpec) (ss : List Stmt) (fuel : Nat) (acc : Bytes),
    ss.map pspecOf = specs.map some → CompsFit comp c.comps specs → UsesFit comp env specs → pneed comp specs ≤ fuel →
    evalProg fuel c env ss acc = .ok (acc ++ prenderS comp env specs, env) :=
  fun specs ss fuel acc hs hc hu hf =>
    (YieldsAll.of_specs (bound := fun l => CompsFit comp c.comps l ∧ UsesFit comp env l) rfl (fun sp r => by cases sp <;> simp [prenderS])
      (fun sp r h => ⟨⟨fun n k v cid hm => h.1 n k v cid (by simp at hm; simp [hm]), by cases sp <;> simp_all [UsesFit]⟩,
        fun n k v cid hm => h.1 n k v cid (List.mem_cons_of_mem _ hm), by cases sp <;> simp_all [UsesFit]⟩)
      (by simp [pneed]) (fun sp r => by cases sp <;> simp [pneed] <;> omega) (fun st sp => pspecOf_renders comp c env)
      specs ss hs ⟨hc, hu⟩).evalProg fuel acc hf

def FilesFit (fs : Fs) (c : Cfg) (comp : Bytes → List VItem) (uses : List CompUse) : Prop :=
  ∀ u ∈ uses, u.slots = [] ∧ readFile fs (templatePath c u.name) = .ok (vitemsSrc (comp u.name)) ∧ VItemsOK (comp u.name)

theorem programOf_simple (fs : Fs) (c : Cfg) (comp : Bytes → List VItem) (path : Bytes) (u : CompUse) (hs : u.slots = [])
    (hr : readFile fs (templatePath c u.name) = .ok (vitemsSrc (comp u.name))) (hok : VItemsOK (comp u.name)) :
    ∃ stmts, programOf fs c path u = .ok stmts ∧ simpleBlock stmts = true ∧ piecesOf stmts = vpieces (comp u.name) := by
  obtain ⟨prog, hp, h1, h2⟩ := parse_vitems_base (comp u.name) hok compBase
  refine ⟨prog.stmts, ?_, h1, h2⟩
  unfold programOf
  rw [hr]
  simp only []
  have hpf : parseFile fs (templatePath c u.name) compBase = .ok prog := parseFile_ok_iff.mpr ⟨_, hr, hp⟩
  rw [hpf]
  simp only []
  unfold applyComponent
  rw [hs]
  simp [findDuplicateSlot, List.foldlM, pure, Except.pure]

theorem applyComponents_simple (fs : Fs) (c : Cfg) (comp : Bytes → List VItem) (path : Bytes) (uses : List CompUse)
    (hfit : FilesFit fs c comp uses) :
    ∃ out, applyComponents fs c uses path = .ok out ∧ out.map Prod.fst = uses.map CompUse.cid ∧
      ∀ o ∈ out, ∃ u ∈ uses, o.1 = u.cid ∧ simpleBlock o.2 = true ∧ piecesOf o.2 = vpieces (comp u.name) := by
  have hall : ∀ u ∈ uses, ∃ stmts, programOf fs c path u = .ok stmts ∧ simpleBlock stmts = true ∧ piecesOf stmts = vpieces (comp u.name) :=
    fun u hu => programOf_simple fs c comp path u (hfit u hu).1 (hfit u hu).2.1 (hfit u hu).2.2
  obtain ⟨out, hout⟩ : ∃ out, applyComponents fs c uses path = .ok out := by
    rw [applyComponents_eq]
    exact foldlM_collect_ok _ _ uses [] (fun u hu => (hall u hu).imp fun _ h => h.1)
  obtain ⟨progs, hlen, rfl, _⟩ := applyComponents_is_per_use fs c path uses _ hout
  refine ⟨_, hout, ?_, fun o ho => ?_⟩
  · rw [List.map_map, show Prod.fst ∘ (fun x : CompUse × List Stmt => (x.1.cid, x.2)) = CompUse.cid ∘ Prod.fst from rfl, ← List.map_map,
      List.map_fst_zip (by omega)]
  obtain ⟨u, hu, ho1, hp⟩ := applyComponents_mem hout o ho
  obtain ⟨stmts, hs, h1, h2⟩ := hall u hu
  rw [hp] at hs
  cases hs
  exact ⟨u, hu, ho1, h1, h2⟩

def usedName : PItem → Option Bytes
  | .use u => some (compName u.n)
  | .text _ => none

theorem usesOf_eq : ∀ (items : List PItem) (base : Nat), usesOf base items = (items.filterMap usedName).zipIdx base
  | [], _ => rfl
  | .text _ :: r, base => by rw [usesOf, usesOf_eq r base, List.filterMap_cons_none rfl]
  | .use u :: r, base => by rw [usesOf, usesOf_eq r (base + 1), List.filterMap_cons_some (f := usedName) rfl, List.zipIdx_cons]

theorem usesOf_unique : ∀ (items : List PItem) (base : Nat) (n1 n2 : Bytes) (cid : Nat),
    (n1, cid) ∈ usesOf base items → (n2, cid) ∈ usesOf base items → n1 = n2 := by
  intro items base n1 n2 cid h1 h2
  rw [usesOf_eq, List.mem_zipIdx_iff_le_and_getElem?_sub] at h1 h2
  exact Option.some.inj (h1.2.symm.trans h2.2)

theorem usesOf_mem (items : List PItem) (base : Nat) (x : Bytes × Nat) (h : x ∈ usesOf base items) :
    ∃ u, PItem.use u ∈ items ∧ x.1 = compName u.n := by
  rw [usesOf_eq] at h
  obtain ⟨it, hit, e⟩ := List.mem_filterMap.mp (List.fst_mem_of_mem_zipIdx h)
  cases it with
  | text _ => cases e
  | use u => exact ⟨u, hit, (Option.some.inj e).symm⟩

theorem pspec_uses : ∀ (items : List PItem) (base : Nat) (name k v : Bytes) (cid : Nat),
    PSpec.use name k v cid ∈ pspec base items → (name, cid) ∈ usesOf base items
  | [], _, _, _, _, _, h => by simp [pspec] at h
  | .text _ :: r, base, name, k, v, cid, h => by
    simp only [pspec, List.mem_cons] at h
    rcases h with h | h
    · cases h
    · simpa [usesOf] using pspec_uses r base name k v cid h
  | .use u :: r, base, name, k, v, cid, h => by
    simp only [pspec, List.mem_cons] at h
    rcases h with h | h
    · cases h; simp [usesOf]
    · simp only [usesOf, List.mem_cons]; exact Or.inr (pspec_uses r (base + 1) name k v cid h)

theorem lookupNat_of_fst {α} (l : List (Nat × α)) (k : Nat) (h : k ∈ l.map Prod.fst) :
    ∃ v, lookupNat l k = some v ∧ (k, v) ∈ l := by
  obtain ⟨x, hx, rfl⟩ := List.mem_map.mp h
  cases hf : l.find? (fun p => p.1 == x.1) with
  | none => exact absurd (List.find?_eq_none.mp hf x hx) (by simp)
  | some y =>
    have hy : y.1 = x.1 := by simpa using List.find?_some hf
    exact ⟨y.2, by simp [lookupNat, hf], hy ▸ List.mem_of_find?_eq_some hf⟩

/-- for every page file of text runs and uses `@component("name", { key: "text" })`
    (either quote, any white space inside the braces, no slots) and component files of text,
    comments and `{{ name }}` blocks found where the loader looks for them, the loader registers
    the page, and rendering it with data gives the page's text with, at each use, the component
    file's rendering under that use's OWN argument — bound to the escaped text in a new innermost
    scope on top of the data — whatever the other uses pass and also when several uses name the
    same file. -/
theorem component_page_renders_from_the_sources (fs : Fs) (c : Cfg) (p : Bytes) (items : List PItem) (comp : Bytes → List VItem)
    (hok : PItemsOK items) (hP : readFile fs p = .ok (compPageSrc items))
    (hfiles : ∀ u, PItem.use u ∈ items →
      readFile fs (templatePath c (compName u.n)) = .ok (vitemsSrc (comp (compName u.n))) ∧ VItemsOK (comp (compName u.n))) :
    ∃ pg, loadPage fs c p = .ok (some pg) ∧
      ∀ (w : World) (t : Template) (name : Bytes) (data : List (Bytes × GoVal)) (env : Env),
        mapGet t name = some pg → envFromMap data = .ok env → UsesFit comp env (pspec 0 items) →
        pneed comp (pspec 0 items) ≤ evalFuel → tplString w t name data = .ok (prender comp env items) := by
  obtain ⟨prog, hpp, huse, hres, hcomps, hslots, hstmts⟩ := parse_comp_page items hok
  have hpf : parseFile fs p 0 = .ok prog := parseFile_ok_iff.mpr ⟨_, hP, hpp⟩
  have huses : ∀ cu ∈ prog.components, (cu.name, cu.cid) ∈ usesOf 0 items := fun cu hcu =>
    hcomps ▸ List.mem_map_of_mem (f := fun cu => (cu.name, cu.cid)) hcu
  have hfit : FilesFit fs c comp prog.components := by
    intro cu hcu
    obtain ⟨u, hu, hn⟩ := usesOf_mem items 0 _ (huses cu hcu)
    simp only at hn
    rw [hn]
    exact ⟨hslots cu hcu, (hfiles u hu).1, (hfiles u hu).2⟩
  obtain ⟨out, hout, hfst, hprogs⟩ := applyComponents_simple fs c comp p prog.components hfit
  have hload : loadPage fs c p = .ok (some { stmts := prog.stmts, ctx := { comps := out } }) := by
    unfold loadPage
    rw [hpf]
    simp only [huse, hout, hres]
    rfl
  refine ⟨_, hload, ?_⟩
  intro w t name data env hpg hd hu hsz
  rw [tplString_registered hpg hd]
  have hcf : CompsFit comp out (pspec 0 items) := by
    intro n k v cid hm
    have hmu := pspec_uses items 0 n k v cid hm
    have hcid : cid ∈ out.map Prod.fst := by
      rw [hfst]
      have : cid ∈ (usesOf 0 items).map Prod.snd := List.mem_map.mpr ⟨(n, cid), hmu, rfl⟩
      rw [← hcomps] at this
      simpa [List.map_map] using this
    obtain ⟨stmts, hl, hmem⟩ := lookupNat_of_fst out cid hcid
    obtain ⟨cu, hcu, hc1, hc2, hc3⟩ := hprogs _ hmem
    have hm2 := huses cu hcu
    simp only at hc1
    rw [← hc1] at hm2
    have hname : cu.name = n := usesOf_unique items 0 cu.name n cid hm2 hmu
    exact ⟨stmts, hl, hc2, by rw [hc3, hname]⟩
  have hev := evalProg_pspec comp ({ comps := out, custom := w.custom } : Ctx) env (pspec 0 items) prog.stmts evalFuel [] hstmts hcf hu hsz
  rw [hev]
  simp [resToOut, prenderS_pspec]

section example_component
private def exItems : List PItem := [.text [.plain (b "<ul>")],
  .use ⟨34, b "~item", [32], [32], b "label", [32], 34, b "A & B", [32]⟩, .text [.plain (b "|")],
  .use ⟨39, b "~item", [], [], b "label", [], 39, b "c", []⟩, .text [.plain (b "</ul>")]]
private def exComp : Bytes → List VItem := fun _ =>
  [.text [.plain (b "<li>")], .print [32] (b "label") [32], .text [.plain (b " for ")], .print [] (b "who") [], .text [.plain (b "</li>")]]
private def exFs : Fs :=
  [ (b "templates", .dir), (b "templates/components", .dir),
    (b "templates/components/item.tw.html", .file (b "<li>{{ label }} for {{who}}</li>")),
    (b "templates/page.tw.html", .file (b "<ul>@component(\"~item\", { label: \"A & B\" })|@component('~item',{label:'c'})</ul>")) ]

private theorem exPage :
    compPageSrc exItems = b "<ul>@component(\"~item\", { label: \"A & B\" })|@component('~item',{label:'c'})</ul>" := by
  decide +kernel
private theorem exItem : vitemsSrc (exComp []) = b "<li>{{ label }} for {{who}}</li>" := by decide +kernel

example : compPageSrc exItems = b "<ul>@component(\"~item\", { label: \"A & B\" })|@component('~item',{label:'c'})</ul>" := exPage
example : vitemsSrc (exComp []) = b "<li>{{ label }} for {{who}}</li>" := exItem

/-- the hypotheses of the theorem hold for a concrete tree; two uses of one file, each with its own argument -/
example : ∃ pg, loadPage exFs defaultCfg (b "templates/page.tw.html") = .ok (some pg) ∧
    ∀ (w : World) (t : Template) (name : Bytes), mapGet t name = some pg →
      tplString w t name [(b "who", .str (b "me"))] = .ok (b "<ul><li>A &amp; B for me</li>|<li>c for me</li></ul>") := by
  have hitem : readFile exFs (templatePath defaultCfg (compName (b "~item"))) = .ok (vitemsSrc (exComp [])) ∧ VItemsOK (exComp []) :=
    ⟨by rw [exItem]; rfl, by decide +kernel⟩
  obtain ⟨pg, h1, h2⟩ := component_page_renders_from_the_sources exFs defaultCfg (b "templates/page.tw.html") exItems exComp
    (by decide +kernel) (by rw [exPage]; rfl)
    (by
      intro u hu
      simp only [exItems, List.mem_cons, PItem.use.injEq, List.not_mem_nil, or_false, reduceCtorEq, false_or] at hu
      rcases hu with rfl | rfl <;> exact hitem)
  refine ⟨pg, h1, ?_⟩
  intro w t name hpg
  have hnone : Env.get [[(b "who", Val.str (b "me"))]] (b "label") = none := by decide +kernel
  have hfit : UsesFit exComp [[(b "who", .str (b "me"))]] (pspec 0 exItems) :=
    ⟨by decide +kernel, fun old h => (by rw [show Env.get _ _ = none from hnone] at h; cases h), by decide +kernel, by decide +kernel,
      fun old h => (by rw [show Env.get _ _ = none from hnone] at h; cases h), by decide +kernel, trivial⟩
  have := h2 w t name [(b "who", .str (b "me"))] [[(b "who", .str (b "me"))]] hpg (by rfl) hfit (by decide +kernel)
  have hr : prender exComp [[(b "who", .str (b "me"))]] exItems = b "<ul><li>A &amp; B for me</li>|<li>c for me</li></ul>" := by
    decide +kernel
  rw [hr] at this
  exact this
end example_component

def demoFs : Fs :=
  [ (b "templates", .dir), (b "templates/components", .dir),
    (b "templates/components/card.tw.html", .file (b "[{{ title }}:@slot|@slot(\"foot\")]")),
    (b "templates/page.tw.html", .file (b "{{ x = 5 }}@component(\"~card\", { title: \"A\" })@slot one @end@end@component(\"~card\", { title: \"B\" })@end@each(n in [1, 2])@component(\"~card\", { title: n + x })@slot(\"foot\")f{{ n }}@end@end@end")) ]

example :
    (match newTemplate { fs := demoFs } none with
      | (w, .ok t) =>
        (match tplString w t (b "page") [] with
          | .ok out => out == b "[A: one |][B:|][6:|f1][7:|f2]"
          | _ => false)
      | _ => false) = true := by decide +kernel

end Tw.C07
