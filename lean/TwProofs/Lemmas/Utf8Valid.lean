/-
  TwProofs.Lemmas.Utf8Valid — UTF-8 through one relation, `Lead s v w`: the bytes `s` are a well-formed character, for the
  rune `v`, of width `w`.  The decoder is taken apart once (`lead_or_error`: `decodeRune` answers U+FFFD of width 1 or the
  string begins with a `Lead`; `decodeRune_lead`: on a `Lead` it answers that rune and width) and the encoder once
  (`lead_encode`).  `Valid`, a sequence of `Lead`s, is what `validUtf8` (`utf8.ValidString`) decides (`validUtf8_iff`).
  That `string(runes)` is valid, that decoding inverts encoding, and that valid strings stay valid under `++` and under
  dropping their first character (C11) follow without looking at a byte again.
-/
import TwModel.Utf8
namespace Tw

/-- what `string(rune)` followed by `[]rune(...)` gives back: the rune itself, or U+FFFD for a
    surrogate or a value beyond U+10FFFF -/
def normRune (r : Nat) : Nat := if (0xD800 ≤ r && r ≤ 0xDFFF) || r > 0x10FFFF then 0xFFFD else r

theorem decide_and_decide {a c : Prop} [Decidable a] [Decidable c] (h1 : a) (h2 : c) : (decide a && decide c) = true := by simp [h1, h2]

theorem isCont_of {x : Nat} (h1 : 128 ≤ x) (h2 : x ≤ 191) : isCont x = true := by
  simp only [isCont, Bool.and_eq_true, decide_eq_true_eq]; exact ⟨h1, h2⟩

inductive Lead : Bytes → Rune → Nat → Prop
  | one (c : Nat) : c < 0x80 → Lead [c] c 1
  | two (c c1 v : Nat) : 0xC2 ≤ c → c ≤ 0xDF → isCont c1 = true → v = (c - 0xC0) * 64 + (c1 - 0x80) → Lead [c, c1] v 2
  | three (c c1 c2 v : Nat) : 0xE0 ≤ c → c ≤ 0xEF →
      (if c == 0xE0 then 0xA0 else 0x80) ≤ c1 → c1 ≤ (if c == 0xED then 0x9F else 0xBF) → isCont c2 = true →
      v = (c - 0xE0) * 4096 + (c1 - 0x80) * 64 + (c2 - 0x80) → Lead [c, c1, c2] v 3
  | four (c c1 c2 c3 v : Nat) : 0xF0 ≤ c → c ≤ 0xF4 →
      (if c == 0xF0 then 0x90 else 0x80) ≤ c1 → c1 ≤ (if c == 0xF4 then 0x8F else 0xBF) → isCont c2 = true → isCont c3 = true →
      v = (c - 0xF0) * 262144 + (c1 - 0x80) * 4096 + (c2 - 0x80) * 64 + (c3 - 0x80) → Lead [c, c1, c2, c3] v 4

theorem Lead.length_eq {s : Bytes} {v : Rune} {w : Nat} (h : Lead s v w) : w = s.length := by
  cases h <;> rfl

theorem Lead.pos {s : Bytes} {v : Rune} {w : Nat} (h : Lead s v w) : 1 ≤ w := by
  cases h <;> omega

theorem Lead.take {s : Bytes} {v : Rune} {w : Nat} (h : Lead s v w) (x : Bytes) : (s ++ x).take w = s := by
  rw [h.length_eq, List.take_left]

theorem Lead.drop {s : Bytes} {v : Rune} {w : Nat} (h : Lead s v w) (x : Bytes) : (s ++ x).drop w = x := by
  rw [h.length_eq, List.drop_left]

theorem Lead.not_error {s : Bytes} {v : Rune} {w : Nat} (h : Lead s v w) : ¬ (v = runeError ∧ w = 1) := by
  cases h with
  | one c h => exact fun ⟨e, _⟩ => absurd (e ▸ h) (by decide)
  | _ => exact fun ⟨_, e⟩ => by omega

theorem decodeRune_lead {s : Bytes} {v : Rune} {w : Nat} (h : Lead s v w) (x : Bytes) : decodeRune (s ++ x) = (v, w) := by
  cases h with
  | one c h => simp only [List.cons_append, List.nil_append, decodeRune, if_pos h]
  | two c c1 v h1 h2 h3 hv =>
    simp only [List.cons_append, List.nil_append, decodeRune]
    rw [if_neg (by omega), if_pos (decide_and_decide h1 h2), if_pos h3, hv]
  | three c c1 c2 v h1 h2 h3 h4 h5 hv =>
    simp only [List.cons_append, List.nil_append, decodeRune]
    rw [if_neg (by omega), if_neg (by simp only [Bool.and_eq_true, decide_eq_true_eq]; omega), if_pos (decide_and_decide h1 h2),
      if_pos (by rw [decide_and_decide h3 h4, h5]; rfl), hv]
  | four c c1 c2 c3 v h1 h2 h3 h4 h5 h6 hv =>
    simp only [List.cons_append, List.nil_append, decodeRune]
    rw [if_neg (by omega), if_neg (by simp only [Bool.and_eq_true, decide_eq_true_eq]; omega),
      if_neg (by simp only [Bool.and_eq_true, decide_eq_true_eq]; omega), if_pos (decide_and_decide h1 h2),
      if_pos (by rw [decide_and_decide h3 h4, h5, h6]; rfl), hv]

theorem lead_or_error (c : Byte) (t : Bytes) :
    decodeRune (c :: t) = (runeError, 1) ∨ ∃ s x v w, c :: t = s ++ x ∧ Lead s v w := by
  by_cases h1 : c < 0x80
  · exact .inr ⟨[c], t, _, _, rfl, .one c h1⟩
  by_cases h2 : (0xC2 ≤ c && c ≤ 0xDF) = true
  · match t with
    | [] => left; simp [decodeRune, h1, h2]
    | c1 :: r =>
      by_cases hc : isCont c1 = true
      · simp only [Bool.and_eq_true, decide_eq_true_eq] at h2
        exact .inr ⟨[c, c1], r, _, _, rfl, .two c c1 _ h2.1 h2.2 hc rfl⟩
      · left; simp [decodeRune, h1, h2, hc]
  by_cases h3 : (0xE0 ≤ c && c ≤ 0xEF) = true
  · match t with
    | [] | [_] => left; simp [decodeRune, h1, h2, h3]
    | c1 :: c2 :: r =>
      by_cases hc : ((if c == 0xE0 then 0xA0 else 0x80) ≤ c1 && c1 ≤ (if c == 0xED then 0x9F else 0xBF) && isCont c2) = true
      · simp only [Bool.and_eq_true, decide_eq_true_eq] at h3 hc
        exact .inr ⟨[c, c1, c2], r, _, _, rfl, .three c c1 c2 _ h3.1 h3.2 hc.1.1 hc.1.2 hc.2 rfl⟩
      · left; simp only [decodeRune, h1, h2, h3, hc, if_true, if_false, Bool.false_eq_true]
  by_cases h4 : (0xF0 ≤ c && c ≤ 0xF4) = true
  · match t with
    | [] | [_] | [_, _] => left; simp [decodeRune, h1, h2, h3, h4]
    | c1 :: c2 :: c3 :: r =>
      by_cases hc : ((if c == 0xF0 then 0x90 else 0x80) ≤ c1 && c1 ≤ (if c == 0xF4 then 0x8F else 0xBF) && isCont c2 && isCont c3) = true
      · simp only [Bool.and_eq_true, decide_eq_true_eq] at h4 hc
        exact .inr ⟨[c, c1, c2, c3], r, _, _, rfl, .four c c1 c2 c3 _ h4.1 h4.2 hc.1.1.1 hc.1.1.2 hc.1.2 hc.2 rfl⟩
      · left; simp only [decodeRune, h1, h2, h3, h4, hc, if_true, if_false, Bool.false_eq_true]
  · left; simp [decodeRune, h1, h2, h3, h4]

theorem lead_encode (r : Nat) : Lead (encodeRune r) (normRune r) (encodeRune r).length := by
  unfold encodeRune normRune
  by_cases h1 : r < 0x80
  · rw [if_pos h1, if_neg (by simp only [Bool.or_eq_true, Bool.and_eq_true, decide_eq_true_eq]; omega)]
    exact .one r h1
  rw [if_neg h1]
  by_cases h2 : r < 0x800
  · rw [if_pos h2, if_neg (by simp only [Bool.or_eq_true, Bool.and_eq_true, decide_eq_true_eq]; omega)]
    exact .two _ _ _ (by omega) (by omega) (isCont_of (by omega) (by omega)) (by omega)
  rw [if_neg h2]
  by_cases h3 : ((decide (0xD800 ≤ r) && decide (r ≤ 0xDFFF)) || decide (r > 0x10FFFF)) = true
  · rw [if_pos h3, if_pos h3]
    exact .three _ _ _ _ (by decide) (by decide) (by decide) (by decide) (by decide) (by decide)
  rw [if_neg h3, if_neg h3]
  simp only [Bool.or_eq_true, Bool.and_eq_true, decide_eq_true_eq] at h3
  by_cases h4 : r < 0x10000
  · rw [if_pos h4]
    refine .three _ _ _ _ (by omega) (by omega) ?_ ?_ (isCont_of (by omega) (by omega)) (by omega)
    · split
      · rename_i he
        have := eq_of_beq he
        omega
      · omega
    · split
      · rename_i he
        have := eq_of_beq he
        omega
      · omega
  · rw [if_neg h4]
    refine .four _ _ _ _ _ (by omega) (by omega) ?_ ?_ (isCont_of (by omega) (by omega)) (isCont_of (by omega) (by omega)) (by omega)
    · split
      · rename_i he
        have := eq_of_beq he
        omega
      · omega
    · split
      · rename_i he
        have := eq_of_beq he
        omega
      · omega

theorem decodeRune_encodeRune (r : Nat) (rest : Bytes) :
    decodeRune (encodeRune r ++ rest) = (normRune r, (encodeRune r).length) :=
  decodeRune_lead (lead_encode r) rest

theorem lead_of_decoded (c : Byte) (t : Bytes) (hv : ¬ ((decodeRune (c :: t)).1 = runeError ∧ (decodeRune (c :: t)).2 = 1)) :
    Lead ((c :: t).take (decodeRune (c :: t)).2) (decodeRune (c :: t)).1 (decodeRune (c :: t)).2 := by
  rcases lead_or_error c t with h | ⟨a, x, v, w, e, hl⟩
  · exact absurd (by rw [h]; exact ⟨rfl, rfl⟩) hv
  · rw [e, decodeRune_lead hl, hl.take]
    exact hl

theorem decodeRune_width_pos (c : Byte) (t : Bytes) : 1 ≤ (decodeRune (c :: t)).2 := by
  rcases lead_or_error c t with h | ⟨s, x, v, w, e, hl⟩
  · rw [h]; exact Nat.le_refl 1
  · rw [e, decodeRune_lead hl]; exact hl.pos

theorem chars_induct {P : Bytes → Prop} (nil : P []) (cons : ∀ c t, P ((c :: t).drop (decodeRune (c :: t)).2) → P (c :: t)) (s : Bytes) : P s := by
  induction h : s.length using Nat.strongRecOn generalizing s with
  | _ n ih =>
    cases s with
    | nil => exact nil
    | cons c t =>
      have hw := decodeRune_width_pos c t
      exact cons c t (ih _ (by subst h; simp only [List.length_drop, List.length_cons]; omega) _ rfl)

inductive Valid : Bytes → Prop
  | nil : Valid []
  | cons {a : Bytes} {v : Rune} {w : Nat} {x : Bytes} : Lead a v w → Valid x → Valid (a ++ x)

theorem Lead.valid {a : Bytes} {v : Rune} {w : Nat} (h : Lead a v w) : Valid a :=
  List.append_nil a ▸ .cons h .nil

theorem Valid.append {a b2 : Bytes} (ha : Valid a) (hb : Valid b2) : Valid (a ++ b2) := by
  induction ha with
  | nil => exact hb
  | cons hl _ ih => rw [List.append_assoc]; exact .cons hl ih

theorem Valid.lead {c : Byte} {t : Bytes} (h : Valid (c :: t)) : ∃ a v w x, c :: t = a ++ x ∧ Lead a v w ∧ Valid x := by
  generalize e : c :: t = s at h
  cases h with
  | nil => cases e
  | cons hl hx => exact ⟨_, _, _, _, rfl, hl, hx⟩

theorem Valid.not_error {c : Byte} {t : Bytes} (h : Valid (c :: t)) :
    ¬ ((decodeRune (c :: t)).1 = runeError ∧ (decodeRune (c :: t)).2 = 1) := by
  obtain ⟨a, v, w, x, e, hl, _⟩ := h.lead
  rw [e, decodeRune_lead hl]
  exact hl.not_error

theorem Valid.drop_first {c : Byte} {t : Bytes} (h : Valid (c :: t)) : Valid ((c :: t).drop (decodeRune (c :: t)).2) := by
  obtain ⟨a, v, w, x, e, hl, hx⟩ := h.lead
  rw [e, decodeRune_lead hl, hl.drop]
  exact hx

theorem validUtf8_go_nil (f : Nat) : validUtf8.go f [] = true := by
  cases f <;> simp [validUtf8.go]

theorem validUtf8_go_cons (f : Nat) (c : Byte) (t : Bytes) :
    validUtf8.go (f + 1) (c :: t) =
      if ((decodeRune (c :: t)).1 == runeError && (decodeRune (c :: t)).2 == 1) then false
      else validUtf8.go f ((c :: t).drop (decodeRune (c :: t)).2) := by
  rw [validUtf8.go]

theorem validUtf8_go_iff : ∀ (f : Nat) (s : Bytes), s.length ≤ f → (validUtf8.go f s = true ↔ Valid s) := by
  intro f
  induction f with
  | zero =>
    intro s h
    obtain rfl := List.eq_nil_of_length_eq_zero (Nat.le_zero.mp h)
    exact ⟨fun _ => .nil, fun _ => rfl⟩
  | succ f ih =>
    intro s h
    cases s with
    | nil => exact ⟨fun _ => .nil, fun _ => validUtf8_go_nil _⟩
    | cons c t =>
      rw [validUtf8_go_cons]
      by_cases he : (decodeRune (c :: t)).1 = runeError ∧ (decodeRune (c :: t)).2 = 1
      · rw [if_pos (by simp only [Bool.and_eq_true, beq_iff_eq]; exact he)]
        exact ⟨fun hf => (nomatch hf), fun hv => absurd he hv.not_error⟩
      · have hw := decodeRune_width_pos c t
        rw [if_neg (by simp only [Bool.and_eq_true, beq_iff_eq]; exact he),
          ih _ (by simp only [List.length_drop, List.length_cons] at h ⊢; omega)]
        refine ⟨fun hv => ?_, Valid.drop_first⟩
        have := Valid.cons (lead_of_decoded c t he) hv
        rwa [List.take_append_drop] at this

theorem validUtf8_iff (s : Bytes) : validUtf8 s = true ↔ Valid s := validUtf8_go_iff s.length s (Nat.le_refl _)

/-- `string(runes)` is valid UTF-8 whatever the runes: `encodeRune` writes U+FFFD for a surrogate or a value beyond
    U+10FFFF (C11 `upper_lower_reverse_valid`, `truncate_valid`, `capitalize_valid`) -/
theorem validUtf8_encodeRunes (rs : List Nat) : validUtf8 (encodeRunes rs) = true := by
  rw [validUtf8_iff]
  induction rs with
  | nil => exact .nil
  | cons r rest ih => exact .cons (lead_encode r) ih

theorem validUtf8_encodeRune (r : Nat) : validUtf8 (encodeRune r) = true :=
  (validUtf8_iff _).mpr (lead_encode r).valid

theorem validUtf8_append (a b2 : Bytes) (ha : validUtf8 a = true) (hb : validUtf8 b2 = true) : validUtf8 (a ++ b2) = true :=
  (validUtf8_iff _).mpr (((validUtf8_iff a).mp ha).append ((validUtf8_iff b2).mp hb))

theorem validUtf8_drop_first (c : Byte) (t : Bytes) (h : validUtf8 (c :: t) = true) :
    validUtf8 ((c :: t).drop (decodeRune (c :: t)).2) = true :=
  (validUtf8_iff _).mpr ((validUtf8_iff _).mp h).drop_first

end Tw
