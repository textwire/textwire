/-
  TwProofs.Lemmas.ParseBadFree — what the walk of the parser (ParseWalk) carries of the state, and what it yields.
  `Dirty p`: an error was recorded, so no program will be returned.  `Ext p p'`, what every parser function keeps
  from `p` to a later `p'`: `Dirty`, `Good` (the tables the loader reads hold no nil node, unless `Dirty`) and `RInv`
  (the numbers given to `@reserve` nodes lie below `nextId` and differ pairwise).  `Program.Whole` is what follows
  for a returned program (`parseSource_whole`, ParseWalk): no nil node in statements, inserts and slots (with
  `np_closed` of EvalWalk: "a template that parses never panics when rendered", C09), and distinct `@reserve`
  numbers, on which C06 rests (`bound_insert_of_parsed_layout`).
-/
import TwProofs.Lemmas.EvalInv
import TwProofs.Lemmas.ParseShape

namespace Tw

def Dirty (p : PS) : Prop := p.errors ≠ [] ∨ p.oof = true

theorem not_dirty {p : PS} (he : p.errors = []) (ho : p.oof = false) : ¬ Dirty p := by
  rintro (d | d)
  · exact d he
  · rw [ho] at d; cases d

theorem dirty_err (p : PS) (l : Nat) (c : String) (a : List Bytes) : Dirty (p.err l c a) := by
  left; simp [PS.err]
theorem dirty_oof (p : PS) : Dirty p.outOfFuel := Or.inr rfl

theorem Expr.badFreeList_append (a c : List Expr) :
    Expr.badFreeList (a ++ c) = (Expr.badFreeList a && Expr.badFreeList c) := by
  induction a with
  | nil => simp [Expr.badFreeList]
  | cons x r ih => simp [Expr.badFreeList, ih, Bool.and_assoc]

theorem Expr.badFreePairs_mapSet (ps : List (Bytes × Expr)) (k : Bytes) (v : Expr)
    (h : Expr.badFreePairs ps = true) (hv : v.badFree = true) : Expr.badFreePairs (mapSet ps k v) = true :=
  (Expr.badFreePairs_iff _).mpr fun p hp =>
    (mapSet_mem hp).elim ((Expr.badFreePairs_iff ps).mp h p) fun e => e ▸ hv

theorem Stmt.badFreeList_append (a c : List Stmt) :
    Stmt.badFreeList (a ++ c) = (Stmt.badFreeList a && Stmt.badFreeList c) := by
  induction a with
  | nil => simp [Stmt.badFreeList]
  | cons x r ih => simp [Stmt.badFreeList, ih, Bool.and_assoc]

theorem Stmt.badFreeAlts_append (a c : List (Expr × List Stmt)) :
    Stmt.badFreeAlts (a ++ c) = (Stmt.badFreeAlts a && Stmt.badFreeAlts c) := by
  induction a with
  | nil => simp [Stmt.badFreeAlts]
  | cons x r ih => obtain ⟨e, ss⟩ := x; simp [Stmt.badFreeAlts, ih, Bool.and_assoc]

def SlotsGood (sl : List SlotUse) : Prop := ∀ s ∈ sl, Stmt.badFreeList s.body = true

def TablesGood (p : PS) : Prop :=
  (∀ x ∈ p.inserts, x.2.badFree = true) ∧ (∀ cu ∈ p.components, SlotsGood cu.slots)

def Good (p : PS) : Prop := Dirty p ∨ TablesGood p

def RInv (p : PS) : Prop :=
  (∀ x ∈ p.reserves, x.2 < p.nextId) ∧ p.reserves.Pairwise (fun x y => x.2 ≠ y.2)

structure Ext (p p' : PS) : Prop where
  dirty : Dirty p → Dirty p'
  good : Good p → Good p'
  rinv : RInv p → RInv p'

theorem Ext.rfl' (p : PS) : Ext p p := ⟨id, id, id⟩
theorem Ext.trans {p q r : PS} (h1 : Ext p q) (h2 : Ext q r) : Ext p r :=
  ⟨fun h => h2.dirty (h1.dirty h), fun h => h2.good (h1.good h), fun h => h2.rinv (h1.rinv h)⟩

theorem Adv.ext {p q : PS} (h : Adv p q) : Ext p q :=
  have d : Dirty p → Dirty q := fun d => d.imp h.errs fun o => h.oof.trans o
  ⟨d, fun g => g.elim (fun x => Or.inl (d x)) fun g => Or.inr (by unfold TablesGood at g ⊢; rw [h.ins, h.comps]; exact g),
    fun r => by unfold RInv at r ⊢; rw [h.res, h.nid]; exact r⟩

theorem ext_oof (p : PS) : Ext p p.outOfFuel := ⟨fun _ => dirty_oof p, fun _ => Or.inl (dirty_oof p), fun r => r⟩
theorem ext_next (p : PS) : Ext p p.next := (adv_next p).ext
theorem ext_err (p : PS) (l : Nat) (c : String) (a : List Bytes) : Ext p (p.err l c a) := (adv_err p l c a).ext
theorem ext_expectPeek (p : PS) (t : TT) : Ext p (p.expectPeek t).2 := (adv_expectPeek p t).ext
theorem ext_aliasPath (p : PS) (s : String) : Ext p (aliasPath p s).2 := (adv_aliasPath p s).ext

theorem expectPeek_false (p : PS) (t : TT) (h : (p.expectPeek t).1 = false) : Dirty (p.expectPeek t).2 := by
  rw [expectPeek_fst] at h
  unfold PS.expectPeek
  rw [if_neg (by rw [h]; simp)]
  exact dirty_err _ _ _ _

theorem expectPeek_cases {p : PS} {t : TT} {ok : Bool} {p1 : PS} (h : p.expectPeek t = (ok, p1)) :
    Ext p p1 ∧ (ok = false → Dirty p1) := by
  have f := ext_expectPeek p t
  have d := expectPeek_false p t
  rw [h] at f d
  exact ⟨f, d⟩

theorem dirty_expectPeek {p : PS} {t : TT} (h : (!(p.expectPeek t).1) = true) : Dirty (p.expectPeek t).2 :=
  expectPeek_false p t (by simpa using h)
theorem dirty_expectPeek' {p : PS} {t : TT} (h : ¬ (p.expectPeek t).1 = true) : Dirty (p.expectPeek t).2 :=
  expectPeek_false p t (by simpa using h)

theorem mapSet_rids (m : List (Bytes × Nat)) (k : Bytes) (rid : Nat) (hlt : ∀ x ∈ m, x.2 < rid)
    (hp : m.Pairwise (fun x y => x.2 ≠ y.2)) : (mapSet m k rid).Pairwise (fun x y => x.2 ≠ y.2) := by
  induction m with
  | nil => simp [mapSet]
  | cons x r ih =>
    obtain ⟨k', v'⟩ := x
    have hp' := List.pairwise_cons.mp hp
    unfold mapSet
    split
    · refine List.pairwise_cons.mpr ⟨?_, hp'.2⟩
      intro y hy
      have := hlt y (List.mem_cons_of_mem _ hy)
      show rid ≠ y.2
      omega
    · refine List.pairwise_cons.mpr ⟨?_, ih (fun y hy => hlt y (List.mem_cons_of_mem _ hy)) hp'.2⟩
      intro y hy
      rcases mapSet_mem hy with hy | hy
      · exact hp'.1 y hy
      · rw [hy]
        have := hlt (k', v') List.mem_cons_self
        show v' ≠ rid
        omega

theorem ext_reserve (p : PS) (name : Bytes) :
    Ext p { p with reserves := mapSet p.reserves name p.nextId, nextId := p.nextId + 1 } := by
  refine ⟨fun d => d, fun g => g, fun r => ⟨?_, mapSet_rids _ _ _ r.1 r.2⟩⟩
  intro x hx
  rcases mapSet_mem hx with hx | hx
  · exact Nat.lt_succ_of_lt (r.1 x hx)
  · rw [hx]; exact Nat.lt_succ_self _

theorem ext_setUse (p : PS) (u : Option (Token × Bytes)) : Ext p { p with useName := u } := ⟨id, id, id⟩

theorem ext_setInsert (p : PS) (name : Bytes) (ins : InsertDef) (h : Dirty p ∨ ins.badFree = true) :
    Ext p { p with inserts := mapSet p.inserts name ins } := by
  refine ⟨fun d => d, fun g => ?_, fun r => r⟩
  rcases h with h | h
  · exact Or.inl h
  · rcases g with g | g
    · exact Or.inl g
    · refine Or.inr ⟨?_, g.2⟩
      intro x hx
      rcases mapSet_mem hx with hx | hx
      · exact g.1 x hx
      · rw [hx]; exact h

theorem ext_addComponent (p : PS) (cu : CompUse) (n : Nat) (hn : p.nextId ≤ n) (h : Dirty p ∨ SlotsGood cu.slots) :
    Ext p { p with components := p.components ++ [cu], nextId := n } := by
  refine ⟨fun d => d, fun g => ?_, fun r => ⟨fun x hx => Nat.lt_of_lt_of_le (r.1 x hx) hn, r.2⟩⟩
  rcases h with h | h
  · exact Or.inl h
  · rcases g with g | g
    · exact Or.inl g
    · refine Or.inr ⟨g.1, ?_⟩
      intro x hx
      rcases List.mem_append.mp hx with hx | hx
      · exact g.2 x hx
      · rw [List.mem_singleton.mp hx]; exact h

structure Program.Whole (prog : Program) : Prop where
  stmts : Stmt.badFreeList prog.stmts = true
  inserts : ∀ x ∈ prog.inserts, x.2.badFree = true
  slots : ∀ cu ∈ prog.components, SlotsGood cu.slots
  reserveIds : prog.reserves.Pairwise (fun x y => x.2 ≠ y.2)

end Tw
