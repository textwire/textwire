/-
  TwProofs.C13 — errors name the line of the offending construct.

  Three facts compose.  The evaluator takes the line of an error from a token of the tree
  (`render_errors_name_a_token_of_the_loaded_files`); parser and loader store tokens of the lexer
  only (`parsed_tokens_are_tokens_of_the_source`, `loaded_tokens_are_tokens_of_the_files`); the
  lexer's positions are exact (`token_error_line`: 1 + the line feeds before the token's last byte).
  Together: `string_render_error_names_a_token_of_the_source`,
  `template_render_error_names_a_token_of_a_file`.  Which token it is, is proved for single
  constructs only (`identifier_error_line`, `expectPeek_error_line`; `division_by_zero_line`
  says that the operator helper reports the line it is given).
-/
import TwProofs.Lemmas.LexSpan
import TwProofs.Lemmas.EvalWalk
import TwProofs.Lemmas.ParseWalk
import TwProofs.Lemmas.LoadToks
import TwModel

namespace Tw.C13
open Tw Tw.Lx

theorem errorLine_of_end {inp : Bytes} {t : Token} {k : Nat} (h : (t.pos.endLine, t.pos.endCol) = posOf inp k) :
    t.errorLine = 1 + (inp.take k).count 10 := by
  unfold posOf at h
  have hl : t.pos.endLine = lineOf (inp.take k).reverse := (Prod.mk.inj h).1
  unfold Token.errorLine
  rw [hl, lineOf, List.count_reverse]; omega

/-- the line an error reports for a token (`Token.ErrorLine`) is 1 + the number of line feeds
    before the token's last byte: the 1-based line on which the token ends — whatever multi-line
    text, strings, comments or CRLF line ends precede it (every token of every input) -/
theorem token_error_line (inp : Bytes) (t : Token) (a n : Nat) (h : Covers inp t a n) :
    t.errorLine = 1 + (inp.take (a + n - 1)).count 10 :=
  errorLine_of_end h.stop

/-- parser errors are built from the line of the token they complain about -/
theorem expectPeek_error_line (p : PS) (t : TT) (h : p.peekIs t = false) :
    (p.expectPeek t).2.errors = p.errors ++ [PErr.mk p.peek.errorLine "ErrWrongNextToken" [b (tokenString t), b (tokenString p.peek.ty)]] := by
  simp [PS.expectPeek, h, PS.err]

/-- evaluator errors about an identifier carry the line of the identifier's token -/
theorem identifier_error_line (fuel : Nat) (c : Ctx) (env : Env) (t : Token) (name : Bytes) (h : env.get name = none) :
    evalExpr (fuel + 1) c env (.ident t name) = .err "ErrIdentifierNotFound" t.errorLine [name] := by
  rw [evalExpr_ident, h]

/-- division and modulo by zero are reported on the line `intInfix` is given (`evalExpr_inf`: the left operand's) -/
theorem division_by_zero_line (l : Int64) (line : Nat) :
    intInfix (b "/") l 0 line = .err "ErrDivisionByZero" line [] ∧ intInfix (b "%") l 0 line = .err "ErrDivisionByZero" line [] := by
  constructor <;> (unfold intInfix; simp (config := { decide := true }))

/-- a failing render through a Template names the file the template name stands for -/
theorem render_error_path (w : World) (t : Template) (name : Bytes) (data : List (Bytes × GoVal)) (env : Env) (f : Fail)
    (hd : envFromMap data = .ok env) (h : tplString w t name data = .fail f) : f.path = templatePath w.cfg name := by
  unfold tplString envOrFail at h
  simp only [hd] at h
  split at h
  · cases h; rfl
  · obtain ⟨_, _, _, _, rfl⟩ := resToOut_eq_fail h
    rfl

/-- a fault found while loading a file names that file -/
theorem load_error_path (fs : Fs) (p : Bytes) (base : Nat) (f : Fail) (h : parseFile fs p base = .error f) : f.path = p := by
  unfold parseFile at h
  split at h
  · cases h; rfl
  · cases h; rfl
  · split at h
    · cases h
    · cases h; rfl
    · cases h; rfl
    · cases h; rfl

/-- string evaluation has no file: the path of its errors is empty -/
theorem string_error_has_no_path (custom : List ((VType × Bytes) × Nat)) (src : Bytes) (data : List (Bytes × GoVal)) (f : Fail)
    (env : Env) (hd : envFromMap data = .ok env) (h : evaluateStringPure custom src data = .fail f) : f.path = [] := by
  unfold evaluateStringPure envOrFail at h
  split at h
  · cases h; rfl
  · cases h
  · cases h
  · simp only [hd] at h
    obtain ⟨_, _, _, _, rfl⟩ := resToOut_eq_fail h
    rfl

/-- **every error raised inside an expression carries the line of a token of that expression**
    (any fuel, context, environment): identifier, operator, index, property, call — the line comes
    from the tree, never from a default or from another construct -/
theorem expression_errors_name_a_token_of_the_expression (fuel : Nat) (c : Ctx) (env : Env) (e : Expr)
    (code : String) (line : Nat) (args : List Bytes) (h : evalExpr fuel c env e = .err code line args) :
    line ∈ e.lines :=
  (el_expr fuel).1 c env e code line args h

/-- **every error raised while statements are evaluated carries the line of a token of those
    statements or of what the loader attached to the page** (layout, inserts, component files) -/
theorem render_errors_name_a_token_of_the_loaded_files (fuel : Nat) (c : Ctx) (env : Env) (ss : List Stmt) (acc : Bytes)
    (code : String) (line : Nat) (args : List Bytes) (h : evalProg fuel c env ss acc = .err code line args) :
    line ∈ Stmt.linesL ss ++ c.lines :=
  (calleesAt_el fuel).prog c env ss acc code line args h

/-- the string API: a render error (the template parsed, the data converted) names a token of the
    parsed template -/
theorem string_render_error_names_a_token_of_the_template (custom : List ((VType × Bytes) × Nat)) (src : Bytes)
    (data : List (Bytes × GoVal)) (prog : Program) (env : Env) (f : Fail)
    (hp : parseSource src = .ok prog) (hd : envFromMap data = .ok env)
    (h : evaluateStringPure custom src data = .fail f) : f.line ∈ Stmt.linesL prog.stmts := by
  rw [evaluate_parsed custom hp hd] at h
  obtain ⟨code, line, args, hr, rfl⟩ := resToOut_eq_fail h
  have := render_errors_name_a_token_of_the_loaded_files _ _ _ _ _ _ _ _ hr
  simpa [Ctx.lines, Stmt.linesO, failOf] using this

/-- a Template render: the line is one of the page's, its layout's, its inserts' or its components' -/
theorem template_render_error_names_a_token_of_the_page (w : World) (t : Template) (name : Bytes) (data : List (Bytes × GoVal))
    (pg : Page) (env : Env) (f : Fail) (hpg : mapGet t name = some pg) (hd : envFromMap data = .ok env)
    (h : tplString w t name data = .fail f) : f.line ∈ Stmt.linesL pg.stmts ++ pg.ctx.lines := by
  rw [tplString_registered hpg hd] at h
  obtain ⟨code, line, args, hr, rfl⟩ := resToOut_eq_fail h
  have := render_errors_name_a_token_of_the_loaded_files _ _ _ _ _ _ _ _ hr
  simpa [Ctx.lines, failOf] using this

/-- **the parser never makes a token up**: every token stored in the parsed program (nodes at any
    depth, recorded inserts, component uses and their slots, the `@use`) is one of the tokens the
    lexer produced for this source -/
theorem parsed_tokens_are_tokens_of_the_source (src : Bytes) (base : Nat) (prog : Program)
    (h : parseSource src base = .ok prog) : ∃ lr, tokenize src = some lr ∧ ∀ t ∈ prog.toks, t ∈ lr.toks :=
  parseSource_toks src base prog h

/-- where a token of the token list lies: it covers bytes `[a, a + n)` of the input and its error
    line is 1 + the line feeds before its last byte — or it is the closing EOF, whose line is that
    of the end of the input -/
theorem token_of_the_list_line (inp : Bytes) (r : LexResult) (h : tokenize inp = some r) (t : Token) (ht : t ∈ r.toks) :
    (∃ a n, Covers inp t a n ∧ t.errorLine = 1 + (inp.take (a + n - 1)).count 10) ∨
      (t.ty = .EOF ∧ t.errorLine = 1 + inp.count 10) := by
  have hti := tokenize_tiled inp r h
  generalize r.toks = toks at hti ht
  generalize (0 : Nat) = a0 at hti
  induction hti with
  | eof a e h1 _ _ h4 =>
    have : t = e := by simpa using ht
    subst this
    right
    exact ⟨h1, by rw [errorLine_of_end h4, List.take_length]⟩
  | tok a a' n x ts _ _ hc _ ih =>
    rcases List.mem_cons.mp ht with hx | hx
    · subst hx
      exact Or.inl ⟨a', n, hc, token_error_line inp t a' n hc⟩
    · exact ih hx

/-- **the string API, from the source**: a render error (the template parsed, the data converted)
    carries the line on which a token of the source text ends — `1 +` the number of line feeds
    before that token's last byte -/
theorem string_render_error_names_a_token_of_the_source (custom : List ((VType × Bytes) × Nat)) (src : Bytes)
    (data : List (Bytes × GoVal)) (prog : Program) (env : Env) (f : Fail)
    (hp : parseSource src = .ok prog) (hd : envFromMap data = .ok env)
    (h : evaluateStringPure custom src data = .fail f) :
    ∃ r t, tokenize src = some r ∧ t ∈ r.toks ∧ f.line = t.errorLine ∧
      ((∃ a n, Covers src t a n ∧ f.line = 1 + (src.take (a + n - 1)).count 10) ∨ (t.ty = .EOF ∧ f.line = 1 + src.count 10)) := by
  have hl := string_render_error_names_a_token_of_the_template custom src data prog env f hp hd h
  rw [Stmt.linesL_eq] at hl
  obtain ⟨t, htm, hte⟩ := List.mem_map.mp hl
  obtain ⟨r, hr, hall⟩ := parseSource_toks _ _ _ hp
  have ht := hall t (prog.stmts_toks htm)
  refine ⟨r, t, hr, ht, hte.symm, ?_⟩
  rw [← hte]
  exact token_of_the_list_line src r hr t ht

/-- in particular the line lies within the source: between 1 and 1 + the number of its line feeds -/
theorem string_render_error_line_within_source (custom : List ((VType × Bytes) × Nat)) (src : Bytes)
    (data : List (Bytes × GoVal)) (prog : Program) (env : Env) (f : Fail)
    (hp : parseSource src = .ok prog) (hd : envFromMap data = .ok env)
    (h : evaluateStringPure custom src data = .fail f) : 1 ≤ f.line ∧ f.line ≤ 1 + src.count 10 := by
  obtain ⟨r, t, _, _, _, hcase⟩ := string_render_error_names_a_token_of_the_source custom src data prog env f hp hd h
  rcases hcase with ⟨a, n, _, he⟩ | ⟨_, he⟩
  · refine ⟨by omega, ?_⟩
    rw [he]
    have : (src.take (a + n - 1)).count 10 ≤ src.count 10 := (List.take_sublist _ _).count_le _
    omega
  · omega

/-- a registered page holds tokens of the files of the tree only: its statements, the layout, the
    bound inserts and the component programs with their slots filled -/
theorem loaded_tokens_are_tokens_of_the_files (w : World) (o : Option Opt) (t : Template)
    (h : (newTemplate w o).2 = .ok t) :
    ∀ x ∈ t, ∀ tk ∈ Stmt.toksL x.2.stmts ++ x.2.ctx.toks, FileTok (configure w o).fs tk :=
  newTemplate_toks w o t h

/-- **a Template render, from the sources**: a render error of a page of a loaded Template carries
    the line on which a token of one of the tree's files ends (the page, its layout or one of its
    components: `1 +` the line feeds before the token's last byte in that file) -/
theorem template_render_error_names_a_token_of_a_file (w : World) (o : Option Opt) (t : Template)
    (hnew : (newTemplate w o).2 = .ok t) (w2 : World) (name : Bytes) (data : List (Bytes × GoVal))
    (pg : Page) (env : Env) (f : Fail) (hpg : mapGet t name = some pg) (hd : envFromMap data = .ok env)
    (h : tplString w2 t name data = .fail f) :
    ∃ q src r tk, readFile (configure w o).fs q = .ok src ∧ tokenize src = some r ∧ tk ∈ r.toks ∧ f.line = tk.errorLine ∧
      ((∃ a n, Covers src tk a n ∧ f.line = 1 + (src.take (a + n - 1)).count 10) ∨ (tk.ty = .EOF ∧ f.line = 1 + src.count 10)) := by
  have hl := template_render_error_names_a_token_of_the_page w2 t name data pg env f hpg hd h
  rw [Stmt.linesL_eq, Ctx.lines_eq, ← List.map_append] at hl
  obtain ⟨tk, htk, hte⟩ := List.mem_map.mp hl
  obtain ⟨q, src, r, hq, hr, hm⟩ := newTemplate_toks w o t hnew (name, pg) (mapGet_mem hpg) tk htk
  refine ⟨q, src, r, tk, hq, hr, hm, hte.symm, ?_⟩
  rw [← hte]
  exact token_of_the_list_line src r hr tk hm

example : (match evaluateStringPure [] (b "line1\n{{ \"a\nb\" }}\n{{-- c\n --}}{{ nosuch }}") [] with
    | .fail f => f.line == 5 | _ => false) = true := by decide +kernel

/-- an instance through loader and evaluator: the failing print is in the component file, on its
    third line (the page's own third line holds nothing that can fail) -/
def demoFs : Fs :=
  [ (b "templates", .dir), (b "templates/components", .dir),
    (b "templates/components/c.tw.html", .file (b "<i>\n@slot\n{{ nosuch }}</i>")),
    (b "templates/page.tw.html", .file (b "a\n@component(\"~c\")@slot\nx\n\n@end@end\nz")) ]

example :
    (match newTemplate { fs := demoFs } none with
      | (w, .ok t) =>
        (match tplString w t (b "page") [] with
          | .fail f => f.line == 3
          | _ => false)
      | _ => false) = true := by decide +kernel

end Tw.C13
