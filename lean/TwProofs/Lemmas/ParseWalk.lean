/-
  TwProofs.Lemmas.ParseWalk — one walk of the parser for both "every token of the program is a token of the
  source" (`parseSource_toks`, C13) and "no nil node unless an error was recorded" (`parseSource_whole`, C09).
  `All S D ts b`: a piece of a tree given by its token list `ts` and its `badFree` flag `b`: the tokens are tokens
  of `S`, and the flag holds unless `D`.  Both folds of the tree (`toks`, `badFree`) reduce on constructors by `rfl`,
  so `All` of a node is built from `All` of its children by `tok` / `and` with no unfolding lemma per constructor.
  `Walk` is what the walk says of a parser function; `RW` is `Walk` for a piece of tree, `EW`, `LW`, `BW` are `RW`
  for an expression, a list of expressions, a block; `SW` is `Walk` for a statement (which may instead be the nil one
  the caller drops), `SlW` for slots (`All` of each).
-/
import TwProofs.Lemmas.ParseToks
import TwProofs.Lemmas.LexProgress
import TwProofs.Lemmas.ParseBadFree

namespace Tw

variable {S : List Token}

def All (S : List Token) (D : Prop) (ts : List Token) (b : Bool) : Prop := TIn S ts ∧ (D ∨ b = true)

namespace All
variable {D D' : Prop} {ts ts' ts'' : List Token} {b b' b'' : Bool} {t : Token}

theorem nil : All S D [] true := ⟨TIn.nil S, Or.inr rfl⟩
theorem bad (d : D) : All S D [] b := ⟨TIn.nil S, Or.inl d⟩
theorem tok (ht : t ∈ S) (h : All S D ts b) : All S D (t :: ts) b := ⟨TIn.cons ht h.1, h.2⟩
theorem and (h : All S D ts b) (h' : All S D ts' b') : All S D (ts ++ ts') (b && b') :=
  ⟨h.1.append h'.1, h.2.elim Or.inl fun x => h'.2.imp id fun y => by simp [x, y]⟩
/-- `toks` nests to the right, `badFree` to the left -/
theorem assoc (h : All S D ((ts ++ ts') ++ ts'') b) : All S D (ts ++ (ts' ++ ts'')) b := List.append_assoc .. ▸ h
theorem mono (f : D → D') (h : All S D ts b) : All S D' ts b := ⟨h.1, h.2.imp f id⟩
theorem leaf (ht : t ∈ S) : All S D [t] true := nil.tok ht
end All

structure Walk (S : List Token) (p q : PS) (N : Prop) : Prop where
  ext : Ext p q
  src : TokSrc S q
  node : N

theorem Walk.after {p q q' : PS} {N : Prop} (h : Walk S q q' N) (e : Ext p q) : Walk S p q' N := ⟨e.trans h.ext, h.src, h.node⟩

abbrev RW (S : List Token) (p q : PS) (ts : List Token) (b : Bool) : Prop := Walk S p q (All S (Dirty q) ts b)

namespace RW
variable {p q q' : PS} {ts : List Token} {b b' : Bool}

theorem here (s : TokSrc S p) (n : All S (Dirty p) ts b) : RW S p p ts b := ⟨Ext.rfl' p, s, n⟩

theorem bad (e : Ext p q) (s : TokSrc S q) (d : Dirty q) : RW S p q [] b := ⟨e, s, .bad d⟩

theorem err (s : TokSrc S p) (l : Nat) (c : String) (a : List Bytes) : RW S p (p.err l c a) [] b :=
  .bad (ext_err _ _ _ _) (s.err _ _ _) (dirty_err _ _ _ _)

theorem adv (h : RW S p q ts b) (a : Adv q q') : RW S p q' ts b :=
  ⟨h.ext.trans a.ext, a.tokSrc h.src, h.node.mono a.ext.dirty⟩

theorem missing {t : TT} (h : RW S p (q.expectPeek t).2 ts b) (hok : ¬(q.expectPeek t).1 = true) :
    RW S p (q.expectPeek t).2 [] b' := .bad h.ext h.src (dirty_expectPeek' hok)

theorem tok {t : Token} (h : RW S p q ts b) (ht : t ∈ S) : RW S p q (t :: ts) b := ⟨h.ext, h.src, h.node.tok ht⟩

end RW

def EW (S : List Token) (p : PS) (r : Expr × PS) : Prop := RW S p r.2 r.1.toks r.1.badFree
def LW (S : List Token) (p : PS) (r : List Expr × PS) : Prop := RW S p r.2 (Expr.toksL r.1) (Expr.badFreeList r.1)

section bodies
variable {pe : Nat → PS → Expr × PS} {pl : TT → PS → List Expr × PS}
  {po : Token → List (Bytes × Expr) → PS → Expr × PS}

theorem prefixBody_all (hpe : ∀ prec p, TokSrc S p → EW S p (pe prec p)) (hpl : ∀ t p, TokSrc S p → LW S p (pl t p))
    (hpo : ∀ t ps p, TokSrc S p → t ∈ S → All S (Dirty p) (Expr.toksP ps) (Expr.badFreePairs ps) → EW S p (po t ps p))
    (p : PS) (hs : TokSrc S p) : ∀ r, prefixBody pe pl po p = some r → EW S p r := by
  have hc := hs.cur
  have leaf : RW S p p [p.cur] true := .here hs (.leaf hc)
  have sub : ∀ prec, EW S p (pe prec p.next) := fun prec => (hpe prec p.next hs.next).after (ext_next p)
  have par := (sub LOWEST).adv (adv_expectPeek _ .RPAREN)
  exact prefixBody_cases leaf (fun _ => leaf) (fun _ => leaf) (fun _ _ _ => .err hs _ _ _)
    leaf leaf (fun _ => leaf) (fun _ => (sub _).tok hc) (fun _ => par)
    (fun _ hok => par.missing hok)
    (fun _ => (hpl _ p hs).tok hc)
    ⟨ext_next p, hs.next, .leaf hc⟩ (fun _ => (hpo _ _ _ hs.next hc .nil).after (ext_next p))

theorem infixBody_all (hpe : ∀ prec p, TokSrc S p → EW S p (pe prec p)) (hpl : ∀ t p, TokSrc S p → LW S p (pl t p))
    (left : Expr) (p : PS) (hs : TokSrc S p) (hl : All S (Dirty p) left.toks left.badFree) :
    EW S p (infixBody pe pl left p) := by
  have hc := hs.cur
  have sub : ∀ prec, EW S p (pe prec p.next) := fun prec => (hpe prec p.next hs.next).after (ext_next p)
  -- `left` with one operand, behind the token that closes it (or its absence)
  have close : ∀ prec t, RW S p ((pe prec p.next).2.expectPeek t).2
      (left.toks ++ (pe prec p.next).1.toks) (left.badFree && (pe prec p.next).1.badFree) := fun prec t =>
    RW.adv ⟨(sub prec).ext, (sub prec).src, (hl.mono (sub prec).ext.dirty).and (sub prec).node⟩ (adv_expectPeek _ t)
  have id := (RW.here hs hl).adv (adv_expectPeek p .IDENT)
  refine infixBody_cases ((RW.err hs.next _ _ _).after (ext_next p))
    ⟨(sub _).ext, (sub _).src, ((hl.mono (sub _).ext.dirty).and (sub _).node).tok hc⟩
    (fun hok => (close _ _).missing hok) ?_
    ((close _ _).tok hc)
    (fun hok => (close _ _).missing hok)
    (.here hs (hl.tok hc)) (fun hok => id.missing hok) (fun _ => ?_) (id.tok hc)
  · -- ternary: the second branch is parsed behind the colon
    have h1 := (close TERNARY .COLON).adv (adv_next _)
    have h2 := hpe LOWEST _ h1.src
    exact ⟨h1.ext.trans h2.ext, h2.src, ((h1.node.mono h2.ext.dirty).and h2.node).assoc.tok hc⟩
  · -- call: the arguments are parsed from the opening parenthesis
    have h1 := id.adv (adv_expectPeek _ .LPAREN)
    have h2 := hpl .RPAREN _ h1.src
    exact ⟨h1.ext.trans h2.ext, h2.src, ((h1.node.mono h2.ext.dirty).and h2.node).tok id.src.cur⟩

end bodies

theorem walk_oof {p : PS} {b : Bool} (hs : TokSrc S p) : RW S p p.outOfFuel [] b :=
  .bad (ext_oof p) hs.oof (dirty_oof p)

theorem allL_snoc {D : Prop} {acc : List Expr} {e : Expr} (ha : All S D (Expr.toksL acc) (Expr.badFreeList acc))
    (he : All S D e.toks e.badFree) : All S D (Expr.toksL (acc ++ [e])) (Expr.badFreeList (acc ++ [e])) := by
  rw [Expr.toksL_append, Expr.badFreeList_append]
  exact ha.and (by simpa [Expr.toksL, Expr.badFreeList] using he)

theorem allP_mapSet {D : Prop} {ps : List (Bytes × Expr)} {k : Bytes} {v : Expr}
    (hp : All S D (Expr.toksP ps) (Expr.badFreePairs ps)) (hv : All S D v.toks v.badFree) :
    All S D (Expr.toksP (mapSet ps k v)) (Expr.badFreePairs (mapSet ps k v)) :=
  ⟨Expr.toksP_mapSet hp.1 hv.1, hp.2.elim Or.inl fun a => hv.2.imp id (Expr.badFreePairs_mapSet _ _ _ a)⟩

theorem expr_all : ∀ fuel : Nat,
    (∀ prec p, TokSrc S p → EW S p (parseExpression fuel prec p)) ∧
    (∀ prec left p, TokSrc S p → All S (Dirty p) left.toks left.badFree → EW S p (prattLoop fuel prec left p)) ∧
    (∀ t p, TokSrc S p → LW S p (parseExprList fuel t p)) ∧
    (∀ t acc p, TokSrc S p → All S (Dirty p) (Expr.toksL acc) (Expr.badFreeList acc) → LW S p (exprListLoop fuel t acc p)) ∧
    (∀ t ps p, TokSrc S p → t ∈ S → All S (Dirty p) (Expr.toksP ps) (Expr.badFreePairs ps) →
      EW S p (parseObjLoop fuel t ps p)) := by
  intro fuel
  induction fuel with
  | zero => exact ⟨fun _ _ hs => walk_oof hs, fun _ _ _ hs _ => walk_oof hs, fun _ _ hs => walk_oof hs,
      fun _ _ _ hs _ => walk_oof hs, fun _ _ _ hs _ _ => walk_oof hs⟩
  | succ n ih =>
    obtain ⟨ihE, ihL, ihX, ihXL, ihO⟩ := ih
    refine ⟨?_, ?_, ?_, ?_, ?_⟩
    · intro prec p hs
      rw [parseExpression_succ]
      cases hp : prefixBody (parseExpression n) (parseExprList n) (parseObjLoop n) p with
      | none => exact .err hs _ _ _
      | some r =>
        have := prefixBody_all ihE ihX ihO p hs r hp
        exact (ihL prec r.1 r.2 this.src this.node).after this.ext
    · intro prec left p hs hl
      have fi := infixBody_all ihE ihX left p.next hs.next (hl.mono (ext_next p).dirty)
      exact prattLoop_cases (.here hs hl) fun _ => (ihL _ _ _ fi.src fi.node).after ((ext_next p).trans fi.ext)
    · intro t p hs
      have := ihE LOWEST p.next hs.next
      exact parseExprList_cases ⟨ext_next p, hs.next, .nil⟩
        ((ihXL t _ _ this.src (allL_snoc (acc := []) .nil this.node)).after ((ext_next p).trans this.ext))
    · intro t acc p hs hacc
      refine exprListLoop_cases (fun q a => ?_) fun _ => ?_
      · have := (RW.here hs hacc).adv (a.trans (adv_expectPeek q t))
        exact ⟨this, this.ext, this.src, .nil⟩
      · have := (ihE LOWEST p.next.next hs.next.next).after ((ext_next p).trans (ext_next _))
        exact (ihXL t _ _ this.src (allL_snoc (hacc.mono this.ext.dirty) this.node)).after this.ext
    · intro t ps p hs ht hps
      have key : ∀ p0, Adv p p0 → RW S p (parseExpression n LOWEST p0).2
          (Expr.toksP (mapSet ps p.cur.lit (parseExpression n LOWEST p0).1))
          (Expr.badFreePairs (mapSet ps p.cur.lit (parseExpression n LOWEST p0).1)) := fun p0 a => by
        have := (ihE LOWEST p0 (a.tokSrc hs)).after a.ext
        exact ⟨this.ext, this.src, allP_mapSet (hps.mono this.ext.dirty) this.node⟩
      refine parseObjLoop_cases (.here hs (hps.tok ht)) (fun _ _ _ => .err hs _ _ _) (fun p0 a => ?_) (fun p0 a hok => ?_)
        fun p0 a _ => ?_
      · exact ((key p0 a).adv (adv_next _)).tok ht
      · exact ((key p0 a).adv (adv_expectPeek _ .COMMA)).missing hok
      · have := (key p0 a).adv ((adv_expectPeek _ .COMMA).trans (adv_next _))
        exact (ihO t _ _ this.src ht this.node).after this.ext

abbrev SW (S : List Token) (p : PS) (r : Stmt × PS) : Prop :=
  Walk S p r.2 (r.1.isBad = true ∨ All S (Dirty r.2) r.1.toks r.1.badFree)

def BW (S : List Token) (p : PS) (r : List Stmt × PS) : Prop := RW S p r.2 (Stmt.toksL r.1) (Stmt.badFreeList r.1)

theorem SW.nil {p q : PS} (e : Ext p q) (s : TokSrc S q) : SW S p (.bad, q) := ⟨e, s, Or.inl rfl⟩
theorem SW.err {p q : PS} (e : Ext p q) (s : TokSrc S q) (l : Nat) (c : String) (a : List Bytes) : SW S p (.bad, q.err l c a) :=
  .nil (e.trans (ext_err _ _ _ _)) (s.err _ _ _)
theorem SW.of {p q : PS} {s : Stmt} (h : RW S p q s.toks s.badFree) : SW S p (s, q) := ⟨h.ext, h.src, Or.inr h.node⟩

section
variable {pe : Nat → PS → Expr × PS} {pbody : PS → List Stmt × PS}
  {ptail : Token → Expr → List Stmt → List (Expr × List Stmt) → PS → Stmt × PS}

theorem expectThen_all {t : TT} {p : PS} {k : PS → Stmt × PS} (hs : TokSrc S p) (h : ∀ q, Adv p q → SW S q (k q)) :
    SW S p (expectThen t p k) := by
  unfold expectThen
  split
  · exact (h _ (adv_expectPeek p t)).after (ext_expectPeek p t)
  · exact .nil (ext_expectPeek p t) (hs.expectPeek t)

/-- what the `@elseif` loop is given: the pieces of the `@if` node parsed so far -/
def TailArgs (S : List Token) (p : PS) (t : Token) (c : Expr) (cons : List Stmt) (alts : List (Expr × List Stmt)) : Prop :=
  All S (Dirty p) (t :: (c.toks ++ (Stmt.toksL cons ++ Stmt.toksA alts)))
    (c.badFree && Stmt.badFreeList cons && Stmt.badFreeAlts alts)

theorem parseIfStmt_all (hpe : ∀ prec p, TokSrc S p → EW S p (pe prec p)) (hbody : ∀ p, TokSrc S p → BW S p (pbody p))
    (htail : ∀ t c cons alts p, TokSrc S p → TailArgs S p t c cons alts → SW S p (ptail t c cons alts p))
    (p : PS) (hs : TokSrc S p) : SW S p (parseIfStmt pe pbody ptail p) := by
  rw [parseIfStmt_eq]
  refine expectThen_all hs fun p1 a1 => ?_
  have h2 := (hpe LOWEST p1.next (a1.tokSrc hs).next).after (ext_next p1)
  refine (expectThen_all h2.src fun p3 a3 => ?_).after h2.ext
  have h4 := hbody p3 (a3.tokSrc h2.src)
  exact (htail p.cur _ _ [] _ h4.src ((((h2.node.mono (a3.ext.trans h4.ext).dirty).and h4.node).and .nil).assoc.tok hs.cur)).after h4.ext

theorem ifTailBody_all (hpe : ∀ prec p, TokSrc S p → EW S p (pe prec p)) (hbody : ∀ p, TokSrc S p → BW S p (pbody p))
    (htail : ∀ t c cons alts p, TokSrc S p → TailArgs S p t c cons alts → SW S p (ptail t c cons alts p))
    (t : Token) (c : Expr) (cons : List Stmt) (alts : List (Expr × List Stmt)) (p : PS) (hs : TokSrc S p)
    (ha : TailArgs S p t c cons alts) : SW S p (ifTailBody pe pbody ptail t c cons alts p) := by
  rw [ifTailBody_eq]
  refine iteInduction (fun _ => ?_) fun _ => iteInduction (fun _ => ?_) fun _ =>
    expectThen_all hs fun q a => .of (.here (a.tokSrc hs) ?_)
  · have a2 := (adv_expectPeek p .ELSE_IF).trans ((adv_next _).trans (adv_next _))
    have h3 := (hpe LOWEST _ (a2.tokSrc hs)).after a2.ext
    refine (expectThen_all h3.src fun p4 a4 => ?_).after h3.ext
    have h5 := hbody p4 (a4.tokSrc h3.src)
    refine (htail t c cons _ _ h5.src ?_).after h5.ext
    have e5 := a4.ext.trans h5.ext
    have := (ha.mono (h3.ext.trans e5).dirty).and ((h3.node.mono e5.dirty).and h5.node)
    simpa [TailArgs, Stmt.toksA_append, Stmt.badFreeAlts_append, Stmt.toksA, Stmt.badFreeAlts, Bool.and_assoc] using this
  · have h1 := (hbody p.next hs.next).after (ext_next p)
    refine iteInduction (fun _ => .err h1.ext h1.src _ _ _) fun _ =>
      (expectThen_all h1.src fun q a => .of (.here (a.tokSrc h1.src) ?_)).after h1.ext
    have := (ha.mono (h1.ext.trans a.ext).dirty).and (h1.node.mono a.ext.dirty)
    simpa [TailArgs, Stmt.toks, Stmt.badFree, Stmt.toksO, Stmt.badFreeOpt] using this
  · simpa [Stmt.toks, Stmt.badFree, Stmt.toksO, Stmt.badFreeOpt, TailArgs] using ha.mono a.ext.dirty

theorem parseEmbeddedCode_all (hpe : ∀ prec p, TokSrc S p → EW S p (pe prec p)) (p : PS) (hs : TokSrc S p) :
    SW S p (parseEmbeddedCode pe p) :=
  have h1 := hpe LOWEST p.next hs.next
  parseEmbeddedCode_cases (fun _ _ _ _ a => .err a.ext (a.tokSrc hs) _ _ _)
    (fun q a => .of (((hpe _ q (a.tokSrc hs)).tok hs.next.cur).after a.ext))
    fun _ a => .of (((h1.adv a).tok h1.src.cur).after (ext_next p))

theorem parseCondDirective_all (hpe : ∀ prec p, TokSrc S p → EW S p (pe prec p)) {mk : Token → Expr → Stmt}
    (hmk : ∀ t e, (mk t e).toks = t :: e.toks ∧ (mk t e).badFree = e.badFree) (p : PS) (hs : TokSrc S p) :
    SW S p (parseCondDirective pe p mk) := by
  rw [parseCondDirective_eq]
  refine expectThen_all hs fun p1 a1 => .of ?_
  rw [(hmk _ _).1, (hmk _ _).2]
  exact ((hpe _ _ (a1.tokSrc hs).next).tok hs.cur).after (ext_next p1)

theorem loopElse_all (hbody : ∀ p, TokSrc S p → BW S p (pbody p)) (p : PS) (hs : TokSrc S p) :
    RW S p (loopElse pbody p).2 (Stmt.toksO (loopElse pbody p).1) (Stmt.badFreeOpt (loopElse pbody p).1) := by
  unfold loopElse
  simp only []
  split
  · exact (hbody _ hs.next).after (ext_next p)
  · exact .here hs .nil

theorem forClause_all (hpe : ∀ prec p, TokSrc S p → EW S p (pe prec p)) (stop : TT) (p : PS) (hs : TokSrc S p) :
    RW S p (forClause pe stop p).2 (Stmt.toksOS (forClause pe stop p).1) (Stmt.badFreeOptS (forClause pe stop p).1) := by
  unfold forClause
  simp only []
  split
  · have h := parseEmbeddedCode_all hpe p hs
    refine ⟨h.ext, h.src, ?_⟩
    show All S _ (Stmt.toksOS (if _ then none else some _)) (Stmt.badFreeOptS (if _ then none else some _))
    split
    · exact .nil
    · exact h.node.resolve_left ‹_›
  · exact .here hs .nil

theorem forCond_all (hpe : ∀ prec p, TokSrc S p → EW S p (pe prec p)) (p : PS) (hs : TokSrc S p) :
    RW S p (forCond pe p).2 (optT Expr.toks (forCond pe p).1) (optBF Expr.badFree (forCond pe p).1) := by
  unfold forCond
  simp only []
  split
  · have := (hpe LOWEST _ hs.next).after (ext_next p)
    refine ⟨this.ext, this.src, ?_⟩
    show All S _ (optT Expr.toks (if _ then none else some _)) (optBF Expr.badFree (if _ then none else some _))
    split
    · exact .nil
    · exact this.node
  · exact .here hs .nil

theorem loopResult_all (hbody : ∀ p, TokSrc S p → BW S p (pbody p)) {mk : List Stmt → Option (List Stmt) → Stmt} (p : PS)
    (hs : TokSrc S p)
    (h : ∀ body alt q, Ext p q → All S (Dirty q) (Stmt.toksL body ++ Stmt.toksO alt) (Stmt.badFreeList body && Stmt.badFreeOpt alt) →
      All S (Dirty q) (mk body alt).toks (mk body alt).badFree) :
    SW S p (loopResult mk (parseLoopBody pbody p)) := by
  rw [loopResult_eq]
  have h1 := hbody p hs
  have h2 := loopElse_all hbody _ h1.src
  have e2 := h1.ext.trans h2.ext
  exact (expectThen_all h2.src fun q a => .of (.here (a.tokSrc h2.src)
    (h _ _ q (e2.trans a.ext) ((h1.node.mono (h2.ext.trans a.ext).dirty).and (h2.node.mono a.ext.dirty))))).after e2

theorem parseForStmt_all (hpe : ∀ prec p, TokSrc S p → EW S p (pe prec p)) (hbody : ∀ p, TokSrc S p → BW S p (pbody p)) (p : PS)
    (hs : TokSrc S p) : SW S p (parseForStmt pe pbody p) := by
  rw [parseForStmt_eq]
  refine expectThen_all hs fun p1 a1 => ?_
  have h2 := forClause_all hpe .SEMI p1 (a1.tokSrc hs)
  refine (expectThen_all h2.src fun p3 a3 => ?_).after h2.ext
  have h4 := forCond_all hpe p3 (a3.tokSrc h2.src)
  refine (expectThen_all h4.src fun p5 a5 => ?_).after h4.ext
  have h6 := forClause_all hpe .RPAREN p5 (a5.tokSrc h4.src)
  refine (expectThen_all h6.src fun p7 a7 => loopResult_all hbody p7 (a7.tokSrc h6.src) fun body alt q e hba => ?_).after h6.ext
  have e7 := a7.ext.trans e
  have e5 := (a5.ext.trans h6.ext).trans e7
  have e3 := (a3.ext.trans h4.ext).trans e5
  have := (((h2.node.mono e3.dirty).and (h4.node.mono e5.dirty)).and (h6.node.mono e7.dirty)).and hba
  simpa only [Stmt.toks, Stmt.badFree, List.append_assoc, Bool.and_assoc] using this.tok hs.cur

theorem parseEachStmt_all (hpe : ∀ prec p, TokSrc S p → EW S p (pe prec p)) (hbody : ∀ p, TokSrc S p → BW S p (pbody p)) (p : PS)
    (hs : TokSrc S p) : SW S p (parseEachStmt pe pbody p) := by
  rw [parseEachStmt_eq]
  refine expectThen_all hs fun p1 a1 => (expectThen_all (a1.tokSrc hs).next fun p3 a3 => ?_).after (ext_next _)
  have h4 := (hpe LOWEST p3.next (a3.tokSrc (a1.tokSrc hs).next).next).after (ext_next p3)
  refine (expectThen_all h4.src fun p5 a5 => loopResult_all hbody p5 (a5.tokSrc h4.src) fun body alt q e hba => ?_).after h4.ext
  have := (h4.node.mono (a5.ext.trans e).dirty).and hba
  simpa only [Stmt.toks, Stmt.badFree, Bool.and_assoc] using this.tok hs.cur

theorem insertResult_all {p q : PS} {t : Token} {name : Bytes} {arg : Option Expr} {block : Option (List Stmt)}
    (e : Ext p q) (hs : TokSrc S q) (ht : t ∈ S)
    (h : All S (Dirty q) (optT Expr.toks arg ++ Stmt.toksO block) (optBF Expr.badFree arg && Stmt.badFreeOpt block)) :
    SW S p (insertResult t name arg block q) :=
  have e' := ext_setInsert q name { tok := t, name, arg, block } h.2
  .of ⟨e.trans e', hs.setInsert _ _ (h.tok ht).1, (h.tok ht).mono e'.dirty⟩

theorem parseInsertStmt_all (hpe : ∀ prec p, TokSrc S p → EW S p (pe prec p)) (hbody : ∀ p, TokSrc S p → BW S p (pbody p)) (p : PS)
    (hs : TokSrc S p) : SW S p (parseInsertStmt pe pbody p) := by
  rw [parseInsertStmt_eq]
  refine expectThen_all hs fun p1 a1 => ?_
  have s1 := (a1.tokSrc hs).next
  refine iteInduction (fun _ => .err (ext_next _) s1 _ _ _) fun _ =>
    iteInduction (fun _ => ?_) fun _ => (expectThen_all s1 fun p3 a3 => ?_).after (ext_next _)
  · have h3 := (hpe LOWEST p1.next.next.next s1.next.next).after ((ext_next _).trans ((ext_next _).trans (ext_next _)))
    refine insertResult_all h3.ext h3.src hs.cur (All.and ?_ .nil)
    exact iteInduction (motive := fun o => All S _ (optT Expr.toks o) (optBF Expr.badFree o)) (fun _ => .nil) fun _ => h3.node
  · have h4 := hbody p3 (a3.tokSrc s1)
    exact insertResult_all h4.ext h4.src hs.cur (All.and .nil h4.node)

/-- the piece is that of the object literal, if there is one (none without an argument, and none behind an error) -/
theorem componentArg_all (hpe : ∀ prec p, TokSrc S p → EW S p (pe prec p)) (p : PS) (hs : TokSrc S p) :
    RW S p (componentArg pe p).2 (optT (optT Expr.toksP) (componentArg pe p).1) (optBF (optBF Expr.badFreePairs) (componentArg pe p).1) := by
  unfold componentArg
  simp only []
  split
  · have h := (hpe LOWEST p.next.next hs.next.next).after ((ext_next p).trans (ext_next _))
    generalize pe LOWEST p.next.next = q at h ⊢
    split
    · rename_i t pairs heq
      have := h.node
      rw [heq] at this
      exact ⟨h.ext, h.src, this.1.right (a := [t]), this.2⟩
    · exact (RW.err h.src _ _ _).after h.ext
  · exact .here hs .nil

end

def SlotsAll (S : List Token) (D : Prop) (sl : List SlotUse) : Prop := ∀ s ∈ sl, All S D s.toks (Stmt.badFreeList s.body)

abbrev SlW (S : List Token) (p : PS) (r : List SlotUse × PS) : Prop := Walk S p r.2 (SlotsAll S (Dirty r.2) r.1)

theorem SlotsAll.nil {D : Prop} : SlotsAll S D [] := fun _ h => by cases h

theorem SlotsAll.good {D : Prop} {sl : List SlotUse} (h : SlotsAll S D sl) : D ∨ SlotsGood sl :=
  Classical.byCases Or.inl fun nd => Or.inr fun s hs => (h s hs).2.resolve_left nd

section
variable {pe : Nat → PS → Expr × PS} {pl : TT → PS → List Expr × PS} {pst : PS → Stmt × PS}
  {pbody : PS → List Stmt × PS} {pblock : List Stmt → PS → List Stmt × PS}
  {ptail : Token → Expr → List Stmt → List (Expr × List Stmt) → PS → Stmt × PS}
  {pslots : List SlotUse → PS → List SlotUse × PS} {pskip : PS → PS}

theorem componentSlots_all (hslots : ∀ acc p, TokSrc S p → SlotsAll S (Dirty p) acc → SlW S p (pslots acc p)) (p : PS)
    (hs : TokSrc S p) : SlW S p (componentSlots pslots p) :=
  componentSlots_cases ⟨Ext.rfl' p, hs, .nil⟩ fun q a => (hslots [] q (a.tokSrc hs) .nil).after a.ext

theorem parseComponentStmt_all (hpe : ∀ prec p, TokSrc S p → EW S p (pe prec p))
    (hslots : ∀ acc p, TokSrc S p → SlotsAll S (Dirty p) acc → SlW S p (pslots acc p)) (p : PS) (hs : TokSrc S p) :
    SW S p (parseComponentStmt pe pslots p) := by
  unfold parseComponentStmt
  simp only []
  have e1 := ext_expectPeek p .LPAREN
  have s1 := hs.expectPeek .LPAREN
  generalize p.expectPeek .LPAREN = q1 at e1 s1 ⊢
  split
  · exact .nil e1 s1
  · have e2 := ext_aliasPath q1.2.next "components"
    have s2 := s1.next.aliasPath "components"
    generalize aliasPath q1.2.next "components" = q2 at e2 s2 ⊢
    have h3 := (componentArg_all hpe q2.2 s2).after (e1.trans ((ext_next _).trans e2))
    generalize componentArg pe q2.2 = q3 at h3 ⊢
    obtain ⟨argR, p3⟩ := q3
    cases argR with
    | none => exact .nil h3.ext h3.src
    | some arg =>
      simp only []
      have h4 := RW.adv h3 (adv_expectPeek p3 .RPAREN)
      generalize p3.expectPeek .RPAREN = q4 at h4 ⊢
      split
      · exact .nil h4.ext h4.src
      · have h5 := componentSlots_all hslots q4.2 h4.src
        generalize componentSlots pslots q4.2 = q5 at h5 ⊢
        have e6 := ext_addComponent q5.2 { tok := p.cur, name := q2.1, cid := q5.2.nextId, slots := q5.1 } _ (Nat.le_succ _) h5.node.good
        exact .of ⟨(h4.ext.trans h5.ext).trans e6, h5.src.addComponent _ _ (.compUse hs.cur fun s hs' => (h5.node s hs').1),
          (h4.node.mono (h5.ext.trans e6).dirty).tok hs.cur⟩

theorem statementBody_all (hpe : ∀ prec p, TokSrc S p → EW S p (pe prec p)) (hpl : ∀ t p, TokSrc S p → LW S p (pl t p))
    (hbody : ∀ p, TokSrc S p → BW S p (pbody p))
    (htail : ∀ t c cons alts p, TokSrc S p → TailArgs S p t c cons alts → SW S p (ptail t c cons alts p))
    (hslots : ∀ acc p, TokSrc S p → SlotsAll S (Dirty p) acc → SlW S p (pslots acc p)) (p : PS) (hs : TokSrc S p) :
    SW S p (statementBody pe pl pbody ptail pslots p) := by
  have hc := hs.cur
  have leaf : RW S p p [p.cur] true := .here hs (.leaf hc)
  have slot := (adv_next p).trans ((adv_next _).trans (adv_expectPeek _ .RPAREN))
  exact statementBody_cases (.of leaf) (parseEmbeddedCode_all hpe p hs) (parseIfStmt_all hpe hbody htail p hs)
    (parseForStmt_all hpe hbody p hs) (parseEachStmt_all hpe hbody p hs)
    (expectThen_all hs fun q a => .of ⟨(ext_next _).trans ((ext_aliasPath _ _).trans (ext_setUse _ _)),
      ((a.tokSrc hs).next.aliasPath _).setUse _ _ hc, .leaf hc⟩)
    (expectThen_all hs fun q a => .of ⟨(ext_next _).trans (ext_reserve _ _), (a.tokSrc hs).next.reserve _ _, .leaf hc⟩)
    (parseInsertStmt_all hpe hbody p hs) (parseCondDirective_all hpe (fun _ _ => ⟨rfl, rfl⟩) p hs)
    (parseCondDirective_all hpe (fun _ _ => ⟨rfl, rfl⟩) p hs) (parseComponentStmt_all hpe hslots p hs) (.of leaf)
    (.of ⟨slot.ext, slot.tokSrc hs, .leaf hc⟩) (.nil slot.ext (slot.tokSrc hs))
    (expectThen_all hs fun q a => .of ((hpl .RPAREN q (a.tokSrc hs)).tok hc)) (.of leaf) (.of leaf) (.nil (Ext.rfl' p) hs)

theorem bodyBody_all (hblock : ∀ acc p, TokSrc S p → All S (Dirty p) (Stmt.toksL acc) (Stmt.badFreeList acc) → BW S p (pblock acc p))
    (p : PS) (hs : TokSrc S p) : BW S p (bodyBody pblock p) := by
  unfold bodyBody
  split
  · exact .here hs .nil
  · exact (hblock [] p.next hs.next .nil).after (ext_next p)

/-- what the block and program loops do with a parsed statement: a nil one is dropped -/
theorem all_push {D : Prop} {acc : List Stmt} {s : Stmt} (hacc : All S D (Stmt.toksL acc) (Stmt.badFreeList acc))
    (hs : s.isBad = true ∨ All S D s.toks s.badFree) :
    All S D (Stmt.toksL (if s.isBad = true then acc else acc ++ [s])) (Stmt.badFreeList (if s.isBad = true then acc else acc ++ [s])) := by
  split
  · exact hacc
  · rw [Stmt.toksL_append, Stmt.badFreeList_append]
    exact hacc.and (by simpa [Stmt.toksL, Stmt.badFreeList] using hs.resolve_left ‹_›)

theorem blockStmtBody_all (hst : ∀ p, TokSrc S p → SW S p (pst p))
    (hblock : ∀ acc p, TokSrc S p → All S (Dirty p) (Stmt.toksL acc) (Stmt.badFreeList acc) → BW S p (pblock acc p))
    (acc : List Stmt) (p : PS) (hs : TokSrc S p) (hacc : All S (Dirty p) (Stmt.toksL acc) (Stmt.badFreeList acc)) :
    BW S p (blockStmtBody pst pblock acc p) := by
  have h1 := hst p hs
  have hacc' := all_push (hacc.mono h1.ext.dirty) h1.node
  exact blockStmtBody_cases (.here hs hacc) (fun _ _ _ => (RW.here hs hacc).adv (adv_err _ _ _ _))
    (fun _ => ⟨h1.ext, h1.src, hacc'⟩)
    fun _ => (hblock _ _ h1.src.next (hacc'.mono (ext_next _).dirty)).after (h1.ext.trans (ext_next _))

theorem slotsBody_all (hbody : ∀ p, TokSrc S p → BW S p (pbody p))
    (hslots : ∀ acc p, TokSrc S p → SlotsAll S (Dirty p) acc → SlW S p (pslots acc p))
    (hskip : ∀ p, TokSrc S p → RW S p (pskip p) [] true)
    (acc : List SlotUse) (p : PS) (hs : TokSrc S p) (hacc : SlotsAll S (Dirty p) acc) : SlW S p (slotsBody pbody pslots pskip acc p) := by
  unfold slotsBody
  simp only []
  split
  · exact ⟨Ext.rfl' p, hs, hacc⟩
  · have a1 := adv_slotHeader p
    generalize slotHeader p = q1 at a1 ⊢
    obtain ⟨hdr, p1⟩ := q1
    cases hdr with
    | none => exact ⟨a1.ext, a1.tokSrc hs, .nil⟩
    | some name =>
      simp only []
      have h2 := ((hbody p1 (a1.tokSrc hs)).adv ((adv_next _).trans (adv_next _))).after a1.ext
      generalize pbody p1 = q2 at h2 ⊢
      have h3 := hskip _ h2.src
      refine (hslots (acc ++ [{ tok := p.cur, name := name, body := q2.1 }]) (pskip q2.2.next.next) h3.src ?_).after
        (h2.ext.trans h3.ext)
      intro s hsm
      rcases List.mem_append.mp hsm with h | h
      · exact (hacc s h).mono (h2.ext.trans h3.ext).dirty
      · rw [List.mem_singleton.mp h]
        exact (h2.node.mono h3.ext.dirty).tok hs.cur

theorem skipHtmlBody_all (hskip : ∀ p, TokSrc S p → RW S p (pskip p) [] true) (p : PS) (hs : TokSrc S p) :
    RW S p (skipHtmlBody pskip p) [] true := by
  unfold skipHtmlBody
  split
  · exact (hskip _ hs.next).after (ext_next p)
  · exact .here hs .nil

end

theorem stmt_all : ∀ fuel : Nat,
    (∀ p, TokSrc S p → SW S p (parseStatement fuel p)) ∧
    (∀ p, TokSrc S p → BW S p (parseBody fuel p)) ∧
    (∀ acc p, TokSrc S p → All S (Dirty p) (Stmt.toksL acc) (Stmt.badFreeList acc) → BW S p (parseBlockStmt fuel acc p)) ∧
    (∀ t c cons alts p, TokSrc S p → TailArgs S p t c cons alts → SW S p (parseIfTail fuel t c cons alts p)) ∧
    (∀ acc p, TokSrc S p → SlotsAll S (Dirty p) acc → SlW S p (parseSlots fuel acc p)) ∧
    (∀ p, TokSrc S p → RW S p (skipHtml fuel p) [] true) := by
  intro fuel
  induction fuel with
  | zero =>
    have e := fun p => ext_oof p
    exact ⟨fun p hs => .nil (e p) hs.oof, fun _ hs => walk_oof hs, fun _ p hs ha => ⟨e p, hs.oof, ha.mono (e p).dirty⟩,
      fun _ _ _ _ p hs _ => .nil (e p) hs.oof, fun _ p hs ha => ⟨e p, hs.oof, fun s h => (ha s h).mono (e p).dirty⟩,
      fun _ hs => walk_oof hs⟩
  | succ n ih =>
    obtain ⟨ihS, ihB, ihBl, ihT, ihSl, ihSk⟩ := ih
    obtain ⟨hE, _, hL, _, _⟩ := expr_all (S := S) n
    exact ⟨statementBody_all hE hL ihB ihT ihSl, bodyBody_all ihBl, blockStmtBody_all ihS ihBl, ifTailBody_all hE ihB ihT,
      slotsBody_all ihB ihSl ihSk, skipHtmlBody_all ihSk⟩

theorem parseProgramLoop_all : ∀ (fuel : Nat) (acc : List Stmt) (p : PS), TokSrc S p →
    All S (Dirty p) (Stmt.toksL acc) (Stmt.badFreeList acc) →
    RW S p (parseProgramLoop fuel acc p).2 (Stmt.toksO (parseProgramLoop fuel acc p).1) (Stmt.badFreeOpt (parseProgramLoop fuel acc p).1)
  | 0, acc, p, hs, hacc => ⟨ext_oof p, hs.oof, hacc.1, Or.inl (dirty_oof p)⟩
  | fuel + 1, acc, p, hs, hacc => by
    have h1 := (stmt_all (S := S) fuel).1 p hs
    have e1 := h1.ext.trans (ext_next _)
    have := parseProgramLoop_all fuel _ _ h1.src.next (all_push (hacc.mono e1.dirty) (h1.node.imp id (All.mono (ext_next _).dirty)))
    exact parseProgramLoop_cases (motive := fun r => RW S p r.2 (Stmt.toksO r.1) (Stmt.badFreeOpt r.1))
      (.here hs hacc) (fun _ _ _ => (RW.err h1.src _ _ _).after h1.ext) fun _ => this.after e1

structure ParsedAt (lr : LexResult) (base : Nat) (prog : Program) (q : PS) : Prop where
  clean : ¬Dirty q
  walk : RW lr.toks ({ toks := lr.toks, nextId := base } : PS) q (prog.tok :: Stmt.toksL prog.stmts) (Stmt.badFreeList prog.stmts)
  useName : prog.useName = q.useName
  components : prog.components = q.components
  inserts : prog.inserts = q.inserts
  reserves : prog.reserves = q.reserves

theorem parseSource_all {src : Bytes} {base : Nat} {prog : Program} (h : parseSource src base = .ok prog) :
    ∃ lr q, tokenize src = some lr ∧ ParsedAt lr base prog q := by
  unfold parseSource at h
  split at h
  · cases h
  · rename_i lr hlr
    split at h
    · cases h
    · have hne : lr.toks ≠ [] := by
        obtain ⟨sf, hl, _⟩ := tokenize_some hlr
        obtain ⟨ts', e, he, _⟩ := lexAll_ends_eof hl
        rw [he]
        exact List.append_ne_nil_of_right_ne_nil _ (List.cons_ne_nil _ _)
      have h0 := initParser_tokSrc lr.toks base hne
      have hl := (parseProgramLoop_all (parseFuel lr.toks) [] (initParser lr.toks base) h0 .nil).after (adv_initParser lr.toks base).ext
      obtain ⟨he, ho, rfl⟩ := finishParse_eq_ok h
      refine ⟨lr, _, hlr, not_dirty he ho, ⟨hl.ext, hl.src, ?_⟩, rfl, rfl, rfl, rfl⟩
      have hn := hl.node.tok h0.cur
      generalize (parseProgramLoop (parseFuel lr.toks) [] (initParser lr.toks base)).1 = o at hn ⊢
      cases o <;> exact hn

/-- C13 `parsed_tokens_are_tokens_of_the_source`: the statements by the `node` of the walk, the tables (`inserts`, `components`,
    `useName`) by its `TokSrc` -/
theorem parseSource_toks (src : Bytes) (base : Nat) (prog : Program) (h : parseSource src base = .ok prog) :
    ∃ lr, tokenize src = some lr ∧ TIn lr.toks prog.toks := by
  obtain ⟨lr, q, hlr, hp⟩ := parseSource_all h
  refine ⟨lr, hlr, ?_⟩
  unfold Program.toks
  rw [hp.useName, hp.components, hp.inserts]
  refine TIn.append (a := _ :: _) hp.walk.node.1 (TIn.append ?_ (TIn.append ?_ ?_))
  · intro x hx
    obtain ⟨kv, hkv, hxk⟩ := List.mem_flatMap.mp hx
    exact hp.walk.src.ins kv hkv x hxk
  · intro x hx
    obtain ⟨cu, hcu, hxc⟩ := List.mem_flatMap.mp hx
    exact hp.walk.src.comps cu hcu x hxc
  · cases hu : q.useName with
    | none => exact TIn.nil _
    | some u => exact TIn.one (hp.walk.src.use u hu)

theorem parseSource_whole (src : Bytes) (base : Nat) (prog : Program) (h : parseSource src base = .ok prog) :
    prog.Whole := by
  obtain ⟨lr, q, _, hp⟩ := parseSource_all h
  have hg := (hp.walk.ext.good (Or.inr ⟨fun x hx => (by cases hx), fun x hx => (by cases hx)⟩)).resolve_left hp.clean
  have hr' := hp.walk.ext.rinv ⟨fun x hx => (by cases hx), List.Pairwise.nil⟩
  exact ⟨hp.walk.node.2.resolve_left hp.clean, by rw [hp.inserts]; exact hg.1, by rw [hp.components]; exact hg.2,
    by rw [hp.reserves]; exact hr'.2⟩

end Tw
