/-
  TwProofs.Lemmas.TextIfChain — templates of text runs and `@if(c0) t0 @elseif(c1) t1 … [@else te] @end` chains (C02; the
  conditions are names, the branches one text each).  A chain is one piece of code (`KItem.g`, with `chain_ok` of
  Lemmas/LexIfChain) and parses to one `@if` statement with one alternative per `@elseif`, in order (`IfTailAt.alts`, by
  induction over the branches; `StmtAt.if_chain`); the statement loop gives `parse_kitems` (the program matches the items,
  `KMatch`), and `evalProg_kitems` evaluates such a program: of each chain the text of the first branch whose name is
  truthy (`chain_renders`).
-/
import TwProofs.Lemmas.LexIfChain
namespace Tw

theorem parseBody_one_text' (j : Nat) (tp th tn : Token) (rest : List Token) (hth : th.ty = .HTML)
    (htn : tn.ty = .ELSE ∨ tn.ty = .END ∨ tn.ty = .ELSE_IF) (hclean : ∀ x ∈ rest, x.ty ≠ .ILLEGAL) :
    parseBody (j + 3) ({ toks := tp :: th :: tn :: rest } : PS) = ([.html th], { toks := th :: tn :: rest }) :=
  have hn : BlockEnd tn := htn.elim .else fun h => h.elim .end .elseif
  (BodyAt.one_text hth hn (.cons hn.noIll hclean)).on (by omega) rfl

inductive AltsMatch : List (Expr × List Stmt) → List Alt → Prop
  | nil : AltsMatch [] []
  | cons (tc th : Token) (a : Alt) (xs : List (Expr × List Stmt)) (as : List Alt) : th.lit = a.t → AltsMatch xs as →
      AltsMatch ((.ident tc a.c, [.html th]) :: xs) (a :: as)

def ElseMatch (alt : Option (List Stmt)) (els : Option Bytes) : Prop :=
  match els with
  | none => alt = none
  | some te => ∃ th, alt = some [.html th] ∧ th.lit = te

theorem altsKeys_clean (alts : List Alt) : ∀ x ∈ altsKeys alts, x.1 ≠ .ILLEGAL := by
  refine clean_of_all ?_
  induction alts with
  | nil => rfl
  | cons a r ih => simp [altsKeys, Alt.keys, ih]

theorem altsKeys_length : ∀ alts : List Alt, 5 * alts.length ≤ (altsKeys alts).length
  | [] => Nat.le_refl _
  | a :: r => by have := altsKeys_length r; simp [altsKeys, Alt.keys]; omega

theorem tailKeys_clean (els : Option Bytes) : ∀ x ∈ tailKeys els, x.1 ≠ .ILLEGAL := by
  refine clean_of_all ?_
  cases els <;> simp [tailKeys]

theorem NoIll.of_chainKeys {alts : List Alt} {els : Option Bytes} {toks rest : List Token} (hk : toks.map key = altsKeys alts ++ tailKeys els)
    (hrest : NoIll rest) : NoIll (toks ++ rest) :=
  .append (.of_keys hk fun x hx => (List.mem_append.mp hx).elim (altsKeys_clean alts x) (tailKeys_clean els x)) hrest

theorem chain_next_blockEnd (alts : List Alt) (els : Option Bytes) (toks : List Token) (hk : toks.map key = altsKeys alts ++ tailKeys els) :
    ∃ tn r, toks = tn :: r ∧ BlockEnd tn := by
  cases alts with
  | nil =>
    cases els with
    | none => obtain ⟨tn, r, rfl, ty, _, _⟩ := map_key_cons hk; exact ⟨tn, r, rfl, .end ty⟩
    | some te => obtain ⟨tn, r, rfl, ty, _, _⟩ := map_key_cons hk; exact ⟨tn, r, rfl, .else ty⟩
  | cons a r' => obtain ⟨tn, r, rfl, ty, _, _⟩ := map_key_cons hk; exact ⟨tn, r, rfl, .elseif ty⟩

/-- the `@elseif` branches, the `@else` and the `@end`, with the cursor on the text of the branch before -/
theorem IfTailAt.alts (els : Option Bytes) (t : Token) (c : Expr) (cons : List Stmt) {rest : List Token} (hrest : NoIll rest) :
    ∀ (alts : List Alt) (toks : List Token) (tp : Token) (acc : List (Expr × List Stmt)), toks.map key = altsKeys alts ++ tailKeys els →
      ∃ alts' alt' tEnd, IfTailAt (alts.length + 4) t c cons acc (tp :: (toks ++ rest)) (.ifS t c cons (acc ++ alts') alt') (tEnd :: rest) ∧
        tEnd.ty = .END ∧ AltsMatch alts' alts ∧ ElseMatch alt' els
  | [], toks, tp, acc, hk => by
    cases els with
    | none =>
      obtain ⟨tEnd, _, rfl, hEnd, _, hk⟩ := map_key_cons hk
      cases List.map_eq_nil_iff.mp hk
      refine ⟨[], none, tEnd, ?_, hEnd, .nil, rfl⟩
      rw [List.append_nil]
      exact (IfTailAt.end hEnd hrest).mono (by simp)
    | some te =>
      have cAll : NoIll (toks ++ rest) := NoIll.of_chainKeys (alts := []) hk hrest
      obtain ⟨t6, _, rfl, h6, _, hk⟩ := map_key_cons hk
      obtain ⟨t7, _, rfl, h7, l7, hk⟩ := map_key_cons hk
      obtain ⟨t8, _, rfl, h8, _, hk⟩ := map_key_cons hk
      cases List.map_eq_nil_iff.mp hk
      refine ⟨[], some [.html t7], t8, ?_, h8, .nil, ⟨t7, rfl, l7⟩⟩
      rw [List.append_nil]
      exact (IfTailAt.else h6 cAll.tail (.one_text h7 (.end h8) (cAll.drop 2)) h8 hrest).mono (by simp)
  | a :: r, toks, tp, acc, hk => by
    have cAll : NoIll (toks ++ rest) := NoIll.of_chainKeys hk hrest
    obtain ⟨e1, _, rfl, y1, _, hk⟩ := map_key_cons hk
    obtain ⟨e2, _, rfl, y2, _, hk⟩ := map_key_cons hk
    obtain ⟨e3, _, rfl, y3, l3, hk⟩ := map_key_cons hk
    obtain ⟨e4, _, rfl, y4, _, hk⟩ := map_key_cons hk
    obtain ⟨e5, toks', rfl, y5, l5, hkr⟩ := map_key_cons hk
    have hkr : toks'.map key = altsKeys r ++ tailKeys els := hkr
    obtain ⟨tn, tr, rfl, htn⟩ := chain_next_blockEnd r els toks' hkr
    obtain ⟨alts', alt', tEnd, hrec, hEnd, hm1, hm2⟩ := IfTailAt.alts els t c cons hrest r (tn :: tr) e5
      (acc ++ [(.ident e3 e3.lit, [.html e5])]) hkr
    rw [List.append_assoc] at hrec
    refine ⟨(.ident e3 e3.lit, [.html e5]) :: alts', alt', tEnd, ?_, hEnd, by rw [l3]; exact .cons e3 e5 a alts' r l5 hm1, hm2⟩
    exact (IfTailAt.elseif y1 cAll.tail (.ident_rparen y3 y4) y4 (cAll.drop 4) (.one_text y5 htn (cAll.drop 5)) hrec).mono
      (by simp only [List.length_cons]; omega)

theorem parse_tail_alts (els : Option Bytes) (t : Token) (c : Expr) (cons : List Stmt) (rest : List Token)
    (hrest : ∀ x ∈ rest, x.ty ≠ .ILLEGAL) :
    ∀ (alts : List Alt) (toks : List Token) (hp : Token) (acc : List (Expr × List Stmt)) (f : Nat),
      toks.map key = altsKeys alts ++ tailKeys els → alts.length + 5 ≤ f →
      ∃ alts' alt' tEnd, parseIfTail f t c cons acc ({ toks := hp :: (toks ++ rest) } : PS) =
          (.ifS t c cons (acc ++ alts') alt', { toks := tEnd :: rest }) ∧ tEnd.ty = .END ∧ AltsMatch alts' alts ∧ ElseMatch alt' els := by
  intro alts toks hp acc f hk hf
  obtain ⟨alts', alt', tEnd, h, hEnd, hm1, hm2⟩ := IfTailAt.alts els t c cons hrest alts toks hp acc hk
  exact ⟨alts', alt', tEnd, h.on (by omega) rfl, hEnd, hm1, hm2⟩

def chainKeys (ch : Chain) : List (TT × Bytes) := ch.code.keys

theorem chainKeys_clean (ch : Chain) : ∀ x ∈ chainKeys ch, x.1 ≠ .ILLEGAL :=
  clean_of_all (by simp [chainKeys, Chain.code, all_of_clean (altsKeys_clean _), all_of_clean (tailKeys_clean _)])

theorem StmtAt.if_chain (ch : Chain) {toks rest : List Token} (hk : toks.map key = chainKeys ch) (hrest : NoIll rest) :
    ∃ t1 t3 t5 alts' alt' tEnd, StmtAt (ch.alts.length + 5) (toks ++ rest) (.ifS t1 (.ident t3 ch.c) [.html t5] alts' alt') (tEnd :: rest) ∧
      tEnd.ty = .END ∧ t5.lit = ch.t ∧ AltsMatch alts' ch.alts ∧ ElseMatch alt' ch.els := by
  have cAll : NoIll (toks ++ rest) := .append (.of_keys hk (chainKeys_clean ch)) hrest
  obtain ⟨t1, _, rfl, y1, _, hk⟩ := map_key_cons hk
  obtain ⟨t2, _, rfl, y2, _, hk⟩ := map_key_cons hk
  obtain ⟨t3, _, rfl, y3, l3, hk⟩ := map_key_cons hk
  obtain ⟨t4, _, rfl, y4, _, hk⟩ := map_key_cons hk
  obtain ⟨t5, toks', rfl, y5, l5, hkr⟩ := map_key_cons hk
  have l3 : t3.lit = ch.c := l3
  have hkr : toks'.map key = altsKeys ch.alts ++ tailKeys ch.els := hkr
  obtain ⟨tn, tr, rfl, htn⟩ := chain_next_blockEnd ch.alts ch.els toks' hkr
  obtain ⟨alts', alt', tEnd, htail, hEnd, hm1, hm2⟩ := IfTailAt.alts ch.els t1 (.ident t3 t3.lit) [.html t5] hrest ch.alts (tn :: tr) t5 [] hkr
  rw [List.nil_append] at htail
  refine ⟨t1, t3, t5, alts', alt', tEnd, ?_, hEnd, l5, hm1, hm2⟩
  rw [← l3]
  exact (StmtAt.ifS y1 y2 (cAll.drop 2) (.ident_rparen y3 y4) y4 (cAll.drop 4) (.one_text y5 htn (cAll.drop 5)) htail).mono
    (by omega)

theorem parse_chain_stmt (ch : Chain) (toks rest : List Token) (hk : toks.map key = chainKeys ch) (hrest : ∀ x ∈ rest, x.ty ≠ .ILLEGAL)
    (f : Nat) (hf : ch.alts.length + 7 ≤ f) :
    ∃ t1 t3 t5 alts' alt' tEnd, parseStatement f ({ toks := toks ++ rest } : PS) =
        (.ifS t1 (.ident t3 ch.c) [.html t5] alts' alt', { toks := tEnd :: rest }) ∧ tEnd.ty = .END ∧ t5.lit = ch.t ∧
      AltsMatch alts' ch.alts ∧ ElseMatch alt' ch.els := by
  obtain ⟨t1, t3, t5, alts', alt', tEnd, hst, h⟩ := StmtAt.if_chain ch hk hrest
  exact ⟨t1, t3, t5, alts', alt', tEnd, hst.on (by omega) rfl, h⟩

open Lx

inductive KItem where
  | text (segs : List Seg)
  | chain (ch : Chain)

def KItem.g : KItem → GItem
  | .text segs => .text segs
  | .chain ch => .code ch.code

def chainTplSrc (items : List KItem) : Bytes := gsrc (items.map KItem.g)

def afterRunK (segs : List Seg) : List KItem → Prop
  | [] => True
  | .text _ :: _ => False
  | .chain _ :: _ => lastOr (segsSrc segs) 0 ≠ 92

def KItemsOK : List KItem → Prop
  | [] => True
  | .text segs :: r => startsRun segs ∧ SegsOK segs (chainTplSrc r) ∧ afterRunK segs r ∧ KItemsOK r
  | .chain ch :: r => ch.OK ∧ KItemsOK r

instance (segs : List Seg) : (r : List KItem) → Decidable (afterRunK segs r)
  | [] => isTrue trivial
  | .text _ :: _ => isFalse (by simp [afterRunK])
  | .chain _ :: _ => by unfold afterRunK; exact inferInstance

instance : (items : List KItem) → Decidable (KItemsOK items)
  | [] => isTrue trivial
  | .text segs :: r => by have := instDecidableKItemsOK r; unfold KItemsOK; exact inferInstance
  | .chain ch :: r => by have := instDecidableKItemsOK r; unfold KItemsOK; exact inferInstance

theorem KItemsOK.gitems : ∀ items : List KItem, KItemsOK items → GItemsOK (items.map KItem.g) :=
  gitemsOK_map KItem.g KItemsOK (fun i r h => by
    cases i with
    | text segs =>
      obtain ⟨hst, hsegs, hafter, hr⟩ := h
      exact ⟨hr, hst, hsegs, by cases r with | nil => trivial | cons j _ => cases j <;> exact hafter⟩
    | chain ch => exact ⟨h.2, chain_ok ch h.1⟩)

def kkeys : List KItem → List (TT × Bytes)
  | [] => []
  | .text segs :: r => (.HTML, segsLit segs) :: kkeys r
  | .chain ch :: r => chainKeys ch ++ kkeys r

theorem gkeys_kitems : ∀ items : List KItem, gkeys (items.map KItem.g) = kkeys items :=
  gkeys_map KItem.g kkeys rfl (fun i r => by cases i <;> simp [kkeys, KItem.g, chainKeys, gkeys])

theorem kkeys_clean (items : List KItem) : ∀ x ∈ kkeys items, x.1 ≠ .ILLEGAL := by
  refine clean_of_all ?_
  induction items with
  | nil => rfl
  | cons it r ih => cases it <;> simp [kkeys, ih, all_of_clean (chainKeys_clean _)]

def ChainStmt (ch : Chain) (st : Stmt) : Prop :=
  ∃ t1 t3 t5 alts' alt', st = .ifS t1 (.ident t3 ch.c) [.html t5] alts' alt' ∧ t5.lit = ch.t ∧ AltsMatch alts' ch.alts ∧ ElseMatch alt' ch.els

inductive KMatch : List Stmt → List KItem → Prop
  | nil : KMatch [] []
  | text (t : Token) (segs : List Seg) (ss : List Stmt) (r : List KItem) : t.lit = segsLit segs → KMatch ss r →
      KMatch (.html t :: ss) (.text segs :: r)
  | chain (st : Stmt) (ch : Chain) (ss : List Stmt) (r : List KItem) : ChainStmt ch st → KMatch ss r → KMatch (st :: ss) (.chain ch :: r)

/-- as `xpfuel`; `StmtAt.if_chain` is graded `alts.length + 5` -/
def kpfuel : List KItem → Nat
  | [] => 1
  | .text _ :: r => 2 + kpfuel r
  | .chain ch :: r => ch.alts.length + 9 + kpfuel r

theorem parseLoop_kitems : ∀ (items : List KItem) (toks : List Token) (e : Token) (acc : List Stmt) (f : Nat),
    toks.map key = kkeys items → e.ty = .EOF → kpfuel items ≤ f →
    ∃ stmts, parseProgramLoop f acc ({ toks := toks ++ [e] } : PS) = (some (acc ++ stmts), { toks := [e] }) ∧ KMatch stmts items
  | [], toks, e, acc, f, hk, he, hf => by
    cases List.map_eq_nil_iff.mp hk
    obtain ⟨g, rfl⟩ : ∃ g, f = g + 1 := ⟨f - 1, by simp [kpfuel] at hf; omega⟩
    exact ⟨[], by rw [loop_eof g acc _ e [] rfl he, List.append_nil]; rfl, .nil⟩
  | .text segs :: r, toks, e, acc, f, hk, he, hf => by
    obtain ⟨t, rest, rfl, ht, hlit, hkr⟩ := map_key_cons hk
    obtain ⟨g, rfl⟩ : ∃ g, f = g + 1 := ⟨f - 1, by simp [kpfuel] at hf; omega⟩
    obtain ⟨stmts, h1, h2⟩ := parseLoop_kitems r rest e (acc ++ [.html t]) g hkr he (by simp [kpfuel] at hf; omega)
    exact ⟨.html t :: stmts, loop_text ht rfl (NoIll.of_keys_eof hkr (kkeys_clean r) he) (by simp [kpfuel] at hf; omega) h1,
      .text t segs stmts r hlit h2⟩
  | .chain ch :: r, toks, e, acc, f, hk, he, hf => by
    obtain ⟨ctoks, rest, rfl, hkc, hkr⟩ := List.map_eq_append_iff.mp hk
    have hcl : NoIll (rest ++ [e]) := NoIll.of_keys_eof hkr (kkeys_clean r) he
    obtain ⟨g, rfl⟩ : ∃ g, f = g + 1 := ⟨f - 1, by simp [kpfuel] at hf; omega⟩
    obtain ⟨t1, t3, t5, alts', alt', tEnd, hst, hEnd, hl5, hm1, hm2⟩ := StmtAt.if_chain ch hkc hcl
    obtain ⟨stmts, h1, h2⟩ := parseLoop_kitems r rest e (acc ++ [.ifS t1 (.ident t3 ch.c) [.html t5] alts' alt']) g hkr he
      (by simp [kpfuel] at hf; omega)
    obtain ⟨c0, cr, rfl, hc0, _, _⟩ := map_key_cons hkc
    refine ⟨_ :: stmts, ?_, .chain _ ch stmts r ⟨t1, t3, t5, alts', alt', rfl, hl5, hm1, hm2⟩ h2⟩
    rw [List.append_assoc]
    exact loop_cons hst rfl (by simp [hc0]) rfl (by simp [hEnd]) (by simp) hcl (by simp [kpfuel] at hf; omega) h1

theorem kpfuel_le : ∀ items : List KItem, kpfuel items ≤ 4 * (kkeys items).length + 1
  | [] => Nat.le_refl _
  | .text _ :: r => by have := kpfuel_le r; simp [kpfuel, kkeys]; omega
  | .chain ch :: r => by
    have := kpfuel_le r
    have := altsKeys_length ch.alts
    simp [kpfuel, kkeys, chainKeys, Chain.code]; omega

theorem parse_kitems (items : List KItem) (hok : KItemsOK items) :
    ∃ prog, parseSource (chainTplSrc items) = .ok prog ∧ KMatch prog.stmts items := by
  obtain ⟨toks, e, hk, he, hfuel, hfin⟩ := parseSource_gitems _ (KItemsOK.gitems items hok) (gkeys_kitems items) (kkeys_clean items) 0
  obtain ⟨stmts, h1, h2⟩ := parseLoop_kitems items toks e [] (parseFuel (toks ++ [e])) hk he (by rw [hfuel]; have := kpfuel_le items; omega)
  exact ⟨_, hfin stmts _ h1 rfl rfl, h2⟩

def altsOut (env : Env) : List Alt → Option Bytes → Bytes
  | [], els => els.getD []
  | a :: r, els => if truthyOf env a.c then a.t else altsOut env r els

def chainOut (env : Env) (ch : Chain) : Bytes := if truthyOf env ch.c then ch.t else altsOut env ch.alts ch.els

def altsBound (env : Env) : List Alt → Prop
  | [] => True
  | a :: r => (env.get a.c).isSome = true ∧ (truthyOf env a.c = false → altsBound env r)

def chainBound (env : Env) (ch : Chain) : Prop := (env.get ch.c).isSome = true ∧ (truthyOf env ch.c = false → altsBound env ch.alts)

theorem evalElseIfs_alts (c : Ctx) (env : Env) (els : Option Bytes) (alt' : Option (List Stmt)) (hel : ElseMatch alt' els) :
    ∀ (alts' : List (Expr × List Stmt)) (alts : List Alt), AltsMatch alts' alts → altsBound env alts → ∀ f, alts.length + 4 ≤ f →
      evalElseIfs f c env alts' alt' = .ok ({ text := altsOut env alts els }, env) := by
  intro alts' alts hm
  induction hm with
  | nil =>
    intro _ f hf
    obtain ⟨g, rfl⟩ : ∃ g, f = g + 3 := ⟨f - 3, by simp at hf; omega⟩
    rw [show g + 3 = (g + 2) + 1 from rfl, evalElseIfs_nil]
    cases els with
    | none =>
      have : alt' = none := hel
      subst this
      simp [altsOut]
    | some te =>
      obtain ⟨th, h1, h2⟩ := hel
      subst h1
      simp only []
      rw [evalBlock_one_text c _ _ (Nat.le_add_left 2 _), Res.bind_ok]
      simp [altsOut, h2]
  | cons tc th a xs as hlit _ ih =>
    intro hb f hf
    obtain ⟨g, rfl⟩ : ∃ g, f = g + 4 := ⟨f - 4, by simp at hf; omega⟩
    obtain ⟨hbound, hrest⟩ := hb
    obtain ⟨v, hv⟩ := Option.isSome_iff_exists.mp hbound
    rw [show g + 4 = (g + 3) + 1 from rfl, evalElseIfs_cons]
    have he : evalExpr (g + 3) c env (.ident tc a.c) = .ok v := by simp [evalExpr, hv]
    rw [he, Res.bind_ok]
    by_cases ht : isTruthy v = true
    · rw [if_pos ht, show g + 3 = (g + 1) + 2 from rfl, evalBlock_one_text c _ _ (Nat.le_add_left 2 _), Res.bind_ok]
      simp [altsOut, truthyOf, hv, ht, hlit]
    · rw [if_neg ht]
      have htf : truthyOf env a.c = false := by simp [truthyOf, hv]; simpa using ht
      rw [ih (hrest htf) (g + 3) (by simp at hf; omega)]
      simp [altsOut, htf]

theorem chain_renders (c : Ctx) (env : Env) (ch : Chain) (st : Stmt) (hst : ChainStmt ch st) (hb : chainBound env ch)
    (f : Nat) (hf : ch.alts.length + 5 ≤ f) :
    evalStmt (f + 1) c env st = .ok ({ text := chainOut env ch }, env) := by
  obtain ⟨t1, t3, t5, alts', alt', rfl, hl5, hm1, hm2⟩ := hst
  exact evalElseIfs_alts c env ch.els alt' hm2 _ _ (.cons t3 t5 ⟨ch.g1, ch.c, ch.g2, ch.t⟩ _ _ hl5 hm1) hb (f + 1)
    (by simp only [List.length_cons]; omega)

def krender (env : Env) : List KItem → Bytes
  | [] => []
  | .text segs :: r => segsLit segs ++ krender env r
  | .chain ch :: r => chainOut env ch ++ krender env r

def kbound (env : Env) : List KItem → Prop
  | [] => True
  | .text _ :: r => kbound env r
  | .chain ch :: r => chainBound env ch ∧ kbound env r

/-- as `xneed`; a chain needs `alts.length + 6` (`chain_renders`) -/
def kneed : List KItem → Nat
  | [] => 1
  | .text _ :: r => 1 + max 1 (kneed r)
  | .chain ch :: r => 1 + max (ch.alts.length + 6) (kneed r)

theorem yieldsAll_kitems (c : Ctx) (env : Env) : ∀ (ss : List Stmt) (items : List KItem), KMatch ss items → kbound env items →
    YieldsAll c env ss (krender env items) env (kneed items) := by
  intro ss items hm
  induction hm with
  | nil => intro _; exact .nil env 0
  | text t segs ss r hlit _ ih =>
    intro hb
    rw [krender, ← hlit]
    exact .cons' (Renders.html c env t) (ih hb)
  | chain st ch ss r hst _ ih =>
    intro hb
    refine .cons' (fun f hf => ?_) (ih hb.2)
    obtain ⟨g, rfl⟩ : ∃ g, f = g + 1 := ⟨f - 1, by omega⟩
    exact chain_renders c env ch st hst hb.1 g (by omega)

theorem evalProg_kitems (c : Ctx) (env : Env) : ∀ (ss : List Stmt) (items : List KItem), KMatch ss items → kbound env items →
    ∀ (fuel : Nat) (acc : Bytes), kneed items ≤ fuel → evalProg fuel c env ss acc = .ok (acc ++ krender env items, env) :=
  fun ss items hm hb fuel acc hf => (yieldsAll_kitems c env ss items hm hb).evalProg fuel acc hf

end Tw
