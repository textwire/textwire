/-
  TwProofs.C16 — a render depends only on its arguments, not on earlier calls.
-/
import TwModel

namespace Tw.C16
open Tw

/-- the rendering operations on a loaded template -/
inductive ROp where
  | str (name : Bytes) (data : List (Bytes × GoVal))
  | resp (name : Bytes) (data : List (Bytes × GoVal))
  | evs (src : Bytes) (data : List (Bytes × GoVal))
  | evf (path : Bytes) (data : List (Bytes × GoVal))

/-- what a caller observes of one operation -/
inductive Obs where
  | out (o : EvalOut)
  | resp (r : RespOut)

def step (cwd : Bytes) (t : Template) (w : World) : ROp → World × Obs
  | .str name data => (w, .out (tplString w t name data))
  | .resp name data => let (w', r) := tplResponse w t name data cwd; (w', .resp r)
  | .evs src data => let (w', r) := evaluateString w src data; (w', .out r)
  | .evf path data => let (w', r) := evaluateFile w path data; (w', .out r)

def SameButFlag (a c : World) : Prop := a.cfg = c.cfg ∧ a.custom = c.custom ∧ a.fs = c.fs

theorem SameButFlag.rfl' (w : World) : SameButFlag w w := ⟨rfl, rfl, rfl⟩

theorem SameButFlag.trans {a c d : World} (h1 : SameButFlag a c) (h2 : SameButFlag c d) : SameButFlag a d :=
  ⟨h1.1.trans h2.1, h1.2.1.trans h2.2.1, h1.2.2.trans h2.2.2⟩

theorem evaluateString_frame (w : World) (src : Bytes) (data : List (Bytes × GoVal)) :
    SameButFlag (evaluateString w src data).1 w := ⟨rfl, rfl, rfl⟩

theorem errorPage_frame (w : World) (f : Fail) (cwd : Bytes) : SameButFlag (errorPage w f cwd).1 w := ⟨rfl, rfl, rfl⟩

theorem tplResponse_fst (w : World) (t : Template) (name : Bytes) (data : List (Bytes × GoVal)) (cwd : Bytes) :
    (tplResponse w t name data cwd).1 = w ∨ (tplResponse w t name data cwd).1 = { w with uses := false } := by
  unfold tplResponse
  cases tplString w t name data with
  | fail f =>
    dsimp only
    split
    · cases tplString w t w.cfg.errPage [] <;> exact Or.inl rfl
    · -- the built-in page is rendered through `evaluateString`, which stores the flag
      have hw : (errorPage w f cwd).1 = { w with uses := false } := rfl
      revert hw
      cases errorPage w f cwd with
      | mk w' r => cases r <;> exact Or.inr
  | _ => exact Or.inl rfl

theorem step_fst (cwd : Bytes) (t : Template) (w : World) (op : ROp) :
    (step cwd t w op).1 = w ∨ (step cwd t w op).1 = { w with uses := false } := by
  cases op with
  | str name data => exact Or.inl rfl
  | evs src data => exact Or.inr rfl
  | evf path data => right; simp only [step, evaluateFile]; split <;> rfl
  | resp name data => exact tplResponse_fst w t name data cwd

/-- **state frame**: a render leaves the configuration, the registered functions and the files
    as they were (only the mode flag may be written, and no render reads it) -/
theorem render_state_frame (cwd : Bytes) (t : Template) (w : World) (op : ROp) : SameButFlag (step cwd t w op).1 w := by
  rcases step_fst cwd t w op with h | h <;> rw [h] <;> exact ⟨rfl, rfl, rfl⟩

/-- `Template.String` is a function of configuration and registered functions only -/
theorem tplString_pure (w : World) (t : Template) (name : Bytes) (data : List (Bytes × GoVal)) :
    tplString w t name data = tplString { cfg := w.cfg, custom := w.custom } t name data := rfl

/-- `Template.Response` is a function of configuration and registered functions only -/
theorem tplResponse_pure (w : World) (t : Template) (name : Bytes) (data : List (Bytes × GoVal)) (cwd : Bytes) :
    (tplResponse w t name data cwd).2 = (tplResponse { cfg := w.cfg, custom := w.custom } t name data cwd).2 := by
  unfold tplResponse
  rw [tplString_pure w t name]
  cases tplString { cfg := w.cfg, custom := w.custom } t name data with
  | ok out => rfl
  | panic why => rfl
  | oof => rfl
  | fail f =>
    simp only
    split
    · rw [tplString_pure w t w.cfg.errPage]
      cases tplString { cfg := w.cfg, custom := w.custom } t w.cfg.errPage [] <;> rfl
    · have e1 : (errorPage w f cwd).2 = (errorPage { cfg := w.cfg, custom := w.custom } f cwd).2 := rfl
      cases h1 : errorPage w f cwd with
      | mk w1 r1 =>
        cases h2 : errorPage { cfg := w.cfg, custom := w.custom } f cwd with
        | mk w2 r2 =>
          rw [h1, h2] at e1
          simp only at e1
          subst e1
          cases r1 <;> rfl

theorem evaluateFile_pure (w : World) (path : Bytes) (data : List (Bytes × GoVal)) :
    (evaluateFile w path data).2 = (evaluateFile { cfg := w.cfg, custom := w.custom, fs := w.fs } path data).2 := by
  unfold evaluateFile
  cases readFile w.fs path <;> rfl

theorem obs_congr (cwd : Bytes) (t : Template) (a c : World) (h : SameButFlag a c) (op : ROp) :
    (step cwd t a op).2 = (step cwd t c op).2 := by
  obtain ⟨h1, h2, h3⟩ := h
  cases op with
  | str name data =>
    simp only [step]
    rw [tplString_pure a, tplString_pure c, h1, h2]
  | evs src data => simp only [step, evaluateString, h2]
  | evf path data =>
    simp only [step]
    rw [evaluateFile_pure a, evaluateFile_pure c, h1, h2, h3]
  | resp name data =>
    simp only [step]
    rw [tplResponse_pure a, tplResponse_pure c, h1, h2]

def run (cwd : Bytes) (t : Template) (w : World) : List ROp → World
  | [] => w
  | op :: r => run cwd t (step cwd t w op).1 r

theorem run_frame (cwd : Bytes) (t : Template) : ∀ (h : List ROp) (w : World), SameButFlag (run cwd t w h) w := by
  intro h
  induction h with
  | nil => exact .rfl'
  | cons op r ih => exact fun w => (ih _).trans (render_state_frame cwd t w op)

/-- **history independence**: after *any* history of rendering operations — successful or
    failing renders, error pages written through Response, string or file evaluations — an
    operation returns exactly what it returns when issued first -/
theorem history_independent (cwd : Bytes) (t : Template) (w : World) (h : List ROp) (op : ROp) :
    (step cwd t (run cwd t w h) op).2 = (step cwd t w op).2 :=
  obs_congr cwd t _ _ (run_frame cwd t h w) op

end Tw.C16
