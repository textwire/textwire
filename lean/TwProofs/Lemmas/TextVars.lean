/-
  TwProofs.Lemmas.TextVars — templates of text, comments and `{{ name }}` blocks, from the source bytes to the output
  (C05; used by C12 and C07): text tokens and LBRACES IDENT RBRACES per block whatever white space surrounds the
  name (`lexAll_vitems`, which counts `NextToken` bodies by `vfuel`), one statement per text token and per block,
  the text with the value of each name in its place.  A later language does not count: its lexer induction is
  written from `Ready.print` / `Ready.block` and `Lexes.item`; its parse starts from `parseSource_keys` and takes
  the tokens apart by `map_key_cons`.
-/
import TwProofs.Lemmas.TextRuns
import TwProofs.Lemmas.Lexemes
import TwProofs.Lemmas.SimpleBlock
namespace Tw
open Lx

inductive VItem where
  | text (segs : List Seg)
  | comment (cm : Bytes)
  | print (g1 n g2 : Bytes)

def VItem.src : VItem → Bytes
  | .text segs => segsSrc segs
  | .comment cm => [123, 123, 45, 45] ++ cm ++ [45, 45, 125, 125]
  | .print g1 n g2 => [123, 123] ++ g1 ++ n ++ g2 ++ [125, 125]

def vitemsSrc : List VItem → Bytes
  | [] => []
  | i :: r => i.src ++ vitemsSrc r

def vkeys : List VItem → List (TT × Bytes)
  | [] => []
  | .text segs :: r => (.HTML, segsLit segs) :: vkeys r
  | .comment _ :: r => vkeys r
  | .print _ n _ :: r => (.LBRACES, [123, 123]) :: (.IDENT, n) :: (.RBRACES, [125, 125]) :: vkeys r

def afterRunV (segs : List Seg) : List VItem → Prop
  | [] => True
  | .text _ :: _ => False
  | _ :: _ => lastOr (segsSrc segs) 0 ≠ 92

def VItemsOK : List VItem → Prop
  | [] => True
  | .comment cm :: r => commentScan (cm ++ [45, 45, 125, 125] ++ vitemsSrc r) = cm.length ∧ VItemsOK r
  | .text segs :: r => startsRun segs ∧ SegsOK segs (vitemsSrc r) ∧ afterRunV segs r ∧ VItemsOK r
  | .print g1 n g2 :: r => allWs g1 ∧ allWs g2 ∧ isName n ∧ VItemsOK r

instance (segs : List Seg) : (r : List VItem) → Decidable (afterRunV segs r)
  | [] => isTrue trivial
  | .text _ :: _ => isFalse (by simp [afterRunV])
  | .comment _ :: _ => by unfold afterRunV; exact inferInstance
  | .print _ _ _ :: _ => by unfold afterRunV; exact inferInstance

instance : (items : List VItem) → Decidable (VItemsOK items)
  | [] => isTrue trivial
  | .comment cm :: r =>
    have : Decidable (VItemsOK r) := instDecidableVItemsOK r
    by unfold VItemsOK; exact inferInstance
  | .text segs :: r =>
    have : Decidable (VItemsOK r) := instDecidableVItemsOK r
    by unfold VItemsOK; exact inferInstance
  | .print g1 n g2 :: r =>
    have : Decidable (VItemsOK r) := instDecidableVItemsOK r
    by unfold VItemsOK; exact inferInstance

def vfuel : List VItem → Nat
  | [] => 0
  | .print _ _ _ :: r => 3 + vfuel r
  | _ :: r => 1 + vfuel r

theorem Ready.block {s : Lx} (h : Ready s) {k1 k2 k3 : TT × Bytes} {tl : Bytes}
    (hb : ∃ t1 t2 t3 s3, Run s [t1, t2, t3] s3 ∧ key t1 = k1 ∧ key t2 = k2 ∧ key t3 = k3 ∧ s3.rest = tl ∧ s3.isHTML = true ∧
      s3.braces = 0 ∧ s3.panicked = s.panicked ∧ s3.prev = 125 ∧ s3.isDirective = s.isDirective ∧ s3.parens = s.parens) :
    ReadsTo s [k1, k2, k3] tl := by
  obtain ⟨t1, t2, t3, s3, run, k1, k2, k3, r3, h3, b3, p3, pv3, d3, pa3⟩ := hb
  exact ⟨[t1, t2, t3], s3, run, by rw [List.map_cons, List.map_cons, List.map_singleton, k1, k2, k3], r3,
    ⟨h3, b3, pa3.trans h.parens, d3.trans h.dir, p3.trans h.pan⟩, fun _ => by rw [pv3]; decide⟩

theorem Ready.print {s : Lx} (h : Ready s) {g1 n g2 tl : Bytes} (hg1 : allWs g1) (hg2 : allWs g2) (hn : isName n)
    (hr : s.rest = [123, 123] ++ g1 ++ n ++ g2 ++ [125, 125] ++ tl) :
    ReadsTo s [(.LBRACES, [123, 123]), (.IDENT, n), (.RBRACES, [125, 125])] tl :=
  h.block (lex_print s g1 n g2 tl h.html h.braces hg1 hg2 hn hr)

theorem afterRunV_stops (segs : List Seg) : ∀ r : List VItem, afterRunV segs r →
    Stops (vitemsSrc r) ∧ (vitemsSrc r ≠ [] → lastOr (segsSrc segs) 0 ≠ 92) :=
  Stops.after_run rfl fun it _ h => by
    cases it with
    | text _ => exact h.elim
    | comment _ => exact ⟨.braces _, h⟩
    | print _ _ _ => exact ⟨.braces _, h⟩

/-- C05 `text_comments_and_variables_tokens`, through `tokenize_vitems` -/
theorem lexAll_vitems : ∀ (items : List VItem), VItemsOK items → ∀ (s : Lx) (fuel : Nat), s.rest = vitemsSrc items →
    s.isHTML = true → s.panicked = false → s.braces = 0 → vfuel items + 1 ≤ fuel →
    ∃ toks e sf, lexAll fuel s = some (toks ++ [e], sf) ∧ toks.map key = vkeys items ∧ e.ty = .EOF ∧ e.lit = [] ∧
      sf.isHTML = true ∧ sf.panicked = false
  | [], _, s, fuel, hr, hh, hp, _, hf => LexesTo.eof hh hp hr (by omega)
  | .comment cm :: r, hok, s, fuel, hr, hh, hp, hb, hf => by
    obtain ⟨s2, hst2, hr2, _, m2⟩ := comment_step s cm (vitemsSrc r) hh hr hok.1
    exact LexesTo.again hst2 (lexAll_vitems r hok.2 s2 (fuel - 1) hr2 ((mode_html m2).trans hh) ((mode_pan m2).trans hp)
      ((mode_braces m2).trans hb) (by simp [vfuel] at hf; omega)) (by omega)
  | .text segs :: r, hok, s, fuel, hr, hh, hp, hb, hf => by
    obtain ⟨hstart, hsegs, hafter, hokr⟩ := hok
    obtain ⟨hstop, hlast⟩ := afterRunV_stops segs r hafter
    obtain ⟨t, s1, hst1, hk1, hne1, hr1, hh1, hp1, hb1, _⟩ := lex_run s segs (vitemsSrc r) hh hstart hsegs hr hstop hlast
    have := LexesTo.run (.cons _ _ _ _ _ hst1 hne1 (.nil _))
      (lexAll_vitems r hokr s1 (fuel - 1) hr1 hh1 (hp1.trans hp) (hb1.trans hb) (by simp [vfuel] at hf ⊢; omega)) (by simp; omega)
    rw [List.map_singleton, hk1] at this
    exact this
  | .print g1 n g2 :: r, hok, s, fuel, hr, hh, hp, hb, hf => by
    obtain ⟨hg1, hg2, hn, hokr⟩ := hok
    obtain ⟨t1, t2, t3, s3, hrun, k1, k2, k3, r3, h3, b3, p3, _⟩ := lex_print s g1 n g2 (vitemsSrc r) hh hb hg1 hg2 hn hr
    have := LexesTo.run hrun (lexAll_vitems r hokr s3 (fuel - 3) r3 h3 (p3.trans hp) b3 (by simp [vfuel] at hf ⊢; omega))
      (by simp [vfuel] at hf ⊢; omega)
    rw [List.map_cons, List.map_cons, List.map_singleton, k1, k2, k3] at this
    exact this

def vpieces : List VItem → List Piece
  | [] => []
  | .text segs :: r => .text (segsLit segs) :: vpieces r
  | .comment _ :: r => vpieces r
  | .print _ n _ :: r => .hole n :: vpieces r

/-- No key of a template is ILLEGAL: what `NoIll.of_keys` asks, so that the parser meets no lexer error -/
theorem clean_of_all {ks : List (TT × Bytes)} (h : (ks.all fun x => x.1 != .ILLEGAL) = true) : ∀ x ∈ ks, x.1 ≠ .ILLEGAL :=
  fun x hx => by simpa using List.all_eq_true.mp h x hx

theorem all_of_clean {ks : List (TT × Bytes)} (h : ∀ x ∈ ks, x.1 ≠ .ILLEGAL) : (ks.all fun x => x.1 != .ILLEGAL) = true :=
  List.all_eq_true.mpr fun x hx => by simpa using h x hx

theorem vkeys_clean (items : List VItem) : ∀ x ∈ vkeys items, x.1 ≠ .ILLEGAL := by
  refine clean_of_all ?_
  induction items with
  | nil => rfl
  | cons it r ih => cases it <;> simp [vkeys, ih]

theorem map_key_cons {toks : List Token} {k : TT × Bytes} {ks : List (TT × Bytes)} (h : toks.map key = k :: ks) :
    ∃ t r, toks = t :: r ∧ t.ty = k.1 ∧ t.lit = k.2 ∧ r.map key = ks := by
  cases toks with
  | nil => cases h
  | cons t r =>
    obtain ⟨h1, h2⟩ := List.cons.inj h
    exact ⟨t, r, rfl, congrArg Prod.fst h1, congrArg Prod.snd h1, h2⟩

theorem NoIll.of_keys {toks : List Token} {ks : List (TT × Bytes)} (hk : toks.map key = ks) (hc : ∀ x ∈ ks, x.1 ≠ .ILLEGAL) : NoIll toks :=
  fun x hx => hc (key x) (hk ▸ List.mem_map_of_mem hx)

theorem NoIll.of_keys_eof {toks : List Token} {e : Token} {ks : List (TT × Bytes)} (hk : toks.map key = ks)
    (hc : ∀ x ∈ ks, x.1 ≠ .ILLEGAL) (he : e.ty = .EOF) : NoIll (toks ++ [e]) :=
  (NoIll.of_keys hk hc).append (.one (by rw [he]; decide))

/-- where the parse of an item language starts: for a source whose tokens have the keys `ks`, its tokens `toks ++ [e]`,
    the fuel `parseSource` hands the statement loop, and the program, once that loop has come back from these tokens
    without an error -/
theorem parseSource_keys {src : Bytes} {ks : List (TT × Bytes)}
    (htok : ∃ toks e, tokenize src = some { toks := toks ++ [e], insideCode := false, panicked := false } ∧ toks.map key = ks ∧ e.ty = .EOF)
    (hc : ∀ x ∈ ks, x.1 ≠ .ILLEGAL) (base : Nat) :
    ∃ toks e, toks.map key = ks ∧ e.ty = .EOF ∧ parseFuel (toks ++ [e]) = 4 * ks.length + 20 ∧
      ∀ stmts p1, parseProgramLoop (parseFuel (toks ++ [e])) [] ({ toks := toks ++ [e], nextId := base } : PS) = (some stmts, p1) →
        p1.errors = [] → p1.oof = false →
        parseSource src base =
          .ok { tok := (toks ++ [e]).headD e, stmts := stmts, useName := p1.useName, components := p1.components,
                inserts := p1.inserts, reserves := p1.reserves, nextId := p1.nextId } := by
  obtain ⟨toks, e, htok, hk, he⟩ := htok
  exact ⟨toks, e, hk, he, by rw [← hk]; simp [parseFuel]; omega, fun _ _ => parseSource_tokens htok (NoIll.of_keys_eof hk hc he)⟩

theorem loop_print {t1 t2 t3 e : Token} {rest : List Token} (h1 : t1.ty = .LBRACES) (h2 : t2.ty = .IDENT) (h3 : t3.ty = .RBRACES) {p : PS}
    (hp : p.toks = t1 :: t2 :: t3 :: (rest ++ [e])) (hk : NoIll (rest ++ [e])) {f : Nat} (hf : 3 ≤ f) {acc stmts : List Stmt} {pf : PS}
    (hloop : parseProgramLoop f (acc ++ [.expr t2 (.ident t2 t2.lit)]) { p with toks := rest ++ [e] } =
      (some (acc ++ [.expr t2 (.ident t2 t2.lit)] ++ stmts), pf)) :
    parseProgramLoop (f + 1) acc p = (some (acc ++ .expr t2 (.ident t2 t2.lit) :: stmts), pf) :=
  loop_cons (.print h1 h2 h3 hk) hp (by simp [h1]) rfl (by simp [h3]) (by simp) hk hf hloop

/-- The fuel: the loop hands on one unit less per turn and takes a turn per piece; the constant on top covers, at every turn,
    the dearest statement (`StmtAt.print`, graded 3), its turn and the turn on EOF.  5 is not tight. -/
theorem parseLoop_vitems_gen : ∀ (items : List VItem) (toks : List Token) (e : Token) (p : PS) (acc : List Stmt) (f : Nat),
    toks.map key = vkeys items → e.ty = .EOF → p.toks = toks ++ [e] → (vpieces items).length + 5 ≤ f →
    ∃ stmts, parseProgramLoop f acc p = (some (acc ++ stmts), { p with toks := [e] }) ∧
      simpleBlock stmts = true ∧ piecesOf stmts = vpieces items
  | [], toks, e, p, acc, f, hk, he, hp, hf => by
    cases List.map_eq_nil_iff.mp hk
    exact ⟨[], loop_nil hp he (by omega) acc, rfl, rfl⟩
  | .comment cm :: r, toks, e, p, acc, f, hk, he, hp, hf =>
    parseLoop_vitems_gen r toks e p acc f (by simpa [vkeys] using hk) he hp (by simpa [vpieces] using hf)
  | .text segs :: r, toks, e, p, acc, f, hk, he, hp, hf => by
    obtain ⟨g, rfl⟩ : ∃ g, f = g + 1 := ⟨f - 1, by omega⟩
    obtain ⟨t, rest, rfl, ht, hlit, hkr⟩ := map_key_cons hk
    obtain ⟨stmts, h1, h2, h3⟩ := parseLoop_vitems_gen r rest e { p with toks := rest ++ [e] } (acc ++ [.html t]) g hkr he rfl
      (by simp [vpieces] at hf; omega)
    exact ⟨.html t :: stmts,
      loop_text ht hp (NoIll.of_keys_eof hkr (vkeys_clean r) he) (by omega) h1,
      by simpa [simpleBlock] using h2, by simp [piecesOf, vpieces, hlit, h3]⟩
  | .print g1 n g2 :: r, toks, e, p, acc, f, hk, he, hp, hf => by
    obtain ⟨g, rfl⟩ : ∃ g, f = g + 1 := ⟨f - 1, by omega⟩
    obtain ⟨t1, _, rfl, ty1, _, hk⟩ := map_key_cons hk
    obtain ⟨t2, _, rfl, ty2, lit2, hk⟩ := map_key_cons hk
    obtain ⟨t3, rest, rfl, ty3, _, hkr⟩ := map_key_cons hk
    have hcl := NoIll.of_keys_eof hkr (vkeys_clean r) he
    obtain ⟨stmts, h1, h2, h3⟩ := parseLoop_vitems_gen r rest e { p with toks := rest ++ [e] } (acc ++ [.expr t2 (.ident t2 t2.lit)]) g hkr he
      rfl (by simp [vpieces] at hf; omega)
    exact ⟨.expr t2 (.ident t2 t2.lit) :: stmts,
      loop_print ty1 ty2 ty3 hp hcl (by omega) h1,
      by simpa [simpleBlock] using h2, by simp [piecesOf, vpieces, show t2.lit = n from lit2, h3]⟩

theorem parseLoop_vitems : ∀ (items : List VItem) (toks : List Token) (e : Token) (acc : List Stmt) (f : Nat),
    toks.map key = vkeys items → e.ty = .EOF → (vpieces items).length + 5 ≤ f →
    ∃ stmts, parseProgramLoop f acc ({ toks := toks ++ [e] } : PS) = (some (acc ++ stmts), { toks := [e] }) ∧
      simpleBlock stmts = true ∧ piecesOf stmts = vpieces items :=
  fun items toks e acc f hk he hf => parseLoop_vitems_gen items toks e _ acc f hk he rfl hf

theorem tokenize_vitems (items : List VItem) (hok : VItemsOK items) :
    ∃ toks e, tokenize (vitemsSrc items) = some { toks := toks ++ [e], insideCode := false, panicked := false } ∧
      toks.map key = vkeys items ∧ e.ty = .EOF :=
  Lexes.tokenize ⟨_, lexAll_vitems items hok _ _ rfl rfl rfl rfl (Nat.le_refl _)⟩

theorem vpieces_length_le : ∀ items : List VItem, (vpieces items).length ≤ (vkeys items).length
  | [] => by simp [vkeys, vpieces]
  | .text _ :: r => by have := vpieces_length_le r; simp [vkeys, vpieces]; omega
  | .comment _ :: r => by have := vpieces_length_le r; simp [vkeys, vpieces]; omega
  | .print _ _ _ :: r => by have := vpieces_length_le r; simp [vkeys, vpieces]; omega

theorem parse_vitems_base (items : List VItem) (hok : VItemsOK items) (base : Nat) :
    ∃ prog, parseSource (vitemsSrc items) base = .ok prog ∧ simpleBlock prog.stmts = true ∧ piecesOf prog.stmts = vpieces items := by
  obtain ⟨toks, e, hk, he, hfuel, hfin⟩ := parseSource_keys (tokenize_vitems items hok) (vkeys_clean items) base
  obtain ⟨stmts, h1, h2, h3⟩ := parseLoop_vitems_gen items toks e { toks := toks ++ [e], nextId := base } [] (parseFuel (toks ++ [e])) hk he rfl
    (by rw [hfuel]; have := vpieces_length_le items; omega)
  exact ⟨_, hfin _ _ h1 rfl rfl, h2, h3⟩

theorem parse_vitems (items : List VItem) (hok : VItemsOK items) :
    ∃ prog, parseSource (vitemsSrc items) = .ok prog ∧ simpleBlock prog.stmts = true ∧ piecesOf prog.stmts = vpieces items :=
  parse_vitems_base items hok 0

/-- C05 `text_comments_and_variables_render`.  The 3 of `hsize` is that of `evalProg_simple`. -/
theorem vitems_render (custom : List ((VType × Bytes) × Nat)) (items : List VItem) (hok : VItemsOK items)
    (hsize : (vpieces items).length + 3 ≤ evalFuel)
    (data : List (Bytes × GoVal)) (env : Env) (henv : envFromMap data = .ok env) (hb : holesBound env (vpieces items)) :
    evaluateStringPure custom (vitemsSrc items) data = .ok (fill env (vpieces items)) := by
  obtain ⟨prog, hp, hs, hpc⟩ := parse_vitems items hok
  have hlen : prog.stmts.length = (vpieces items).length := by rw [simple_length _ hs, hpc]
  rw [← hpc] at hb ⊢
  exact source_renders hp henv (evalProg_simple _ env prog.stmts evalFuel [] hs hb (by rw [hlen]; exact hsize))

end Tw
