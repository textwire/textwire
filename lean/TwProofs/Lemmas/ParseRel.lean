/-
  TwProofs.Lemmas.ParseRel — the expression parser as a relation on token lists.  `ParsesAt N prec ts ex ts'`:
  from every parser state whose tokens are `ts`, with fuel `N` or more, `parseExpression prec` returns the
  tree `ex`, leaves the tokens `ts'` (the first of them is the last token of the expression) and touches
  nothing else.  There is one rule per prefix and infix function of the parser, proved by unfolding that
  function once; a parse of given tokens is then a derivation from these rules, and its fuel is read off
  the derivation.  The token lists have to be free of ILLEGAL tokens (`NoIll`), since `nextToken` records
  one as soon as it comes into view.
-/
import TwModel.Parser

namespace Tw

def PS.withToks (p : PS) (ts : List Token) : PS := { p with toks := ts }

def NoIll (ts : List Token) : Prop := ∀ t ∈ ts, t.ty ≠ .ILLEGAL

theorem NoIll.tail {t : Token} {ts : List Token} (h : NoIll (t :: ts)) : NoIll ts := fun x hx => h x (List.mem_cons_of_mem _ hx)
theorem NoIll.head {t : Token} {ts : List Token} (h : NoIll (t :: ts)) : t.ty ≠ .ILLEGAL := h t List.mem_cons_self
theorem NoIll.nil : NoIll [] := fun _ h => nomatch h
theorem NoIll.cons {t : Token} {ts : List Token} (h : t.ty ≠ .ILLEGAL) (hs : NoIll ts) : NoIll (t :: ts) := fun x hx => by
  rcases List.mem_cons.mp hx with rfl | h1
  · exact h
  · exact hs x h1
theorem NoIll.one {t : Token} (h : t.ty ≠ .ILLEGAL) : NoIll [t] := .cons h .nil
theorem NoIll.append {a c : List Token} (h1 : NoIll a) (h2 : NoIll c) : NoIll (a ++ c) := by
  intro t ht; rcases List.mem_append.mp ht with h | h
  · exact h1 t h
  · exact h2 t h

theorem NoIll.of_ty {t : Token} {ty : TT} {ts : List Token} (h : t.ty = ty) (hs : NoIll ts) (hty : ty ≠ .ILLEGAL := by decide) :
    NoIll (t :: ts) := .cons (h ▸ hty) hs

theorem NoIll.of_or {t : Token} {x y : TT} {ts : List Token} (h : t.ty = x ∨ t.ty = y) (hs : NoIll ts)
    (hx : x ≠ .ILLEGAL := by decide) (hy : y ≠ .ILLEGAL := by decide) : NoIll (t :: ts) :=
  h.elim (.of_ty · hs hx) (.of_ty · hs hy)

theorem NoIll.tail' {ts : List Token} (h : NoIll ts) : NoIll ts.tail := fun t ht => h t (List.mem_of_mem_tail ht)

theorem NoIll.drop {ts : List Token} (h : NoIll ts) (n : Nat) : NoIll (ts.drop n) := fun t ht => h t (List.mem_of_mem_drop ht)

/-- `NoIll` under a second name, which some statements about directives and the statement loop use
    (`parse_use_stmt`, `loop_stmt_rparen`, `loop_stmt_rbraces`, `OneStmt`); the two unfold to
    the same term, so a proof of one is handed over where the other is asked for -/
def Clean (l : List Token) : Prop := ∀ x ∈ l, x.ty ≠ .ILLEGAL

@[simp] theorem withToks_withToks (p : PS) (a c : List Token) : (p.withToks a).withToks c = p.withToks c := rfl
@[simp] theorem withToks_cur (p : PS) (a : Token) (r : List Token) : (p.withToks (a :: r)).cur = a := rfl
@[simp] theorem withToks_peek (p : PS) (a c : Token) (r : List Token) : (p.withToks (a :: c :: r)).peek = c := rfl
theorem withToks_curIs (p : PS) (a : Token) (r : List Token) (ty : TT) : (p.withToks (a :: r)).curIs ty = (a.ty == ty) := rfl
theorem withToks_peekIs (p : PS) (a c : Token) (r : List Token) (ty : TT) : (p.withToks (a :: c :: r)).peekIs ty = (c.ty == ty) := rfl

theorem withToks_self {p : PS} {ts : List Token} (h : p.toks = ts) : p.withToks ts = p := by
  subst h; rfl

theorem noteIllegal_toks (p : PS) (t : Token) : (p.noteIllegal t).toks = p.toks := by
  unfold PS.noteIllegal; split <;> rfl

theorem withToks_next (p : PS) (a c : Token) (r : List Token) (h : NoIll r) :
    (p.withToks (a :: c :: r)).next = p.withToks (c :: r) := by
  unfold PS.next PS.withToks
  cases r with
  | nil => rfl
  | cons n r' =>
    simp only [PS.noteIllegal]
    have : (n.ty == TT.ILLEGAL) = false := by simpa using h.head
    simp [this]

theorem expectPeek_ok (p : PS) (t : TT) (h : p.peekIs t = true) : p.expectPeek t = (true, p.next) := by
  simp [PS.expectPeek, h]

theorem withToks_expectPeek (p : PS) (a c : Token) (r : List Token) {ty : TT} (hc : c.ty = ty) (h : NoIll r) :
    (p.withToks (a :: c :: r)).expectPeek ty = (true, p.withToks (c :: r)) := by
  rw [expectPeek_ok _ _ (by simp [withToks_peekIs, hc]), withToks_next p a c r h]

theorem parseExpression_succ (f prec : Nat) (p : PS) :
    parseExpression (f + 1) prec p =
      match prefixBody (parseExpression f) (parseExprList f) (parseObjLoop f) p with
      | none => (.bad, p.err p.cur.errorLine "ErrNoPrefixParseFunc" [b (tokenString p.cur.ty)])
      | some r => prattLoop f prec r.1 r.2 := rfl

theorem prattLoop_succ (f prec : Nat) (left : Expr) (p : PS) :
    prattLoop (f + 1) prec left p =
      if p.peekIs .RBRACES || p.peekIs .SEMI || p.peekIs .RPAREN || !(prec < p.peekPrecedence) then (left, p)
      else if !hasInfix p.peek.ty then (left, p)
      else prattLoop f prec (infixBody (parseExpression f) (parseExprList f) left p.next).1
        (infixBody (parseExpression f) (parseExprList f) left p.next).2 := rfl

theorem parseExprList_succ (f : Nat) (endTok : TT) (p : PS) :
    parseExprList (f + 1) endTok p =
      if p.peekIs endTok then ([], p.next)
      else exprListLoop f endTok [(parseExpression f LOWEST p.next).1] (parseExpression f LOWEST p.next).2 := rfl

theorem exprListLoop_succ (f : Nat) (endTok : TT) (acc : List Expr) (p : PS) :
    exprListLoop (f + 1) endTok acc p =
      if p.peekIs .COMMA then
        if p.next.peekIs endTok then
          if (p.next.expectPeek endTok).1 then (acc, (p.next.expectPeek endTok).2) else ([], (p.next.expectPeek endTok).2)
        else exprListLoop f endTok (acc ++ [(parseExpression f LOWEST p.next.next).1]) (parseExpression f LOWEST p.next.next).2
      else if (p.expectPeek endTok).1 then (acc, (p.expectPeek endTok).2) else ([], (p.expectPeek endTok).2) := rfl

theorem parseObjLoop_succ (f : Nat) (t : Token) (pairs : List (Bytes × Expr)) (p : PS) :
    parseObjLoop (f + 1) t pairs p =
      if p.curIs .RBRACE then (.obj t pairs, p)
      else if p.curIs .EOF || p.curIs .ILLEGAL then
        (.bad, p.err p.cur.errorLine "ErrWrongNextToken" [b (tokenString .RBRACE), b (tokenString p.cur.ty)])
      else
        if (parseExpression f LOWEST (if p.peekIs .COLON then p.next.next else p)).2.peekIs .RBRACE then
          (.obj t (mapSet pairs p.cur.lit (parseExpression f LOWEST (if p.peekIs .COLON then p.next.next else p)).1),
            (parseExpression f LOWEST (if p.peekIs .COLON then p.next.next else p)).2.next)
        else if !((parseExpression f LOWEST (if p.peekIs .COLON then p.next.next else p)).2.expectPeek .COMMA).1 then
          (.bad, ((parseExpression f LOWEST (if p.peekIs .COLON then p.next.next else p)).2.expectPeek .COMMA).2)
        else parseObjLoop f t (mapSet pairs p.cur.lit (parseExpression f LOWEST (if p.peekIs .COLON then p.next.next else p)).1)
          ((parseExpression f LOWEST (if p.peekIs .COLON then p.next.next else p)).2.expectPeek .COMMA).2.next := rfl

def ParsesAt (N prec : Nat) (ts : List Token) (ex : Expr) (ts' : List Token) : Prop :=
  ∀ f, N ≤ f → ∀ p : PS, parseExpression f prec (p.withToks ts) = (ex, p.withToks ts')

def LoopsAt (N prec : Nat) (left : Expr) (ts : List Token) (ex : Expr) (ts' : List Token) : Prop :=
  ∀ f, N ≤ f → ∀ p : PS, prattLoop f prec left (p.withToks ts) = (ex, p.withToks ts')

def ListAt (N : Nat) (endTok : TT) (ts : List Token) (es : List Expr) (ts' : List Token) : Prop :=
  ∀ f, N ≤ f → ∀ p : PS, parseExprList f endTok (p.withToks ts) = (es, p.withToks ts')

def ListLoopAt (N : Nat) (endTok : TT) (acc : List Expr) (ts : List Token) (es : List Expr) (ts' : List Token) : Prop :=
  ∀ f, N ≤ f → ∀ p : PS, exprListLoop f endTok acc (p.withToks ts) = (es, p.withToks ts')

def ObjAt (N : Nat) (t : Token) (pairs : List (Bytes × Expr)) (ts : List Token) (ex : Expr) (ts' : List Token) : Prop :=
  ∀ f, N ≤ f → ∀ p : PS, parseObjLoop f t pairs (p.withToks ts) = (ex, p.withToks ts')

def PrefixAt (N : Nat) (ts : List Token) (e : Expr) (ts' : List Token) : Prop :=
  ∀ g, N ≤ g → ∀ p : PS,
    prefixBody (parseExpression g) (parseExprList g) (parseObjLoop g) (p.withToks ts) = some (e, p.withToks ts')

def InfixAt (N : Nat) (l : Expr) (ts : List Token) (e : Expr) (ts' : List Token) : Prop :=
  ∀ g, N ≤ g → ∀ p : PS, infixBody (parseExpression g) (parseExprList g) l (p.withToks ts) = (e, p.withToks ts')

/-- the loop at level `prec` stops in front of these tokens -/
def StopR (prec : Nat) : List Token → Prop
  | [] => False
  | t :: _ => t.ty = .RBRACES ∨ t.ty = .SEMI ∨ t.ty = .RPAREN ∨ precedence t.ty ≤ prec

def atomExpr (t : Token) : Option Expr :=
  match t.ty with
  | .IDENT => some (.ident t t.lit)
  | .INT => (parseInt64 t.lit).map (Expr.int t)
  | .FLOAT => (parseFloat64 t.lit).map (Expr.float t)
  | .STR => some (.str t t.lit)
  | .NIL => some (.nil t)
  | .TRUE => some (.bool t true)
  | .FALSE => some (.bool t false)
  | _ => none

theorem atomExpr_ident {t : Token} (h : t.ty = .IDENT) : atomExpr t = some (.ident t t.lit) := by simp [atomExpr, h]
theorem atomExpr_str {t : Token} (h : t.ty = .STR) : atomExpr t = some (.str t t.lit) := by simp [atomExpr, h]
theorem atomExpr_str_lit {t : Token} {c : Bytes} (h : t.ty = .STR) (hl : t.lit = c) : atomExpr t = some (.str t c) := hl ▸ atomExpr_str h
theorem atomExpr_int {t : Token} {v : Int64} (h : t.ty = .INT) (hv : parseInt64 t.lit = some v) : atomExpr t = some (.int t v) := by
  simp [atomExpr, h, hv]

theorem atomExpr_ty_ne {t : Token} {a : Expr} {bad : TT} (h : atomExpr t = some a)
    (hbad : bad ∉ [TT.IDENT, .INT, .FLOAT, .STR, .NIL, .TRUE, .FALSE] := by decide) : t.ty ≠ bad := by
  intro e
  rw [atomExpr, e] at h
  cases bad <;> first | exact hbad (by decide) | cases h

theorem StopR.rbraces {prec : Nat} {t : Token} {r : List Token} (h : t.ty = .RBRACES) : StopR prec (t :: r) := .inl h
theorem StopR.rparen {prec : Nat} {t : Token} {r : List Token} (h : t.ty = .RPAREN) : StopR prec (t :: r) := .inr (.inr (.inl h))
theorem StopR.le {prec : Nat} {t : Token} {r : List Token} (h : precedence t.ty ≤ prec) : StopR prec (t :: r) := .inr (.inr (.inr h))

theorem StopR.mono {p q : Nat} {k : List Token} (h : StopR p k) (hpq : p ≤ q) : StopR q k := by
  cases k with
  | nil => exact h
  | cons t r => exact h.imp_right (.imp_right (.imp_right (Nat.le_trans · hpq)))

theorem ParsesAt.mono {N M prec : Nat} {ts ts' : List Token} {ex : Expr} (h : ParsesAt N prec ts ex ts') (hle : N ≤ M) :
    ParsesAt M prec ts ex ts' :=
  fun f hf p => h f (Nat.le_trans hle hf) p

theorem LoopsAt.mono {N M prec : Nat} {l ex : Expr} {ts ts' : List Token} (h : LoopsAt N prec l ts ex ts') (hle : N ≤ M) :
    LoopsAt M prec l ts ex ts' := fun f hf p => h f (Nat.le_trans hle hf) p
theorem ListAt.mono {N M : Nat} {endTok : TT} {ts ts' : List Token} {es : List Expr} (h : ListAt N endTok ts es ts') (hle : N ≤ M) :
    ListAt M endTok ts es ts' := fun f hf p => h f (Nat.le_trans hle hf) p
theorem ListLoopAt.mono {N M : Nat} {endTok : TT} {acc es : List Expr} {ts ts' : List Token} (h : ListLoopAt N endTok acc ts es ts')
    (hle : N ≤ M) : ListLoopAt M endTok acc ts es ts' := fun f hf p => h f (Nat.le_trans hle hf) p
theorem ObjAt.mono {N M : Nat} {t : Token} {pairs : List (Bytes × Expr)} {ts ts' : List Token} {ex : Expr} (h : ObjAt N t pairs ts ex ts')
    (hle : N ≤ M) : ObjAt M t pairs ts ex ts' := fun f hf p => h f (Nat.le_trans hle hf) p

theorem ParsesAt.on {N prec : Nat} {ts ts' : List Token} {ex : Expr} (h : ParsesAt N prec ts ex ts') {f : Nat} (hf : N ≤ f) {p : PS}
    (hp : p.toks = ts) : parseExpression f prec p = (ex, { p with toks := ts' }) := by
  have := h f hf p
  rwa [withToks_self hp] at this

/-- a parse that records nothing starts at a token that has a prefix function: not at a closing token, nor at the end
    (`parseExpression` would record "no prefix parse function") -/
theorem ParsesAt.starts {N prec : Nat} {ts ts' : List Token} {ex : Expr} (h : ParsesAt N prec ts ex ts') :
    ts ≠ [] ∧ ∀ t, ts.head? = some t → t.ty ≠ .RBRACES ∧ t.ty ≠ .RPAREN ∧ t.ty ≠ .RBRACKET := by
  have h1 := h (N + 1) (Nat.le_succ N) default
  rw [parseExpression_succ] at h1
  cases hp : prefixBody (parseExpression N) (parseExprList N) (parseObjLoop N) ((default : PS).withToks ts) with
  | none =>
    rw [hp] at h1
    have := congrArg (fun r => r.2.errors.length) h1
    simp [PS.err, PS.withToks] at this
  | some r =>
    cases ts with
    | nil => simp [prefixBody, PS.withToks, PS.cur, eofTok] at hp
    | cons t r' =>
      refine ⟨List.cons_ne_nil _ _, fun t' ht' => ?_⟩
      cases ht'
      refine ⟨?_, ?_, ?_⟩ <;> intro ht <;> simp [prefixBody, withToks_cur, ht] at hp

theorem LoopsAt.on {N prec : Nat} {l ex : Expr} {ts ts' : List Token} (h : LoopsAt N prec l ts ex ts') {f : Nat} (hf : N ≤ f) {p : PS}
    (hp : p.toks = ts) : prattLoop f prec l p = (ex, { p with toks := ts' }) := by
  have := h f hf p
  rwa [withToks_self hp] at this

theorem LoopsAt.stop {prec : Nat} {l : Expr} {x : Token} {k : List Token} (h : StopR prec k) :
    LoopsAt 1 prec l (x :: k) l (x :: k) := by
  intro f hf p
  obtain ⟨g, rfl⟩ : ∃ g, f = g + 1 := ⟨f - 1, by omega⟩
  rw [prattLoop_succ]
  cases k with
  | nil => exact absurd h (by simp [StopR])
  | cons t r =>
    have : ((p.withToks (x :: t :: r)).peekIs .RBRACES || (p.withToks (x :: t :: r)).peekIs .SEMI ||
        (p.withToks (x :: t :: r)).peekIs .RPAREN || !(decide (prec < (p.withToks (x :: t :: r)).peekPrecedence))) = true := by
      simp only [withToks_peekIs, PS.peekPrecedence, withToks_peek]
      rcases h with h | h | h | h
      · simp [h]
      · simp [h]
      · simp [h]
      · have : ¬ prec < precedence t.ty := by omega
        simp [this]
    rw [if_pos this]

theorem prattLoop_turn {f prec : Nat} {l e' : Expr} {x op : Token} {rest ts' : List Token} {p : PS}
    (hi : hasInfix op.ty = true) (hlt : prec < precedence op.ty) (hrest : NoIll rest)
    (hinf : infixBody (parseExpression f) (parseExprList f) l (p.withToks (op :: rest)) = (e', p.withToks ts')) :
    prattLoop (f + 1) prec l (p.withToks (x :: op :: rest)) = prattLoop f prec e' (p.withToks ts') := by
  have hn : op.ty ≠ .RBRACES ∧ op.ty ≠ .SEMI ∧ op.ty ≠ .RPAREN := by
    refine ⟨?_, ?_, ?_⟩ <;> (intro e; rw [e] at hi; cases hi)
  rw [prattLoop_succ, if_neg (by simp [withToks_peekIs, PS.peekPrecedence, hn, hlt]),
    if_neg (by simp [withToks_peek, hi]), withToks_next p x op rest hrest, hinf]

/-- The rules derived from this one and from `ParsesAt.of_prefix` keep the grade as these yield it, hence `max 0 N + 1` where the
    function itself calls nothing. -/
theorem LoopsAt.step {N1 N2 prec : Nat} {l e' ex : Expr} {x op : Token} {rest ts' ts'' : List Token}
    (hi : hasInfix op.ty = true) (hlt : prec < precedence op.ty) (hrest : NoIll rest)
    (hinf : InfixAt N1 l (op :: rest) e' ts') (h : LoopsAt N2 prec e' ts' ex ts'') :
    LoopsAt (max N1 N2 + 1) prec l (x :: op :: rest) ex ts'' := by
  intro f hf p
  obtain ⟨g, rfl⟩ : ∃ g, f = g + 1 := ⟨f - 1, by omega⟩
  rw [prattLoop_turn hi hlt hrest (hinf g (by omega) p)]
  exact h g (by omega) p

theorem infixBody_op {pe : Nat → PS → Expr × PS} {pl : TT → PS → List Expr × PS} {l r : Expr} {op r0 : Token} {rr ts' : List Token} {p : PS}
    (hop : isBinaryOp op.ty = true) (hrest : NoIll rr) (hnb : r0.ty ≠ .RBRACES)
    (hr : pe (precedence op.ty) (p.withToks (r0 :: rr)) = (r, p.withToks ts')) :
    infixBody pe pl l (p.withToks (op :: r0 :: rr)) = (.inf op op.lit l r, p.withToks ts') := by
  unfold infixBody
  simp only [withToks_cur, hop, if_true, withToks_next p op r0 _ hrest, withToks_curIs, beq_eq_false_iff_ne.mpr hnb,
    Bool.false_eq_true, if_false, PS.curPrecedence]
  rw [hr]

theorem LoopsAt.op {N1 N2 prec : Nat} {l r : Expr} {x op : Token} {rest ts' : List Token} {ex : Expr} {ts'' : List Token}
    (hop : isBinaryOp op.ty = true) (hlt : prec < precedence op.ty) (hrest : NoIll rest)
    (hr : ParsesAt N1 (precedence op.ty) rest r ts') (h : LoopsAt N2 prec (.inf op op.lit l r) ts' ex ts'') :
    LoopsAt (max N1 N2 + 1) prec l (x :: op :: rest) ex ts'' := by
  obtain ⟨r0, rr, rfl⟩ := List.exists_cons_of_ne_nil hr.starts.1
  exact .step (by simp [hasInfix, hop]) hlt hrest (fun g hg p => infixBody_op hop hrest.tail (hr.starts.2 r0 rfl).1 (hr g hg p)) h

theorem LoopsAt.tern {N1 N2 N3 prec : Nat} {l a bb : Expr} {y q x c : Token} {restA restB ts' : List Token} {ex : Expr}
    {ts'' : List Token} (hq : q.ty = .QUESTION) (hc : c.ty = .COLON) (hlt : prec < TERNARY)
    (hrestA : NoIll restA) (hrestB : NoIll restB)
    (ha : ParsesAt N1 TERNARY restA a (x :: c :: restB)) (hb : ParsesAt N2 LOWEST restB bb ts')
    (h : LoopsAt N3 prec (.tern q l a bb) ts' ex ts'') :
    LoopsAt (max (max N1 N2) N3 + 1) prec l (y :: q :: restA) ex ts'' := by
  obtain ⟨a0, ar, rfl⟩ := List.exists_cons_of_ne_nil ha.starts.1
  obtain ⟨b0, br, rfl⟩ := List.exists_cons_of_ne_nil hb.starts.1
  refine .step (by rw [hq]; rfl) (by rw [hq]; exact hlt) hrestA (fun g hg p => ?_) h
  unfold infixBody
  simp only [withToks_cur, hq, show isBinaryOp TT.QUESTION = false from rfl, Bool.false_eq_true, if_false, beq_self_eq_true, if_true,
    withToks_next p q a0 _ hrestA.tail, ha g (by omega) p, withToks_expectPeek p x c (b0 :: br) hc hrestB, Bool.not_true,
    withToks_next p c b0 _ hrestB.tail, hb g (by omega) p]

theorem LoopsAt.post {N prec : Nat} {l : Expr} {x op : Token} {k : List Token} {ex : Expr} {ts'' : List Token}
    (hop : op.ty = .INC ∨ op.ty = .DEC) (hlt : prec < POSTFIX) (hk : NoIll k)
    (h : LoopsAt N prec (.post op op.lit l) (op :: k) ex ts'') : LoopsAt (max 0 N + 1) prec l (x :: op :: k) ex ts'' := by
  refine .step (by rcases hop with h | h <;> rw [h] <;> rfl) (by rcases hop with h | h <;> rw [h] <;> exact hlt) hk
    (fun g _ p => ?_) h
  unfold infixBody
  rcases hop with h | h <;> simp [withToks_cur, h, isBinaryOp]

theorem LoopsAt.index {N1 N2 prec : Nat} {l i : Expr} {y lb x rb : Token} {rest k : List Token} {ex : Expr} {ts'' : List Token}
    (hlb : lb.ty = .LBRACKET) (hrb : rb.ty = .RBRACKET) (hlt : prec < INDEX)
    (hrest : NoIll rest) (hk : NoIll k)
    (hi : ParsesAt N1 LOWEST rest i (x :: rb :: k)) (h : LoopsAt N2 prec (.index lb l i) (rb :: k) ex ts'') :
    LoopsAt (max N1 N2 + 1) prec l (y :: lb :: rest) ex ts'' := by
  obtain ⟨r0, rr, rfl⟩ := List.exists_cons_of_ne_nil hi.starts.1
  refine .step (by rw [hlb]; rfl) (by rw [hlb]; exact hlt) hrest (fun g hg p => ?_) h
  unfold infixBody
  simp only [withToks_cur, hlb, show isBinaryOp TT.LBRACKET = false from rfl, show (TT.LBRACKET == TT.QUESTION) = false from rfl,
    Bool.false_eq_true, if_false, beq_self_eq_true, if_true, withToks_next p lb r0 _ hrest.tail, hi g hg p,
    withToks_expectPeek p x rb k hrb hk]

theorem infixBody_dot (pe : Nat → PS → Expr × PS) (pl : TT → PS → List Expr × PS) (l : Expr) (p : PS) (d name : Token) (k : List Token)
    (hd : d.ty = .DOT) (hname : name.ty = .IDENT) (hk : NoIll k) :
    infixBody pe pl l (p.withToks (d :: name :: k)) =
      if (p.withToks (name :: k)).peekIs .LPAREN then
        (.call name l name.lit (pl .RPAREN ((p.withToks (name :: k)).expectPeek .LPAREN).2).1,
          (pl .RPAREN ((p.withToks (name :: k)).expectPeek .LPAREN).2).2)
      else (.dot d l name.lit, p.withToks (name :: k)) := by
  unfold infixBody
  simp only [withToks_cur, hd, show isBinaryOp TT.DOT = false from rfl, show (TT.DOT == TT.QUESTION) = false from rfl,
    show (TT.DOT == TT.LBRACKET) = false from rfl, show (TT.DOT == TT.INC) = false from rfl, show (TT.DOT == TT.DEC) = false from rfl,
    Bool.false_eq_true, if_false, Bool.or_self, withToks_expectPeek p d name k hname hk, Bool.not_true]

/-- behind `l.name` a "(" makes the infix function of "." parse a call (`infixBody_dot`) -/
def NoLP (k : List Token) : Prop := ∀ t, k.head? = some t → t.ty ≠ .LPAREN

theorem NoLP.of_ty {t : Token} {ty : TT} {k : List Token} (h : t.ty = ty) (hty : ty ≠ .LPAREN := by decide) : NoLP (t :: k) :=
  fun _ e => by cases e; exact h ▸ hty

/-- CALL lies above PREFIX -/
theorem StopR.noLP {prec : Nat} {k : List Token} (h : StopR prec k) (hp : prec ≤ PREFIX) : NoLP k := by
  intro t ht
  cases k with
  | nil => cases ht
  | cons a r =>
    cases ht
    intro hl
    rcases h with h | h | h | h
    · rw [hl] at h; cases h
    · rw [hl] at h; cases h
    · rw [hl] at h; cases h
    · rw [hl] at h
      exact absurd (Nat.le_trans h hp) (by decide)

theorem LoopsAt.dot {N prec : Nat} {l : Expr} {y d name : Token} {k : List Token} {ex : Expr} {ts'' : List Token}
    (hd : d.ty = .DOT) (hname : name.ty = .IDENT) (hlt : prec < MEMBER_ACCESS) (hk : NoIll k) (hnolp : NoLP k)
    (h : LoopsAt N prec (.dot d l name.lit) (name :: k) ex ts'') : LoopsAt (max 0 N + 1) prec l (y :: d :: name :: k) ex ts'' := by
  refine .step (by rw [hd]; rfl) (by rw [hd]; exact hlt) (NoIll.cons (by rw [hname]; decide) hk) (fun g _ p => ?_) h
  have hpk : (p.withToks (name :: k)).peekIs .LPAREN = false := by
    cases k with
    | nil => simp [PS.peekIs, PS.peek, PS.withToks, hname]
    | cons t r => simp [withToks_peekIs, hnolp t rfl]
  rw [infixBody_dot _ _ l p d name k hd hname hk, hpk]
  rfl

theorem LoopsAt.call {N1 N2 prec : Nat} {l : Expr} {y d name lp : Token} {rest : List Token} {args : List Expr} {ts' : List Token}
    {ex : Expr} {ts'' : List Token}
    (hd : d.ty = .DOT) (hname : name.ty = .IDENT) (hlp : lp.ty = .LPAREN) (hlt : prec < MEMBER_ACCESS) (hrest : NoIll rest)
    (hargs : ListAt N1 .RPAREN (lp :: rest) args ts')
    (h : LoopsAt N2 prec (.call name l name.lit args) ts' ex ts'') :
    LoopsAt (max N1 N2 + 1) prec l (y :: d :: name :: lp :: rest) ex ts'' := by
  have hlpI : NoIll (lp :: rest) := NoIll.cons (by rw [hlp]; decide) hrest
  refine .step (by rw [hd]; rfl) (by rw [hd]; exact hlt) (NoIll.cons (by rw [hname]; decide) hlpI) (fun g hg p => ?_) h
  rw [infixBody_dot _ _ l p d name _ hd hname hlpI, if_pos (by simp [withToks_peekIs, hlp]),
    withToks_expectPeek p name lp rest hlp hrest, hargs g hg p]

theorem ParsesAt.of_prefix {N1 N2 prec : Nat} {ts ts' ts'' : List Token} {e ex : Expr}
    (hp : PrefixAt N1 ts e ts') (h : LoopsAt N2 prec e ts' ex ts'') : ParsesAt (max N1 N2 + 1) prec ts ex ts'' := by
  intro f hf p
  obtain ⟨g, rfl⟩ : ∃ g, f = g + 1 := ⟨f - 1, by omega⟩
  rw [parseExpression_succ, hp g (by omega) p]
  exact h g (by omega) p

theorem ParsesAt.atom {N prec : Nat} {t : Token} {k : List Token} {a ex : Expr} {ts' : List Token} (ht : atomExpr t = some a)
    (h : LoopsAt N prec a (t :: k) ex ts') : ParsesAt (max 0 N + 1) prec (t :: k) ex ts' := by
  refine .of_prefix (fun g _ p => ?_) h
  unfold prefixBody
  unfold atomExpr at ht
  simp only [withToks_cur]
  cases hty : t.ty <;> rw [hty] at ht <;> simp only [] at ht ⊢ <;> first | (cases ht; done) | (cases ht; rfl) | skip
  · cases hv : parseInt64 t.lit with
    | none => rw [hv] at ht; cases ht
    | some v => rw [hv] at ht; cases ht; rfl
  · cases hv : parseFloat64 t.lit with
    | none => rw [hv] at ht; cases ht
    | some v => rw [hv] at ht; cases ht; rfl

/-- `hrest` is about `rest.tail` here, in `.pre` and in `ListAt.first`: the step over the first token is `withToks_next`, which asks `NoIll`
    of the tokens behind the new cursor (the first of them comes into view), that is of `rest.tail` -/
theorem ParsesAt.paren {N1 N2 prec : Nat} {lp rp x : Token} {rest k : List Token} {e ex : Expr} {ts' : List Token}
    (hlp : lp.ty = .LPAREN) (hrp : rp.ty = .RPAREN) (hrest : NoIll rest.tail) (hk : NoIll k)
    (hin : ParsesAt N1 LOWEST rest e (x :: rp :: k)) (h : LoopsAt N2 prec e (rp :: k) ex ts') :
    ParsesAt (max N1 N2 + 1) prec (lp :: rest) ex ts' := by
  obtain ⟨r0, rr, rfl⟩ := List.exists_cons_of_ne_nil hin.starts.1
  refine .of_prefix (fun g hg p => ?_) h
  unfold prefixBody
  simp only [withToks_cur, hlp, withToks_next p lp r0 rr hrest, hin g hg p, withToks_expectPeek p x rp k hrp hk, if_true]

theorem ParsesAt.pre {N1 N2 prec : Nat} {op : Token} {rest : List Token} {r ex : Expr} {ts' ts'' : List Token}
    (hop : op.ty = .SUB ∨ op.ty = .NOT) (hrest : NoIll rest.tail)
    (hin : ParsesAt N1 PREFIX rest r ts') (h : LoopsAt N2 prec (.pre op op.lit r) ts' ex ts'') :
    ParsesAt (max N1 N2 + 1) prec (op :: rest) ex ts'' := by
  obtain ⟨r0, rr, rfl⟩ := List.exists_cons_of_ne_nil hin.starts.1
  refine .of_prefix (fun g hg p => ?_) h
  unfold prefixBody
  rcases hop with ho | ho <;> simp only [withToks_cur, ho, withToks_next p op r0 rr hrest, hin g hg p]

theorem ParsesAt.arr {N1 N2 prec : Nat} {lb : Token} {rest : List Token} {els : List Expr} {ts' : List Token} {ex : Expr}
    {ts'' : List Token} (hlb : lb.ty = .LBRACKET) (hl : ListAt N1 .RBRACKET (lb :: rest) els ts')
    (h : LoopsAt N2 prec (.arr lb els) ts' ex ts'') : ParsesAt (max N1 N2 + 1) prec (lb :: rest) ex ts'' := by
  refine .of_prefix (fun g hg p => ?_) h
  unfold prefixBody
  simp only [withToks_cur, hlb, hl g hg p]

theorem ParsesAt.obj_empty {N prec : Nat} {lbr rbr : Token} {k : List Token} {ex : Expr} {ts'' : List Token}
    (hlbr : lbr.ty = .LBRACE) (hrbr : rbr.ty = .RBRACE) (hk : NoIll k)
    (h : LoopsAt N prec (.obj lbr []) (rbr :: k) ex ts'') : ParsesAt (max 0 N + 1) prec (lbr :: rbr :: k) ex ts'' := by
  refine .of_prefix (fun g _ p => ?_) h
  unfold prefixBody
  simp only [withToks_cur, hlbr, withToks_next p lbr rbr k hk, withToks_curIs, hrbr, beq_self_eq_true, if_true]

theorem ParsesAt.obj {N1 N2 prec : Nat} {lbr key : Token} {rest : List Token} {ex1 : Expr} {ts' : List Token} {ex : Expr}
    {ts'' : List Token} (hlbr : lbr.ty = .LBRACE) (hkey : key.ty ≠ .RBRACE) (hrest : NoIll rest)
    (ho : ObjAt N1 lbr [] (key :: rest) ex1 ts') (h : LoopsAt N2 prec ex1 ts' ex ts'') :
    ParsesAt (max N1 N2 + 1) prec (lbr :: key :: rest) ex ts'' := by
  refine .of_prefix (fun g hg p => ?_) h
  unfold prefixBody
  simp only [withToks_cur, hlbr, withToks_next p lbr key rest hrest, withToks_curIs, beq_eq_false_iff_ne.mpr hkey, Bool.false_eq_true,
    if_false, ho g hg p]

theorem ParsesAt.one {prec : Nat} {t : Token} {k : List Token} {a : Expr} (ht : atomExpr t = some a) (hk : StopR prec k) :
    ParsesAt 2 prec (t :: k) a (t :: k) :=
  .atom ht (.stop hk)

theorem ParsesAt.ident_rparen {prec : Nat} {t tn : Token} {r : List Token} (h : t.ty = .IDENT) (hn : tn.ty = .RPAREN) :
    ParsesAt 2 prec (t :: tn :: r) (.ident t t.lit) (t :: tn :: r) :=
  .one (atomExpr_ident h) (.rparen hn)

theorem ListAt.empty {opener endT : Token} {endTok : TT} {k : List Token} (he : endT.ty = endTok) (hk : NoIll k) :
    ListAt 1 endTok (opener :: endT :: k) [] (endT :: k) := by
  intro f hf p
  obtain ⟨g, rfl⟩ : ∃ g, f = g + 1 := ⟨f - 1, by omega⟩
  rw [parseExprList_succ]
  rw [if_pos (by simp [withToks_peekIs, he]), withToks_next p opener endT k hk]

theorem ParsesAt.head_ne_end {N prec : Nat} {r0 : Token} {rr ts' : List Token} {e : Expr} (h : ParsesAt N prec (r0 :: rr) e ts')
    {endTok : TT} (hend : endTok = .RPAREN ∨ endTok = .RBRACKET) : r0.ty ≠ endTok := by
  rcases hend with rfl | rfl
  · exact (h.starts.2 r0 rfl).2.1
  · exact (h.starts.2 r0 rfl).2.2

theorem ListAt.first {N1 N2 : Nat} {endTok : TT} {opener : Token} {rest : List Token} {e : Expr} {ts1 : List Token} {es : List Expr}
    {ts' : List Token} (hrest : NoIll rest.tail) (hend : endTok = .RPAREN ∨ endTok = .RBRACKET)
    (he : ParsesAt N1 LOWEST rest e ts1) (hl : ListLoopAt N2 endTok [e] ts1 es ts') :
    ListAt (max N1 N2 + 1) endTok (opener :: rest) es ts' := by
  intro f hf p
  obtain ⟨g, rfl⟩ : ∃ g, f = g + 1 := ⟨f - 1, by omega⟩
  rw [parseExprList_succ]
  obtain ⟨r0, rr, rfl⟩ := List.exists_cons_of_ne_nil he.starts.1
  rw [if_neg (by simp [withToks_peekIs, he.head_ne_end hend]), withToks_next p opener r0 rr hrest, he g (by omega) p]
  exact hl g (by omega) p

theorem ListLoopAt.end {endT x : Token} {endTok : TT} {acc : List Expr} {k : List Token} (he : endT.ty = endTok) (hk : NoIll k)
    (hnc : endTok ≠ .COMMA := by decide) : ListLoopAt 1 endTok acc (x :: endT :: k) acc (endT :: k) := by
  intro f hf p
  obtain ⟨g, rfl⟩ : ∃ g, f = g + 1 := ⟨f - 1, by omega⟩
  rw [exprListLoop_succ]
  rw [if_neg (by simp [withToks_peekIs, he, hnc]), withToks_expectPeek p x endT k he hk]
  simp

theorem ListLoopAt.more {N1 N2 : Nat} {endTok : TT} {x cm : Token} {acc : List Expr} {rest : List Token} {e : Expr}
    {ts1 : List Token} {es : List Expr} {ts' : List Token}
    (hcm : cm.ty = .COMMA) (hrest : NoIll rest) (hend : endTok = .RPAREN ∨ endTok = .RBRACKET)
    (he : ParsesAt N1 LOWEST rest e ts1) (hl : ListLoopAt N2 endTok (acc ++ [e]) ts1 es ts') :
    ListLoopAt (max N1 N2 + 1) endTok acc (x :: cm :: rest) es ts' := by
  intro f hf p
  obtain ⟨g, rfl⟩ : ∃ g, f = g + 1 := ⟨f - 1, by omega⟩
  rw [exprListLoop_succ]
  obtain ⟨r0, rr, rfl⟩ := List.exists_cons_of_ne_nil he.starts.1
  rw [if_pos (by simp [withToks_peekIs, hcm]), withToks_next p x cm _ hrest, if_neg (by simp [withToks_peekIs, he.head_ne_end hend]),
    withToks_next p cm r0 rr hrest.tail, he g (by omega) p]
  exact hl g (by omega) p

theorem parseObjLoop_head {key colon : Token} {rest : List Token} (p : PS) (hkey : key.ty = .IDENT ∨ key.ty = .STR) (hcolon : colon.ty = .COLON)
    (hrest : NoIll rest) (hne : rest ≠ []) :
    (p.withToks (key :: colon :: rest)).curIs .RBRACE = false ∧
    ((p.withToks (key :: colon :: rest)).curIs .EOF || (p.withToks (key :: colon :: rest)).curIs .ILLEGAL) = false ∧
    (if (p.withToks (key :: colon :: rest)).peekIs .COLON then (p.withToks (key :: colon :: rest)).next.next
      else p.withToks (key :: colon :: rest)) = p.withToks rest := by
  obtain ⟨r0, rr, rfl⟩ := List.exists_cons_of_ne_nil hne
  refine ⟨?_, ?_, ?_⟩
  · rcases hkey with h | h <;> simp [withToks_curIs, h]
  · rcases hkey with h | h <;> simp [withToks_curIs, h]
  · rw [if_pos (by simp [withToks_peekIs, hcolon]), withToks_next p key colon _ hrest, withToks_next p colon r0 _ hrest.tail]

theorem ObjAt.last {N : Nat} {t key colon x rbr : Token} {rest k : List Token} {pairs : List (Bytes × Expr)} {v : Expr}
    (hkey : key.ty = .IDENT ∨ key.ty = .STR) (hcolon : colon.ty = .COLON) (hrbr : rbr.ty = .RBRACE)
    (hrest : NoIll rest) (hk : NoIll k)
    (hv : ParsesAt N LOWEST rest v (x :: rbr :: k)) :
    ObjAt (N + 1) t pairs (key :: colon :: rest) (.obj t (mapSet pairs key.lit v)) (rbr :: k) := by
  intro f hf p
  obtain ⟨g, rfl⟩ : ∃ g, f = g + 1 := ⟨f - 1, by omega⟩
  rw [parseObjLoop_succ]
  obtain ⟨ha, hb, hc⟩ := parseObjLoop_head p hkey hcolon hrest hv.starts.1
  rw [if_neg (by rw [ha]; simp), if_neg (by rw [hb]; simp), hc, hv g (by omega) p]
  rw [if_pos (by simp [withToks_peekIs, hrbr]), withToks_next p x rbr k hk]
  rfl

theorem ObjAt.more {N1 N2 : Nat} {t key colon x cm : Token} {rest k : List Token} {pairs : List (Bytes × Expr)} {v ex : Expr}
    {ts' : List Token} (hkey : key.ty = .IDENT ∨ key.ty = .STR) (hcolon : colon.ty = .COLON) (hcm : cm.ty = .COMMA)
    (hrest : NoIll rest) (hk : NoIll k) (hne2 : k ≠ [])
    (hv : ParsesAt N1 LOWEST rest v (x :: cm :: k))
    (ho : ObjAt N2 t (mapSet pairs key.lit v) k ex ts') :
    ObjAt (max N1 N2 + 1) t pairs (key :: colon :: rest) ex ts' := by
  intro f hf p
  obtain ⟨g, rfl⟩ : ∃ g, f = g + 1 := ⟨f - 1, by omega⟩
  rw [parseObjLoop_succ]
  obtain ⟨ha, hb, hc⟩ := parseObjLoop_head p hkey hcolon hrest hv.starts.1
  rw [if_neg (by rw [ha]; simp), if_neg (by rw [hb]; simp), hc, hv g (by omega) p]
  obtain ⟨k0, kr, rfl⟩ := List.exists_cons_of_ne_nil hne2
  rw [if_neg (by simp [withToks_peekIs, hcm])]
  rw [withToks_expectPeek p x cm (k0 :: kr) hcm hk]
  simp only [Bool.not_true, Bool.false_eq_true, if_false]
  rw [withToks_next p cm k0 kr hk.tail]
  exact ho g (by omega) p

end Tw
