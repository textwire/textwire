/-
  TwProofs.Lemmas.LexDirArgs — a directive with an argument list as a piece of code between runs of text, with its
  `Code.OK` (from `lex_dir_args`, Lemmas/Lexemes): one or two plain string
  literals (`@use("x")`, `@reserve("x")`, `@insert("x", "y")`: `dir1Code`, `dir2Code`, which TextLayout takes,
  C06), and `@component("name", { key: "text" })` (`compCode`, which TextComp takes, C07): ten tokens, the brace
  counter up and down again.
-/
import TwProofs.Lemmas.TextIf
import TwProofs.Lemmas.GenItems
namespace Tw
open Lx

def kwUse : Bytes := [64, 117, 115, 101]
def kwReserve : Bytes := [64, 114, 101, 115, 101, 114, 118, 101]
def kwInsert : Bytes := [64, 105, 110, 115, 101, 114, 116]

theorem dirKw_use : DirKw kwUse .USE :=
  .of_lookup (by rw [lookupDirective_bytes]; decide) (by decide) (by simp only [lookupDirective_bytes]; decide) (by decide)
theorem dirKw_reserve : DirKw kwReserve .RESERVE :=
  .of_lookup (by rw [lookupDirective_bytes]; decide) (by decide) (by simp only [lookupDirective_bytes]; decide) (by decide)
theorem dirKw_insert : DirKw kwInsert .INSERT :=
  .of_lookup (by rw [lookupDirective_bytes]; decide) (by decide) (by simp only [lookupDirective_bytes]; decide) (by decide)

theorem DirKw.stops {kw : Bytes} {ty : TT} (hk : DirKw kw ty) (x : Bytes) : Stops (kw ++ x) := .kw hk.isKw x

theorem lex_dir1 (kw : Bytes) (ty : TT) (hk : DirKw kw ty) (s : Lx) (g1 : Bytes) (q : Byte) (c g2 tl : Bytes)
    (hh : s.isHTML = true) (hprev : s.prev ≠ 92) (hp0 : s.parens = 0) (hg1 : allWs g1) (hg2 : allWs g2)
    (hq : q = 34 ∨ q = 39) (hp : PlainStr q c)
    (hr : s.rest = kw ++ (40 :: (g1 ++ (strLit q c ++ (g2 ++ (41 :: tl)))))) :
    ∃ t1 t2 t3 t4 s4, Run s [t1, t2, t3, t4] s4 ∧ key t1 = (ty, kw) ∧ key t2 = (.LPAREN, [40]) ∧ key t3 = (.STR, c) ∧
      key t4 = (.RPAREN, [41]) ∧ s4.rest = tl ∧ s4.prev = 41 ∧ mode s4 = (true, false, 0, s.braces, s.panicked) :=
  lex_dir_one kw ty hk s g1 (.str q c) g2 tl hh hprev hp0 hg1 hg2 ⟨hq, hp⟩ hr

theorem lex_dir2 (kw : Bytes) (ty : TT) (hk : DirKw kw ty) (s : Lx) (g1 : Bytes) (q1 : Byte) (c1 g2 g3 : Bytes) (q2 : Byte) (c2 g4 tl : Bytes)
    (hh : s.isHTML = true) (hprev : s.prev ≠ 92) (hp0 : s.parens = 0) (hg1 : allWs g1) (hg2 : allWs g2) (hg3 : allWs g3) (hg4 : allWs g4)
    (hq1 : q1 = 34 ∨ q1 = 39) (hp1 : PlainStr q1 c1) (hq2 : q2 = 34 ∨ q2 = 39) (hp2 : PlainStr q2 c2)
    (hr : s.rest = kw ++ (40 :: (g1 ++ (strLit q1 c1 ++ (g2 ++ (44 :: (g3 ++ (strLit q2 c2 ++ (g4 ++ (41 :: tl)))))))))) :
    ∃ t1 t2 t3 t4 t5 t6 s6, Run s [t1, t2, t3, t4, t5, t6] s6 ∧ key t1 = (ty, kw) ∧ key t2 = (.LPAREN, [40]) ∧ key t3 = (.STR, c1) ∧
      key t4 = (.COMMA, [44]) ∧ key t5 = (.STR, c2) ∧ key t6 = (.RPAREN, [41]) ∧ s6.rest = tl ∧ s6.prev = 41 ∧
      mode s6 = (true, false, 0, s.braces, s.panicked) := by
  obtain ⟨toks, s6, run, hkeys, h⟩ := lex_dir_args kw ty hk s [(g1, .str q1 c1), (g2, .sym 44 .COMMA), (g3, .str q2 c2)] g4 tl hh hprev hp0 hg4 hr
    ⟨hg1, ⟨hq1, hp1⟩, hg2, Or.inl rfl, hg3, ⟨hq2, hp2⟩, trivial⟩
  obtain ⟨t1, _, rfl, k1, hkeys⟩ := List.map_eq_cons_iff.mp hkeys
  obtain ⟨t2, _, rfl, k2, hkeys⟩ := List.map_eq_cons_iff.mp hkeys
  obtain ⟨t3, _, rfl, k3, hkeys⟩ := List.map_eq_cons_iff.mp hkeys
  obtain ⟨t4, _, rfl, k4, hkeys⟩ := List.map_eq_cons_iff.mp hkeys
  obtain ⟨t5, _, rfl, k5, hkeys⟩ := List.map_eq_cons_iff.mp hkeys
  obtain ⟨t6, _, rfl, k6, hkeys⟩ := List.map_eq_cons_iff.mp hkeys
  cases List.map_eq_nil_iff.mp hkeys
  exact ⟨t1, t2, t3, t4, t5, t6, s6, run, k1, k2, k3, k4, k5, k6, h⟩

/-- `@kw(g1 "c" g2)` -/
def dir1Code (kw : Bytes) (ty : TT) (g1 : Bytes) (q : Byte) (c g2 : Bytes) : Code :=
  { src := kw ++ (40 :: (g1 ++ (strLit q c ++ (g2 ++ [41])))), keys := [(ty, kw), (.LPAREN, [40]), (.STR, c), (.RPAREN, [41])] }

/-- `@kw(g1 "c1" g2 , g3 "c2" g4)` -/
def dir2Code (kw : Bytes) (ty : TT) (g1 : Bytes) (q1 : Byte) (c1 g2 g3 : Bytes) (q2 : Byte) (c2 g4 : Bytes) : Code :=
  { src := kw ++ (40 :: (g1 ++ (strLit q1 c1 ++ (g2 ++ (44 :: (g3 ++ (strLit q2 c2 ++ (g4 ++ [41])))))))),
    keys := [(ty, kw), (.LPAREN, [40]), (.STR, c1), (.COMMA, [44]), (.STR, c2), (.RPAREN, [41])] }

theorem dirCode_ok {c : Code} (kw : Bytes) (ty : TT) (hk : DirKw kw ty) (b : List (Bytes × Lexeme)) (g2 : Bytes) (hg2 : allWs g2)
    (hsrc : ∀ tl, c.src ++ tl = kw ++ (40 :: lexemesSrc b (g2 ++ 41 :: tl)))
    (hkeys : c.keys = (ty, kw) :: (.LPAREN, [40]) :: (b.map (·.2.key) ++ [(.RPAREN, [41])])) (hok : ∀ tl, LexemesOK true (g2 ++ 41 :: tl) b) :
    c.OK := by
  refine .of_run (fun tl => by rw [hsrc]; exact hk.stops _) fun s tl hr hh hb hpa hd hpv => ?_
  obtain ⟨toks, sf, run, hks, r, pv, m⟩ := lex_dir_args kw ty hk s b g2 tl hh hpv hpa hg2 (by rw [hr, hsrc]) (hok tl)
  exact ⟨toks, sf, run, by rw [hks, hkeys], r, by rw [pv]; decide, by rw [m, hb]⟩

theorem dir1Code_ok (kw : Bytes) (ty : TT) (hk : DirKw kw ty) (g1 : Bytes) (q : Byte) (c g2 : Bytes) (hg1 : allWs g1) (hg2 : allWs g2)
    (hq : q = 34 ∨ q = 39) (hp : PlainStr q c) : (dir1Code kw ty g1 q c g2).OK :=
  dirCode_ok kw ty hk [(g1, .str q c)] g2 hg2 (fun tl => by simp [dir1Code, lexemesSrc, Lexeme.src]) rfl fun _ => ⟨hg1, ⟨hq, hp⟩, trivial⟩

theorem dir2Code_ok (kw : Bytes) (ty : TT) (hk : DirKw kw ty) (g1 : Bytes) (q1 : Byte) (c1 g2 g3 : Bytes) (q2 : Byte) (c2 g4 : Bytes)
    (hg1 : allWs g1) (hg2 : allWs g2) (hg3 : allWs g3) (hg4 : allWs g4)
    (hq1 : q1 = 34 ∨ q1 = 39) (hp1 : PlainStr q1 c1) (hq2 : q2 = 34 ∨ q2 = 39) (hp2 : PlainStr q2 c2) :
    (dir2Code kw ty g1 q1 c1 g2 g3 q2 c2 g4).OK :=
  dirCode_ok kw ty hk [(g1, .str q1 c1), (g2, .sym 44 .COMMA), (g3, .str q2 c2)] g4 hg4
    (fun tl => by simp [dir2Code, lexemesSrc, Lexeme.src]) rfl fun _ => ⟨hg1, ⟨hq1, hp1⟩, hg2, Or.inl rfl, hg3, ⟨hq2, hp2⟩, trivial⟩

def kwComponent : Bytes := [64, 99, 111, 109, 112, 111, 110, 101, 110, 116]

theorem dirKw_component : DirKw kwComponent .COMPONENT :=
  .of_lookup (by rw [lookupDirective_bytes]; decide) (by decide) (by simp only [lookupDirective_bytes]; decide) (by decide)

/-- `@component(q n q, g3 { g4 k : g6 q2 v q2 g7 })` -/
def compSrc (q : Byte) (n g3 g4 k g6 : Bytes) (q2 : Byte) (v g7 : Bytes) : Bytes :=
  kwComponent ++ [40] ++ strLit q n ++ [44] ++ g3 ++ [123] ++ g4 ++ k ++ [58] ++ g6 ++ strLit q2 v ++ g7 ++ [125, 41]

def compKeys (n k v : Bytes) : List (TT × Bytes) :=
  [(.COMPONENT, kwComponent), (.LPAREN, [40]), (.STR, n), (.COMMA, [44]), (.LBRACE, [123]), (.IDENT, k), (.COLON, [58]),
   (.STR, v), (.RBRACE, [125]), (.RPAREN, [41])]

theorem lex_comp (s : Lx) (q : Byte) (n g3 g4 k g6 : Bytes) (q2 : Byte) (v g7 tl : Bytes)
    (hh : s.isHTML = true) (hprev : s.prev ≠ 92) (hp0 : s.parens = 0) (hb0 : s.braces = 0)
    (hg3 : allWs g3) (hg4 : allWs g4) (hg6 : allWs g6) (hg7 : allWs g7)
    (hq : q = 34 ∨ q = 39) (hpn : PlainStr q n) (hq2 : q2 = 34 ∨ q2 = 39) (hpv : PlainStr q2 v) (hk : isName k)
    (hr : s.rest = compSrc q n g3 g4 k g6 q2 v g7 ++ tl) :
    ∃ toks s10, Run s toks s10 ∧ toks.map key = compKeys n k v ∧ s10.rest = tl ∧ s10.prev = 41 ∧
      mode s10 = (true, false, 0, 0, s.panicked) := by
  have hr' : s.rest = kwComponent ++ (40 :: lexemesSrc [([], .str q n), ([], .sym 44 .COMMA)]
      (g3 ++ (123 :: lexemesSrc [(g4, .word k), ([], .sym 58 .COLON), (g6, .str q2 v)] (g7 ++ (125 :: 41 :: tl))))) := by
    rw [hr]; simp [compSrc, lexemesSrc, Lexeme.src, List.append_assoc]
  obtain ⟨t1, t2, s2, run2, k1, k2, r2, m2⟩ := lex_dir_open kwComponent .COMPONENT dirKw_component s _ hh hprev hp0 hr'
  obtain ⟨f1, f2, f3, f4, f5⟩ := mode_fields m2
  obtain ⟨ts1, s4, run4, hk4, r4, m4⟩ := lex_lexemes _ [([], .str q n), ([], .sym 44 .COMMA)] s2 f1 r2
    ⟨allWs_nil, ⟨hq, hpn⟩, allWs_nil, Or.inl rfl, trivial⟩
  -- "{": the key is a word, so no second "{" follows
  have hx5 : (lexemesSrc [(g4, .word k), ([], .sym 58 .COLON), (g6, .str q2 v)] (g7 ++ (125 :: 41 :: tl))).headD 0 ≠ 123 := by
    obtain ⟨⟨c, cv, rfl, hc⟩, _, _⟩ := hk
    cases g4 with
    | nil => exact (NotSpecial.of_identCh hc).ne_lbrace
    | cons w t => exact fun e => by have := hg4 w List.mem_cons_self; rw [show w = 123 from e] at this; cases this
  obtain ⟨t5, s5, st5, k5, ne5, r5, _, m5⟩ := code_lbrace_step s4 g3 _ (by rw [mode_html m4]; exact f1) hg3 r4 hx5
  have m5' : mode s5 = (false, true, 1, 1, s.panicked) := by
    rw [m5, mode_html m4, mode_dir m4, mode_parens m4, mode_braces m4, mode_pan m4, f1, f2, f3, f4, f5, hb0]
    rfl
  obtain ⟨e1, e2, e3, e4, e5⟩ := mode_fields m5'
  obtain ⟨ts2, s8, run8, hk8, r8, m8⟩ := lex_lexemes _ [(g4, .word k), ([], .sym 58 .COLON), (g6, .str q2 v)] s5 e1 r5
    ⟨hg4, Lexeme.word_ok (isName_word hk) allWs_nil (fun _ => rfl), allWs_nil, Or.inl rfl, hg6, ⟨hq2, hpv⟩, trivial⟩
  obtain ⟨t9, s9, st9, k9, ne9, r9, _, m9⟩ := code_rbrace_step s8 g7 (41 :: tl) (by rw [mode_html m8]; exact e1) hg7 r8
    (by simp only [List.headD_cons]; decide)
  have m9' : mode s9 = (false, true, 1, 0, s.panicked) := by
    rw [m9, mode_html m8, mode_dir m8, mode_parens m8, mode_braces m8, mode_pan m8, e1, e2, e3, e4, e5]
    rfl
  obtain ⟨u1, u2, u3, u4, u5⟩ := mode_fields m9'
  obtain ⟨t10, s10, st10, k10, ne10, r10, pv10, m10⟩ := code_rparen_close_step s9 [] tl u1 u2 u3 allWs_nil r9
  refine ⟨[t1, t2] ++ (ts1 ++ (t5 :: (ts2 ++ [t9, t10]))), s10, ?_, ?_, r10, pv10, by rw [m10, u4, u5]⟩
  · exact Run.append run2 (Run.append run4 (Run.cons _ _ _ _ _ st5 ne5 (Run.append run8
      (Run.cons _ _ _ _ _ st9 ne9 (Run.cons _ _ _ _ _ st10 ne10 (Run.nil _))))))
  · simp [compKeys, Lexeme.key, k1, k2, hk4, k5, hk8, k9, k10, hk.2.2]

def compCode (q : Byte) (n g3 g4 k g6 : Bytes) (q2 : Byte) (v g7 : Bytes) : Code :=
  { src := compSrc q n g3 g4 k g6 q2 v g7, keys := compKeys n k v }

theorem compCode_ok (q : Byte) (n g3 g4 k g6 : Bytes) (q2 : Byte) (v g7 : Bytes)
    (hg3 : allWs g3) (hg4 : allWs g4) (hg6 : allWs g6) (hg7 : allWs g7)
    (hq : q = 34 ∨ q = 39) (hpn : PlainStr q n) (hq2 : q2 = 34 ∨ q2 = 39) (hpv : PlainStr q2 v) (hk : isName k) :
    (compCode q n g3 g4 k g6 q2 v g7).OK := by
  refine .of_run ?_ fun s tl hr hh hb hpa hd hpv' => ?_
  · intro tl
    have := dirKw_component.stops ([40] ++ strLit q n ++ [44] ++ g3 ++ [123] ++ g4 ++ k ++ [58] ++ g6 ++ strLit q2 v ++ g7 ++ [125, 41] ++ tl)
    simpa [compCode, compSrc, List.append_assoc] using this
  · obtain ⟨toks, s10, run, hkeys, r10, pv10, m10⟩ := lex_comp s q n g3 g4 k g6 q2 v g7 tl hh hpv' hpa hb hg3 hg4 hg6 hg7 hq hpn hq2 hpv hk hr
    exact ⟨toks, s10, run, hkeys, r10, by rw [pv10]; decide, m10⟩

end Tw
