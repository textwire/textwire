/-
  TwProofs.Lemmas.TextCalls — calls of a function on a variable or a literal: `{{ name.fn() }}`, `{{ name.fn(digits) }}`,
  `{{ name.fn("text") }}` (`call1_block`, `call1_parses`: any argument of one token) and `{{ "text".raw() }}`.  Per shape its
  tokens (`x_block`) and its parse (`xCode_parses`); the value of a call on a name is `call_builtin_evals` (a built-in) or
  `call_custom_evals` (a registered function), the argument by `evalExprs_one_int` / `evalExprs_one_str`.  C11 and C20 put
  them together; C10 takes the parse of `.raw()`.
-/
import TwProofs.Lemmas.CodeBlock
namespace Tw
open Lx

/-- `{{ g1 k . f ( ) g2 }}` -/
def callSrc (g1 k f g2 : Bytes) : Bytes := [123, 123] ++ g1 ++ k ++ [46] ++ f ++ [40, 41] ++ g2 ++ [125, 125]

def callKeys (k f : Bytes) : List (TT × Bytes) :=
  [(.LBRACES, [123, 123]), (.IDENT, k), (.DOT, [46]), (.IDENT, f), (.LPAREN, [40]), (.RPAREN, [41]), (.RBRACES, [125, 125])]

def callLexemes (g1 k f : Bytes) : List (Bytes × Lexeme) :=
  [(g1, .word k), ([], .sym 46 .DOT), ([], .word f), ([], .sym 40 .LPAREN), ([], .sym 41 .RPAREN)]

def callCode (g1 k f g2 : Bytes) : Code := { src := callSrc g1 k f g2, keys := callKeys k f }

/-- `Block false`, where `idx_block` takes any `dir`: in the argument list of a directive "(" and ")" move the count of
    parentheses (and the ")" that brings it to 0 ends the directive), so they are `IsSym` for `dir = false` only -/
theorem call_block (g1 k f g2 : Bytes) (hg1 : allWs g1) (hg2 : allWs g2) (hk : isName k) (hf : isName f) :
    Block false (callCode g1 k f g2) (callLexemes g1 k f) g2 where
  src tl := by simp [callLexemes, callCode, callSrc, lexemesSrc, Lexeme.src]
  keys := by simp [callLexemes, callCode, blockKeys, Lexeme.key, callKeys, hk.2.2, hf.2.2]
  gap := hg2
  first _ _ h := by cases h
  lexemes _ := ⟨hg1, Lexeme.word_ok (isName_word hk) allWs_nil (fun _ => rfl),
    allWs_nil, Or.inl rfl,
    allWs_nil, Lexeme.word_ok (isName_word hf) allWs_nil (fun _ => rfl),
    allWs_nil, isSym_lparen _,
    allWs_nil, isSym_rparen _, trivial⟩

theorem ParsesAt.call0 {t2 t3 t4 t5 t6 t7 : Token} {tail : List Token} {x : Expr} (hx : atomExpr t2 = some x) (h3 : t3.ty = .DOT)
    (h4 : t4.ty = .IDENT) (h5 : t5.ty = .LPAREN) (h6 : t6.ty = .RPAREN) (h7 : t7.ty = .RBRACES) (hclean : NoIll (t6 :: t7 :: tail)) :
    ParsesAt 3 LOWEST (t2 :: t3 :: t4 :: t5 :: t6 :: t7 :: tail) (.call t4 x t4.lit []) (t6 :: t7 :: tail) :=
  .atom hx (.call h3 h4 h5 (by decide) hclean (.empty h6 hclean.tail) (.stop (.rbraces h7)))

theorem callCode_parses (g1 k f g2 : Bytes) (hg1 : allWs g1) (hg2 : allWs g2) (hk : isName k) (hf : isName f) :
    ParsesAs (callCode g1 k f g2) (fun st => ∃ t6 e, st = .expr t6 e ∧ ∃ t2 t4, e = .call t4 (.ident t2 k) f []) :=
  (call_block g1 k f g2 hg1 hg2 hk hf).parsesAs (fun _ => nofun) fun t2 ty2 lit2 _ ty3 _ t4 ty4 lit4 _ ty5 _ _ ty6 _ _ _ ty7 cl =>
    ⟨_, _, _, Nat.le_of_ble_eq_true rfl, .call0 (atomExpr_ident (ty2.trans hk.2.2)) ty3 (ty4.trans hf.2.2) ty5 ty6 ty7 (cl.drop 4),
      t2, t4, by rw [lit2, lit4]; rfl⟩

/-- The call stands at the `fu + 7` of `renders_one` and evaluates its arguments with one unit less, hence `hargs` at `fu + 6`.
    `evalExprs_one_int` / `_str` give a one-token argument from `fu + 2` on, so a caller instantiates them at `fu + 4`. -/
theorem call_builtin_evals (c : Ctx) (env : Env) (k fn : Bytes) (args : List Expr) (rv : Val) (avs : List Val) (v : Val)
    (hget : env.get k = some rv) (htab : hasBuiltinTable rv.type = true) (hargs : ∀ fu, evalExprs (fu + 6) c env args = .ok avs)
    (hcall : callBuiltin rv fn avs = some (.ok v)) (t2 t4 : Token) (fu : Nat) :
    evalExpr (fu + 7) c env (.call t4 (.ident t2 k) fn args) = .ok v := by
  simp only [evalExpr, hget, htab, hargs, hcall, Bool.not_true, Bool.false_eq_true, if_false]

theorem call_custom_evals (c : Ctx) (env : Env) (k fn : Bytes) (args : List Expr) (rv : Val) (avs : List Val) (fid : Nat)
    (hget : env.get k = some rv) (htab : hasBuiltinTable rv.type = true) (hargs : ∀ fu, evalExprs (fu + 6) c env args = .ok avs)
    (hnb : callBuiltin rv fn avs = none) (hreg : lookupCustom c rv.type fn = some fid) (t2 t4 : Token) (fu : Nat) :
    evalExpr (fu + 7) c env (.call t4 (.ident t2 k) fn args) = .ok (callCustom fid rv avs) := by
  simp only [evalExpr, hget, htab, hargs, hnb, hreg, Bool.not_true, Bool.false_eq_true, if_false]

def call1Lexemes (g1 k f g3 : Bytes) (a : Lexeme) (g4 : Bytes) : List (Bytes × Lexeme) :=
  [(g1, .word k), ([], .sym 46 .DOT), ([], .word f), ([], .sym 40 .LPAREN), (g3, a), (g4, .sym 41 .RPAREN)]

theorem call1_block {c : Code} {g1 k f g3 : Bytes} {a : Lexeme} {g4 g2 : Bytes} (hg1 : allWs g1) (hg2 : allWs g2) (hg3 : allWs g3) (hg4 : allWs g4)
    (hk : isName k) (hf : isName f) (ha : ∀ tl, a.OKBefore false ((g4 ++ (41 :: (g2 ++ 125 :: 125 :: tl))).headD 0))
    (hsrc : ∀ tl, c.src ++ tl = 123 :: 123 :: lexemesSrc (call1Lexemes g1 k f g3 a g4) (g2 ++ 125 :: 125 :: tl))
    (hkeys : c.keys = [(.LBRACES, [123, 123]), (.IDENT, k), (.DOT, [46]), (.IDENT, f), (.LPAREN, [40]), a.key, (.RPAREN, [41]), (.RBRACES, [125, 125])]) :
    Block false c (call1Lexemes g1 k f g3 a g4) g2 where
  src := hsrc
  keys := by simp [hkeys, call1Lexemes, blockKeys, Lexeme.key, hk.2.2, hf.2.2]
  gap := hg2
  first _ _ h := by cases h
  lexemes tl := ⟨hg1, Lexeme.word_ok (isName_word hk) allWs_nil (fun _ => rfl),
    allWs_nil, Or.inl rfl,
    allWs_nil, Lexeme.word_ok (isName_word hf) allWs_nil (fun _ => rfl),
    allWs_nil, isSym_lparen _,
    hg3, ha tl,
    hg4, isSym_rparen _, trivial⟩

theorem ParsesAt.call1 {t2 t3 t4 t5 t6 t7 t8 : Token} {tail : List Token} {a : Expr} (h2 : t2.ty = .IDENT)
    (h3 : t3.ty = .DOT) (h4 : t4.ty = .IDENT) (h5 : t5.ty = .LPAREN) (h7 : t7.ty = .RPAREN)
    (h8 : t8.ty = .RBRACES) (ha : atomExpr t6 = some a) (hclean : NoIll (t7 :: t8 :: tail)) :
    ParsesAt 5 LOWEST (t2 :: t3 :: t4 :: t5 :: t6 :: t7 :: t8 :: tail) (.call t4 (.ident t2 t2.lit) t4.lit [a]) (t7 :: t8 :: tail) :=
  have c6 : NoIll (t6 :: t7 :: t8 :: tail) := .cons (atomExpr_ty_ne ha) hclean
  .atom (atomExpr_ident h2) (.call h3 h4 h5 (by decide) c6
    (.first c6.tail (.inl rfl) (.one ha (.rparen h7)) (.end h7 hclean.tail)) (.stop (.rbraces h8)))

theorem call1_parses {c : Code} {g1 k f g3 : Bytes} {a : Lexeme} {g4 g2 : Bytes} (hb : Block false c (call1Lexemes g1 k f g3 a g4) g2)
    (hk : isName k) (hf : isName f) (e : Token → Expr) (hp : ∀ t6 : Token, t6.ty = a.key.1 → t6.lit = a.key.2 → atomExpr t6 = some (e t6)) :
    ParsesAs c (fun st => ∃ t7 ex, st = .expr t7 ex ∧ ∃ t2 t4 t6, ex = .call t4 (.ident t2 k) f [e t6]) :=
  hb.parsesAs (fun _ => nofun) fun t2 ty2 lit2 _ ty3 _ t4 ty4 lit4 _ ty5 _ t6 ty6 lit6 _ ty7 _ _ _ ty8 cl =>
    ⟨_, _, _, Nat.le_of_ble_eq_true rfl, .call1 (ty2.trans hk.2.2) ty3 (ty4.trans hf.2.2) ty5 ty7 ty8 (hp t6 ty6 lit6) (cl.drop 5),
      t2, t4, t6, by rw [lit2, lit4]; rfl⟩

/-- `{{ g1 k . f ( g3 d g4 ) g2 }}` -/
def callNumSrc (g1 k f g3 d g4 g2 : Bytes) : Bytes :=
  [123, 123] ++ g1 ++ k ++ [46] ++ f ++ [40] ++ g3 ++ d ++ g4 ++ [41] ++ g2 ++ [125, 125]

def callNumKeys (k f d : Bytes) : List (TT × Bytes) :=
  [(.LBRACES, [123, 123]), (.IDENT, k), (.DOT, [46]), (.IDENT, f), (.LPAREN, [40]), (.INT, d), (.RPAREN, [41]), (.RBRACES, [125, 125])]

def callNumCode (g1 k f g3 d g4 g2 : Bytes) : Code := { src := callNumSrc g1 k f g3 d g4 g2, keys := callNumKeys k f d }

theorem callNum_block (g1 k f g3 d g4 g2 : Bytes) (hg1 : allWs g1) (hg2 : allWs g2) (hg3 : allWs g3) (hg4 : allWs g4)
    (hk : isName k) (hf : isName f) (hdg : isDigits d) : Block false (callNumCode g1 k f g3 d g4 g2) (call1Lexemes g1 k f g3 (.int d) g4) g2 :=
  call1_block hg1 hg2 hg3 hg4 hk hf (fun _ => Lexeme.int_before hdg hg4 rfl (by decide))
    (fun tl => by simp [call1Lexemes, callNumCode, callNumSrc, lexemesSrc, Lexeme.src]) rfl

theorem callNumCode_parses (g1 k f g3 d g4 g2 : Bytes) (hg1 : allWs g1) (hg2 : allWs g2) (hg3 : allWs g3) (hg4 : allWs g4)
    (hk : isName k) (hf : isName f) (hdg : isDigits d) (hb : digitsToNat d ≤ 9223372036854775807) :
    ParsesAs (callNumCode g1 k f g3 d g4 g2)
      (fun st => ∃ t7 ex, st = .expr t7 ex ∧ ∃ t2 t4 t6, ex = .call t4 (.ident t2 k) f [.int t6 (Int64.ofNat (digitsToNat d))]) :=
  call1_parses (callNum_block g1 k f g3 d g4 g2 hg1 hg2 hg3 hg4 hk hf hdg) hk hf (fun t => .int t (Int64.ofNat (digitsToNat d)))
    (fun _ ty lit => atomExpr_int ty (parseInt64_lit lit hdg hb))

theorem evalExprs_one_int (c : Ctx) (env : Env) (t : Token) (n : Int64) (fu : Nat) : evalExprs (fu + 2) c env [.int t n] = .ok [.int n] := by
  simp only [evalExprs, evalExpr]

/-- `{{ g1 k . f ( g3 "d" g4 ) g2 }}` -/
def callStrSrc (g1 k f g3 : Bytes) (q : Byte) (d g4 g2 : Bytes) : Bytes :=
  [123, 123] ++ g1 ++ k ++ [46] ++ f ++ [40] ++ g3 ++ (q :: (d ++ [q])) ++ g4 ++ [41] ++ g2 ++ [125, 125]

def callStrKeys (k f d : Bytes) : List (TT × Bytes) :=
  [(.LBRACES, [123, 123]), (.IDENT, k), (.DOT, [46]), (.IDENT, f), (.LPAREN, [40]), (.STR, d), (.RPAREN, [41]), (.RBRACES, [125, 125])]

def callStrCode (g1 k f g3 : Bytes) (q : Byte) (d g4 g2 : Bytes) : Code := { src := callStrSrc g1 k f g3 q d g4 g2, keys := callStrKeys k f d }

theorem callStr_block (g1 k f g3 : Bytes) (q : Byte) (d g4 g2 : Bytes) (hg1 : allWs g1) (hg2 : allWs g2) (hg3 : allWs g3) (hg4 : allWs g4)
    (hk : isName k) (hf : isName f) (hq : q = 34 ∨ q = 39) (hdg : PlainStr q d) :
    Block false (callStrCode g1 k f g3 q d g4 g2) (call1Lexemes g1 k f g3 (.str q d) g4) g2 :=
  call1_block hg1 hg2 hg3 hg4 hk hf (fun _ => ⟨hq, hdg⟩)
    (fun tl => by simp [call1Lexemes, callStrCode, callStrSrc, lexemesSrc, Lexeme.src, strLit]) rfl

theorem callStrCode_parses (g1 k f g3 : Bytes) (q : Byte) (d g4 g2 : Bytes) (hg1 : allWs g1) (hg2 : allWs g2) (hg3 : allWs g3) (hg4 : allWs g4)
    (hk : isName k) (hf : isName f) (hq : q = 34 ∨ q = 39) (hdg : PlainStr q d) :
    ParsesAs (callStrCode g1 k f g3 q d g4 g2) (fun st => ∃ t7 ex, st = .expr t7 ex ∧ ∃ t2 t4 t6, ex = .call t4 (.ident t2 k) f [.str t6 d]) :=
  call1_parses (callStr_block g1 k f g3 q d g4 g2 hg1 hg2 hg3 hg4 hk hf hq hdg) hk hf (fun t => .str t d) (fun _ ty lit => atomExpr_str_lit ty lit)

theorem evalExprs_one_str (c : Ctx) (env : Env) (t : Token) (s : Bytes) (fu : Nat) :
    evalExprs (fu + 2) c env [.str t s] = .ok [.str (literalValue s)] := by
  simp only [evalExprs, evalExpr]

def kwRaw : Bytes := [114, 97, 119]

/-- `{{ g1 q c q .raw() g2 }}` -/
def rawSrc (g1 : Bytes) (q : Byte) (c g2 : Bytes) : Bytes := [123, 123] ++ g1 ++ strLit q c ++ [46] ++ kwRaw ++ [40, 41] ++ g2 ++ [125, 125]

def rawKeys (c : Bytes) : List (TT × Bytes) :=
  [(.LBRACES, [123, 123]), (.STR, c), (.DOT, [46]), (.IDENT, kwRaw), (.LPAREN, [40]), (.RPAREN, [41]), (.RBRACES, [125, 125])]

def rawLexemes (g1 : Bytes) (q : Byte) (c : Bytes) : List (Bytes × Lexeme) :=
  [(g1, .str q c), ([], .sym 46 .DOT), ([], .word kwRaw), ([], .sym 40 .LPAREN), ([], .sym 41 .RPAREN)]

def rawCode (g1 : Bytes) (q : Byte) (c g2 : Bytes) : Code := { src := rawSrc g1 q c g2, keys := rawKeys c }

theorem raw_block (g1 : Bytes) (q : Byte) (c g2 : Bytes) (hg1 : allWs g1) (hg2 : allWs g2) (hq : q = 34 ∨ q = 39) (hp : PlainStr q c) :
    Block false (rawCode g1 q c g2) (rawLexemes g1 q c) g2 where
  src tl := by simp [rawLexemes, rawCode, rawSrc, lexemesSrc, Lexeme.src]
  keys := rfl
  gap := hg2
  first _ _ h := by cases h
  lexemes _ := ⟨hg1, ⟨hq, hp⟩,
    allWs_nil, Or.inl rfl,
    allWs_nil, Lexeme.word_ok (by decide) allWs_nil (fun _ => rfl),
    allWs_nil, isSym_lparen _,
    allWs_nil, isSym_rparen _, trivial⟩

theorem rawCode_parses (g1 : Bytes) (q : Byte) (c g2 : Bytes) (hg1 : allWs g1) (hg2 : allWs g2) (hq : q = 34 ∨ q = 39) (hp : PlainStr q c) :
    ParsesAs (rawCode g1 q c g2) (fun st => ∃ t6 e, st = .expr t6 e ∧ ∃ t2 t4, e = .call t4 (.str t2 c) kwRaw []) :=
  (raw_block g1 q c g2 hg1 hg2 hq hp).parsesAs nofun fun t2 ty2 lit2 _ ty3 _ t4 ty4 lit4 _ ty5 _ _ ty6 _ _ _ ty7 cl =>
    ⟨_, _, _, Nat.le_of_ble_eq_true rfl, .call0 (atomExpr_str_lit ty2 lit2) ty3 ty4 ty5 ty6 ty7 (cl.drop 4), t2, t4, by rw [lit4]; rfl⟩

theorem parse_raw_source (g1 : Bytes) (q : Byte) (c g2 : Bytes) (hg1 : allWs g1) (hg2 : allWs g2) (hq : q = 34 ∨ q = 39) (hp : PlainStr q c) :
    ∃ prog t2 t4 t6, parseSource (rawSrc g1 q c g2) = .ok prog ∧ prog.stmts = [.expr t6 (.call t4 (.str t2 c) kwRaw [])] := by
  obtain ⟨_, t, hpp, t6, _, rfl, t2, t4, rfl⟩ := parseSource_one (rawCode_parses g1 q c g2 hg1 hg2 hq hp)
  exact ⟨_, t2, t4, t6, hpp, rfl⟩

/-! Statements in their own right about the same shapes, each read off the shape's `x_block` or its rule (`ParsesAt.call0`,
    `ParsesAt.call1`).  No from-source proof uses them. -/

theorem lex_call (s : Lx) (g1 k f g2 tl : Bytes) (hh : s.isHTML = true) (hb : s.braces = 0) (hdir : s.isDirective = false)
    (hg1 : allWs g1) (hg2 : allWs g2) (hk : isName k) (hf : isName f) (hr : s.rest = callSrc g1 k f g2 ++ tl) :
    ∃ toks s7, Run s toks s7 ∧ toks.map key = callKeys k f ∧ s7.rest = tl ∧ s7.prev = 125 ∧
      mode s7 = (true, false, s.parens, 0, s.panicked) :=
  (call_block g1 k f g2 hg1 hg2 hk hf).lex hdir hh hb hr

theorem parse_call_stmt (g : Nat) (t1 t2 t3 t4 t5 t6 t7 : Token) (tail : List Token) (h1 : t1.ty = .LBRACES) (h2 : t2.ty = .IDENT)
    (h3 : t3.ty = .DOT) (h4 : t4.ty = .IDENT) (h5 : t5.ty = .LPAREN) (h6 : t6.ty = .RPAREN) (h7 : t7.ty = .RBRACES)
    (hclean : ∀ x ∈ tail, x.ty ≠ .ILLEGAL) :
    parseStatement (g + 4) ({ toks := t1 :: t2 :: t3 :: t4 :: t5 :: t6 :: t7 :: tail } : PS) =
      (.expr t6 (.call t4 (.ident t2 t2.lit) t4.lit []), { toks := t7 :: tail }) :=
  have c6 : NoIll (t6 :: t7 :: tail) := .of_ty h6 (.of_ty h7 hclean)
  (StmtAt.expr_name h1 h2 (by rw [h3]; decide) h7 (.of_ty h3 (.of_ty h4 (.of_ty h5 c6))) hclean
    (.call0 (atomExpr_ident h2) h3 h4 h5 h6 h7 c6)).on (by omega) rfl

theorem parse_call_source (g1 k f g2 : Bytes) (hg1 : allWs g1) (hg2 : allWs g2) (hk : isName k) (hf : isName f) :
    ∃ prog t2 t4 t6, parseSource (callSrc g1 k f g2) = .ok prog ∧ prog.stmts = [.expr t6 (.call t4 (.ident t2 k) f [])] := by
  obtain ⟨_, t, hp, t6, _, rfl, t2, t4, rfl⟩ := parseSource_one (callCode_parses g1 k f g2 hg1 hg2 hk hf)
  exact ⟨_, t2, t4, t6, hp, rfl⟩

theorem lex_callNum (s : Lx) (g1 k f g3 d g4 g2 tl : Bytes) (hh : s.isHTML = true) (hb : s.braces = 0) (hdir : s.isDirective = false)
    (hg1 : allWs g1) (hg2 : allWs g2) (hg3 : allWs g3) (hg4 : allWs g4) (hk : isName k) (hf : isName f) (hdg : isDigits d)
    (hr : s.rest = callNumSrc g1 k f g3 d g4 g2 ++ tl) :
    ∃ toks s8, Run s toks s8 ∧ toks.map key = callNumKeys k f d ∧ s8.rest = tl ∧ s8.prev = 125 ∧
      mode s8 = (true, false, s.parens, 0, s.panicked) :=
  (callNum_block g1 k f g3 d g4 g2 hg1 hg2 hg3 hg4 hk hf hdg).lex hdir hh hb hr

theorem parse_call1_stmt {g : Nat} {t1 t2 t3 t4 t5 t6 t7 t8 : Token} {tail : List Token} {a : Expr} (h1 : t1.ty = .LBRACES)
    (h2 : t2.ty = .IDENT) (h3 : t3.ty = .DOT) (h4 : t4.ty = .IDENT) (h5 : t5.ty = .LPAREN) (h7 : t7.ty = .RPAREN)
    (h8 : t8.ty = .RBRACES) (ha : atomExpr t6 = some a) (hclean : NoIll tail) :
    parseStatement (g + 6) ({ toks := t1 :: t2 :: t3 :: t4 :: t5 :: t6 :: t7 :: t8 :: tail } : PS) =
      (.expr t7 (.call t4 (.ident t2 t2.lit) t4.lit [a]), { toks := t8 :: tail }) :=
  have c7 : NoIll (t7 :: t8 :: tail) := .of_ty h7 (.of_ty h8 hclean)
  (StmtAt.expr_name h1 h2 (by rw [h3]; decide) h8 (.of_ty h3 (.of_ty h4 (.of_ty h5 (.cons (atomExpr_ty_ne ha) c7)))) hclean
    (ParsesAt.call1 h2 h3 h4 h5 h7 h8 ha c7)).on (by omega) rfl

theorem parse_callNum_stmt (g : Nat) (t1 t2 t3 t4 t5 t6 t7 t8 : Token) (tail : List Token) (v : Int64) (h1 : t1.ty = .LBRACES)
    (h2 : t2.ty = .IDENT) (h3 : t3.ty = .DOT) (h4 : t4.ty = .IDENT) (h5 : t5.ty = .LPAREN) (h6 : t6.ty = .INT) (h7 : t7.ty = .RPAREN)
    (h8 : t8.ty = .RBRACES) (hv : parseInt64 t6.lit = some v) (hclean : ∀ x ∈ tail, x.ty ≠ .ILLEGAL) :
    parseStatement (g + 6) ({ toks := t1 :: t2 :: t3 :: t4 :: t5 :: t6 :: t7 :: t8 :: tail } : PS) =
      (.expr t7 (.call t4 (.ident t2 t2.lit) t4.lit [.int t6 v]), { toks := t8 :: tail }) :=
  parse_call1_stmt h1 h2 h3 h4 h5 h7 h8 (atomExpr_int h6 hv) hclean

theorem parse_callNum_source (g1 k f g3 d g4 g2 : Bytes) (hg1 : allWs g1) (hg2 : allWs g2) (hg3 : allWs g3) (hg4 : allWs g4)
    (hk : isName k) (hf : isName f) (hdg : isDigits d) (hb : digitsToNat d ≤ 9223372036854775807) :
    ∃ prog t2 t4 t6 t7, parseSource (callNumSrc g1 k f g3 d g4 g2) = .ok prog ∧
      prog.stmts = [.expr t7 (.call t4 (.ident t2 k) f [.int t6 (Int64.ofNat (digitsToNat d))])] := by
  obtain ⟨_, t, hp, t7, _, rfl, t2, t4, t6, rfl⟩ := parseSource_one (callNumCode_parses g1 k f g3 d g4 g2 hg1 hg2 hg3 hg4 hk hf hdg hb)
  exact ⟨_, t2, t4, t6, t7, hp, rfl⟩

theorem lex_callStr (s : Lx) (g1 k f g3 : Bytes) (q : Byte) (d g4 g2 tl : Bytes) (hh : s.isHTML = true) (hb : s.braces = 0) (hdir : s.isDirective = false)
    (hg1 : allWs g1) (hg2 : allWs g2) (hg3 : allWs g3) (hg4 : allWs g4) (hk : isName k) (hf : isName f) (hq : q = 34 ∨ q = 39) (hdg : PlainStr q d)
    (hr : s.rest = callStrSrc g1 k f g3 q d g4 g2 ++ tl) :
    ∃ toks s8, Run s toks s8 ∧ toks.map key = callStrKeys k f d ∧ s8.rest = tl ∧ s8.prev = 125 ∧
      mode s8 = (true, false, s.parens, 0, s.panicked) :=
  (callStr_block g1 k f g3 q d g4 g2 hg1 hg2 hg3 hg4 hk hf hq hdg).lex hdir hh hb hr

theorem parse_callStr_stmt (g : Nat) (t1 t2 t3 t4 t5 t6 t7 t8 : Token) (tail : List Token) (h1 : t1.ty = .LBRACES)
    (h2 : t2.ty = .IDENT) (h3 : t3.ty = .DOT) (h4 : t4.ty = .IDENT) (h5 : t5.ty = .LPAREN) (h6 : t6.ty = .STR) (h7 : t7.ty = .RPAREN)
    (h8 : t8.ty = .RBRACES) (hclean : ∀ x ∈ tail, x.ty ≠ .ILLEGAL) :
    parseStatement (g + 6) ({ toks := t1 :: t2 :: t3 :: t4 :: t5 :: t6 :: t7 :: t8 :: tail } : PS) =
      (.expr t7 (.call t4 (.ident t2 t2.lit) t4.lit [.str t6 t6.lit]), { toks := t8 :: tail }) :=
  parse_call1_stmt h1 h2 h3 h4 h5 h7 h8 (atomExpr_str h6) hclean

theorem parse_callStr_source (g1 k f g3 : Bytes) (q : Byte) (d g4 g2 : Bytes) (hg1 : allWs g1) (hg2 : allWs g2) (hg3 : allWs g3) (hg4 : allWs g4)
    (hk : isName k) (hf : isName f) (hq : q = 34 ∨ q = 39) (hdg : PlainStr q d) :
    ∃ prog t2 t4 t6 t7, parseSource (callStrSrc g1 k f g3 q d g4 g2) = .ok prog ∧
      prog.stmts = [.expr t7 (.call t4 (.ident t2 k) f [.str t6 d])] := by
  obtain ⟨_, t, hp, t7, _, rfl, t2, t4, t6, rfl⟩ := parseSource_one (callStrCode_parses g1 k f g3 q d g4 g2 hg1 hg2 hg3 hg4 hk hf hq hdg)
  exact ⟨_, t2, t4, t6, t7, hp, rfl⟩

theorem lex_raw (s : Lx) (g1 : Bytes) (q : Byte) (c g2 tl : Bytes) (hh : s.isHTML = true) (hb : s.braces = 0) (hdir : s.isDirective = false)
    (hg1 : allWs g1) (hg2 : allWs g2) (hq : q = 34 ∨ q = 39) (hp : PlainStr q c) (hr : s.rest = rawSrc g1 q c g2 ++ tl) :
    ∃ toks s7, Run s toks s7 ∧ toks.map key = rawKeys c ∧ s7.rest = tl ∧ s7.prev = 125 ∧
      mode s7 = (true, false, s.parens, 0, s.panicked) :=
  (raw_block g1 q c g2 hg1 hg2 hq hp).lex hdir hh hb hr

theorem parse_strcall_stmt (g : Nat) (t1 t2 t3 t4 t5 t6 t7 : Token) (tail : List Token) (h1 : t1.ty = .LBRACES) (h2 : t2.ty = .STR)
    (h3 : t3.ty = .DOT) (h4 : t4.ty = .IDENT) (h5 : t5.ty = .LPAREN) (h6 : t6.ty = .RPAREN) (h7 : t7.ty = .RBRACES)
    (hclean : ∀ x ∈ tail, x.ty ≠ .ILLEGAL) :
    parseStatement (g + 4) ({ toks := t1 :: t2 :: t3 :: t4 :: t5 :: t6 :: t7 :: tail } : PS) =
      (.expr t6 (.call t4 (.str t2 t2.lit) t4.lit []), { toks := t7 :: tail }) :=
  have c6 : NoIll (t6 :: t7 :: tail) := .of_ty h6 (.of_ty h7 hclean)
  (StmtAt.expr_of_ty h1 h2 h7 (.of_ty h3 (.of_ty h4 (.of_ty h5 c6))) hclean
    (.call0 (atomExpr_str h2) h3 h4 h5 h6 h7 c6)).on (by omega) rfl

end Tw
