/-
  TwProofs.Lemmas.PrattErase — the value of an expression depends on the kinds and literals of
  its tokens only, never on their positions: two well-formed trees whose minimal printings agree
  up to positions have the same denotation (`same_keys_same_denotation`; C01 `token_positions_never_change_the_value`:
  "whitespace, newlines … never change the result").  A relabelling of tokens that keeps kinds and literals (`KeepsKey`, `mapTok`)
  commutes with the printer, with `ok` and with `toS`; with the positions erased the two printings are equal, and the
  printer is injective (`Full.print_injective`).
-/
import TwProofs.Lemmas.LexPos
import TwProofs.Lemmas.SpecSim
import TwProofs.Lemmas.PrattFull
namespace Tw
open TwSpec

def KeepsKey (f : Token → Token) : Prop := ∀ t, (f t).ty = t.ty ∧ (f t).lit = t.lit

mutual
def FE.mapTok (f : Token → Token) : FE → FE
  | .atom t => .atom (f t)
  | .pre op r => .pre (f op) (r.mapTok f)
  | .bin op l r => .bin (f op) (l.mapTok f) (r.mapTok f)
  | .tern q c cnd a bb => .tern (f q) (f c) (cnd.mapTok f) (a.mapTok f) (bb.mapTok f)
  | .post op l => .post (f op) (l.mapTok f)
  | .index lb l i => .index (f lb) (l.mapTok f) (i.mapTok f)
  | .dot d name l => .dot (f d) (f name) (l.mapTok f)
  | .call d name l args => .call (f d) (f name) (l.mapTok f) (args.mapTok f)
  | .arr lb els => .arr (f lb) (els.mapTok f)
  | .obj lbr ps => .obj (f lbr) (ps.mapTok f)
def FEs.mapTok (f : Token → Token) : FEs → FEs
  | .nil => .nil
  | .cons e r => .cons (e.mapTok f) (r.mapTok f)
def FPs.mapTok (f : Token → Token) : FPs → FPs
  | .nil => .nil
  | .cons key colon v r => .cons (f key) (f colon) (v.mapTok f) (r.mapTok f)
end

theorem toSPairs_mapSet (acc : List (Bytes × Expr)) (k : Bytes) (v : Expr) :
    Expr.toSPairs (mapSet acc k v) = mapSet (Expr.toSPairs acc) k v.toS := by
  induction acc with
  | nil => simp [mapSet, Expr.toSPairs]
  | cons x r ih =>
    obtain ⟨k', v'⟩ := x
    simp only [mapSet, Expr.toSPairs]
    split
    · simp [Expr.toSPairs]
    · simp [Expr.toSPairs, ih]

section
variable (f : Token → Token) (hf : KeepsKey f)
include hf

theorem atomExpr_map (t : Token) : (atomExpr (f t)).isSome = (atomExpr t).isSome ∧
    ((atomExpr (f t)).getD .bad).toS = ((atomExpr t).getD .bad).toS := by
  obtain ⟨h1, h2⟩ := hf t
  unfold atomExpr
  rw [h1, h2]
  cases t.ty <;> simp only [] <;> first
    | exact ⟨rfl, rfl⟩
    | (cases parseInt64 t.lit <;> exact ⟨rfl, rfl⟩)
    | (cases parseFloat64 t.lit <;> exact ⟨rfl, rfl⟩)
    | simp

theorem opPrec_map (t : Token) : opPrec (f t) = opPrec t := by unfold opPrec; rw [(hf t).1]

theorem lastLevel_map : ∀ e : FE, (e.mapTok f).lastLevel = e.lastLevel
  | .atom _ => by rw [FE.mapTok]; rfl
  | .pre _ _ => by rw [FE.mapTok]; rfl
  | .bin op _ _ => by rw [FE.mapTok]; simp only [FE.lastLevel]; exact opPrec_map f hf op
  | .tern _ _ _ _ _ => by rw [FE.mapTok]; rfl
  | .post _ _ => by rw [FE.mapTok]; rfl
  | .index _ _ _ => by rw [FE.mapTok]; rfl
  | .dot _ _ _ => by rw [FE.mapTok]; rfl
  | .call _ _ _ _ => by rw [FE.mapTok]; rfl
  | .arr _ _ => by rw [FE.mapTok]; rfl
  | .obj _ _ => by rw [FE.mapTok]; rfl

abbrev nox : FE → Bool := fun _ => false

theorem bareL_map (pn : Nat) (l : FE) : Full.bareL nox pn (l.mapTok f) = Full.bareL nox pn l := by
  unfold Full.bareL; rw [lastLevel_map f hf]

theorem spine_map : ∀ e : FE, Full.spine nox (e.mapTok f) = Full.spine nox e
  | .atom _ => by rw [FE.mapTok, Full.spine, Full.spine]
  | .pre _ _ => by rw [FE.mapTok, Full.spine, Full.spine]
  | .bin op l _ => by
    rw [FE.mapTok, Full.spine, Full.spine, opPrec_map f hf, bareL_map f hf, spine_map l]
  | .tern _ _ cnd _ _ => by rw [FE.mapTok, Full.spine, Full.spine, bareL_map f hf, spine_map cnd]
  | .post _ l => by rw [FE.mapTok, Full.spine, Full.spine, bareL_map f hf, spine_map l]
  | .index _ l _ => by rw [FE.mapTok, Full.spine, Full.spine, bareL_map f hf, spine_map l]
  | .dot _ _ l => by rw [FE.mapTok, Full.spine, Full.spine, bareL_map f hf, spine_map l]
  | .call _ _ l _ => by rw [FE.mapTok, Full.spine, Full.spine, bareL_map f hf, spine_map l]
  | .arr _ _ => by rw [FE.mapTok, Full.spine, Full.spine]
  | .obj _ _ => by rw [FE.mapTok, Full.spine, Full.spine]

theorem bareAt_map (m : Nat) (e : FE) : Full.bareAt nox m (e.mapTok f) = Full.bareAt nox m e := by
  unfold Full.bareAt; rw [spine_map f hf]

omit hf in
theorem wrap_map (lp rp : Token) (bare : Bool) (ts : List Token) :
    Full.wrap (f lp) (f rp) bare (ts.map f) = (Full.wrap lp rp bare ts).map f := by
  unfold Full.wrap; cases bare <;> simp

variable (lp rp rbk rbr cm : Token)

mutual
theorem body_map : ∀ e : FE, Full.body (f lp) (f rp) (f rbk) (f rbr) (f cm) nox (e.mapTok f) =
    (Full.body lp rp rbk rbr cm nox e).map f
  | .atom t => by rw [FE.mapTok, Full.body, Full.body]; rfl
  | .pre op r => by
    rw [FE.mapTok, Full.body, Full.body]; rw [bareAt_map f hf, body_map r, wrap_map]; simp
  | .bin op l r => by
    rw [FE.mapTok, Full.body, Full.body]; rw [opPrec_map f hf, bareL_map f hf, bareAt_map f hf, body_map l, body_map r,
      wrap_map, wrap_map]; simp
  | .tern q c cnd a bb => by
    rw [FE.mapTok, Full.body, Full.body]; rw [bareL_map f hf, bareAt_map f hf, bareAt_map f hf, body_map cnd, body_map a,
      body_map bb, wrap_map, wrap_map, wrap_map]; simp
  | .post op l => by
    rw [FE.mapTok, Full.body, Full.body]; rw [bareL_map f hf, body_map l, wrap_map]; simp
  | .index lb l i => by
    rw [FE.mapTok, Full.body, Full.body]; rw [bareL_map f hf, bareAt_map f hf, body_map l, body_map i, wrap_map, wrap_map]; simp
  | .dot d name l => by
    rw [FE.mapTok, Full.body, Full.body]; rw [bareL_map f hf, body_map l, wrap_map]; simp
  | .call d name l args => by
    rw [FE.mapTok, Full.body, Full.body]; rw [bareL_map f hf, body_map l, wrap_map, bodyList_map true args]; simp
  | .arr lb els => by
    rw [FE.mapTok, Full.body, Full.body]; rw [bodyList_map true els]; simp
  | .obj lbr ps => by
    rw [FE.mapTok, Full.body, Full.body]; rw [bodyPairs_map true ps]; simp
theorem bodyList_map : ∀ (first : Bool) (es : FEs), Full.bodyList (f lp) (f rp) (f rbk) (f rbr) (f cm) nox first (es.mapTok f) =
    (Full.bodyList lp rp rbk rbr cm nox first es).map f
  | _, .nil => by rw [FEs.mapTok, Full.bodyList, Full.bodyList]; rfl
  | first, .cons e r => by
    rw [FEs.mapTok, Full.bodyList, Full.bodyList]; rw [bareAt_map f hf, body_map e, wrap_map, bodyList_map false r]
    cases first <;> simp
theorem bodyPairs_map : ∀ (first : Bool) (ps : FPs), Full.bodyPairs (f lp) (f rp) (f rbk) (f rbr) (f cm) nox first (ps.mapTok f) =
    (Full.bodyPairs lp rp rbk rbr cm nox first ps).map f
  | _, .nil => by rw [FPs.mapTok, Full.bodyPairs, Full.bodyPairs]; rfl
  | first, .cons key colon v r => by
    rw [FPs.mapTok, Full.bodyPairs, Full.bodyPairs]; rw [bareAt_map f hf, body_map v, wrap_map, bodyPairs_map false r]
    cases first <;> simp
end

theorem showAt_map (m : Nat) (e : FE) : Full.showAt (f lp) (f rp) (f rbk) (f rbr) (f cm) nox m (e.mapTok f) =
    (Full.showAt lp rp rbk rbr cm nox m e).map f := by
  unfold Full.showAt
  rw [bareAt_map f hf, body_map f hf, wrap_map]

-- `oks_map` uses `hf` through `ok_map` only, which the linter does not see inside a mutual block (likewise `toSs_map` below)
set_option linter.unusedSectionVars false in
mutual
theorem ok_map : ∀ e : FE, e.ok → (e.mapTok f).ok
  | .atom t, h => by rw [FE.mapTok, FE.ok, (atomExpr_map f hf t).1]; rw [FE.ok] at h; exact h
  | .pre op r, h => by
    rw [FE.ok] at h; rw [FE.mapTok, FE.ok, (hf op).1]; exact ⟨h.1, ok_map r h.2⟩
  | .bin op l r, h => by
    rw [FE.ok] at h; rw [FE.mapTok, FE.ok, (hf op).1]; exact ⟨h.1, ok_map l h.2.1, ok_map r h.2.2⟩
  | .tern q c cnd a bb, h => by
    rw [FE.ok] at h; rw [FE.mapTok, FE.ok, (hf q).1, (hf c).1]
    exact ⟨h.1, h.2.1, ok_map cnd h.2.2.1, ok_map a h.2.2.2.1, ok_map bb h.2.2.2.2⟩
  | .post op l, h => by
    rw [FE.ok] at h; rw [FE.mapTok, FE.ok, (hf op).1]; exact ⟨h.1, ok_map l h.2⟩
  | .index lb l i, h => by
    rw [FE.ok] at h; rw [FE.mapTok, FE.ok, (hf lb).1]; exact ⟨h.1, ok_map l h.2.1, ok_map i h.2.2⟩
  | .dot d name l, h => by
    rw [FE.ok] at h; rw [FE.mapTok, FE.ok, (hf d).1, (hf name).1]; exact ⟨h.1, h.2.1, ok_map l h.2.2⟩
  | .call d name l args, h => by
    rw [FE.ok] at h; rw [FE.mapTok, FE.ok, (hf d).1, (hf name).1]
    exact ⟨h.1, h.2.1, ok_map l h.2.2.1, oks_map args h.2.2.2⟩
  | .arr lb els, h => by
    rw [FE.ok] at h; rw [FE.mapTok, FE.ok, (hf lb).1]; exact ⟨h.1, oks_map els h.2⟩
  | .obj lbr ps, h => by
    rw [FE.ok] at h; rw [FE.mapTok, FE.ok, (hf lbr).1]; exact ⟨h.1, okp_map ps h.2⟩
theorem oks_map : ∀ es : FEs, es.ok → (es.mapTok f).ok
  | .nil, _ => by rw [FEs.mapTok, FEs.ok]; trivial
  | .cons e r, h => by rw [FEs.ok] at h; rw [FEs.mapTok, FEs.ok]; exact ⟨ok_map e h.1, oks_map r h.2⟩
theorem okp_map : ∀ ps : FPs, ps.ok → (ps.mapTok f).ok
  | .nil, _ => by rw [FPs.mapTok, FPs.ok]; trivial
  | .cons key colon v r, h => by
    rw [FPs.ok] at h; rw [FPs.mapTok, FPs.ok, (hf key).1, (hf colon).1]
    exact ⟨h.1, h.2.1, ok_map v h.2.2.1, okp_map r h.2.2.2⟩
end

set_option linter.unusedSectionVars false in
mutual
theorem toS_map : ∀ e : FE, (e.mapTok f).toExpr.toS = e.toExpr.toS
  | .atom t => by rw [FE.mapTok, FE.toExpr, FE.toExpr]; exact (atomExpr_map f hf t).2
  | .pre op r => by rw [FE.mapTok, FE.toExpr, FE.toExpr, Expr.toS, Expr.toS, (hf op).2, toS_map r]
  | .bin op l r => by rw [FE.mapTok, FE.toExpr, FE.toExpr, Expr.toS, Expr.toS, (hf op).2, toS_map l, toS_map r]
  | .tern q c cnd a bb => by rw [FE.mapTok, FE.toExpr, FE.toExpr, Expr.toS, Expr.toS, toS_map cnd, toS_map a, toS_map bb]
  | .post op l => by rw [FE.mapTok, FE.toExpr, FE.toExpr, Expr.toS, Expr.toS, (hf op).2, toS_map l]
  | .index lb l i => by rw [FE.mapTok, FE.toExpr, FE.toExpr, Expr.toS, Expr.toS, toS_map l, toS_map i]
  | .dot d name l => by rw [FE.mapTok, FE.toExpr, FE.toExpr, Expr.toS, Expr.toS, (hf name).2, toS_map l]
  | .call d name l args => by
    rw [FE.mapTok, FE.toExpr, FE.toExpr, Expr.toS, Expr.toS, (hf name).2, toS_map l, toSs_map args]
  | .arr lb els => by rw [FE.mapTok, FE.toExpr, FE.toExpr, Expr.toS, Expr.toS, toSs_map els]
  | .obj lbr ps => by rw [FE.mapTok, FE.toExpr, FE.toExpr, Expr.toS, Expr.toS, toSp_map ps [] [] rfl]
theorem toSs_map : ∀ es : FEs, Expr.toSList (es.mapTok f).toExprs = Expr.toSList es.toExprs
  | .nil => by rw [FEs.mapTok]
  | .cons e r => by rw [FEs.mapTok, FEs.toExprs, FEs.toExprs, Expr.toSList, Expr.toSList, toS_map e, toSs_map r]
theorem toSp_map : ∀ (ps : FPs) (acc acc' : List (Bytes × Expr)), Expr.toSPairs acc' = Expr.toSPairs acc →
    Expr.toSPairs ((ps.mapTok f).toPairs acc') = Expr.toSPairs (ps.toPairs acc)
  | .nil, acc, acc', h => by rw [FPs.mapTok, FPs.toPairs, FPs.toPairs]; exact h
  | .cons key colon v r, acc, acc', h => by
    rw [FPs.mapTok, FPs.toPairs, FPs.toPairs]
    apply toSp_map r
    rw [toSPairs_mapSet, toSPairs_mapSet, (hf key).2, toS_map v, h]
end

end

def eraseTok (t : Token) : Token := { ty := t.ty, lit := t.lit, pos := {} }

theorem eraseTok_keeps : KeepsKey eraseTok := fun _ => ⟨rfl, rfl⟩

theorem eraseTok_eq (t : Token) : eraseTok t = { ty := (key t).1, lit := (key t).2, pos := {} } := rfl

theorem eraseTok_eq_of_key {a c : Token} (h : key a = key c) : eraseTok a = eraseTok c := by rw [eraseTok_eq, eraseTok_eq, h]

theorem map_erase_of_keys {a c : List Token} (h : a.map key = c.map key) : a.map eraseTok = c.map eraseTok := by
  have e : ∀ l : List Token, l.map eraseTok = (l.map key).map (fun k => ({ ty := k.1, lit := k.2, pos := {} } : Token)) := fun l => by
    rw [List.map_map]; rfl
  rw [e a, e c, h]

/-- C01 `token_positions_never_change_the_value` before `seval` is applied: the two token-free trees are equal -/
theorem same_keys_same_denotation (lp rp rbk rbr cm lp' rp' rbk' rbr' cm' : Token)
    (hlp : lp.ty = .LPAREN) (hrp : rp.ty = .RPAREN) (hrbk : rbk.ty = .RBRACKET) (hrbr : rbr.ty = .RBRACE) (hcm : cm.ty = .COMMA)
    (klp : key lp' = key lp) (krp : key rp' = key rp) (krbk : key rbk' = key rbk) (krbr : key rbr' = key rbr) (kcm : key cm' = key cm)
    (e1 e2 : FE) (h1 : e1.ok) (h2 : e2.ok)
    (heq : (Full.showAt lp rp rbk rbr cm (fun _ => false) (LOWEST + 1) e1).map key =
           (Full.showAt lp' rp' rbk' rbr' cm' (fun _ => false) (LOWEST + 1) e2).map key) :
    e1.toExpr.toS = e2.toExpr.toS := by
  have hm := map_erase_of_keys heq
  rw [← showAt_map eraseTok eraseTok_keeps, ← showAt_map eraseTok eraseTok_keeps, eraseTok_eq_of_key klp, eraseTok_eq_of_key krp,
    eraseTok_eq_of_key krbk, eraseTok_eq_of_key krbr, eraseTok_eq_of_key kcm] at hm
  -- injectivity of printing wants a continuation at which the loop stops: any will do, here one `}}` token
  have inj := Full.print_injective (eraseTok lp) (eraseTok rp) (eraseTok rbk) (eraseTok rbr) (eraseTok cm) hlp hrp hrbk hrbr hcm
    (e1.mapTok eraseTok) (e2.mapTok eraseTok) (ok_map eraseTok eraseTok_keeps e1 h1) (ok_map eraseTok eraseTok_keeps e2 h2)
    [{ ty := .RBRACES, lit := [], pos := {} }] (.one (by decide)) (.rbraces rfl) hm
  rw [← toS_map eraseTok eraseTok_keeps e1, ← toS_map eraseTok eraseTok_keeps e2, inj]

end Tw
