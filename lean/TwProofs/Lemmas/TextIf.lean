/-
  TwProofs.Lemmas.TextIf — templates of text, comments, `{{ name }}` and `{{ "text" }}` blocks
  (`WItem.print`, `WItem.lit`) and `@if(name) text [@else text] @end` constructs, from the source
  bytes to the rendered output (`witems_render`, C02): exactly the branch chosen by the truthiness of the name
  is rendered, the text around the construct is unaffected.  `lexes_witems` is the lexer induction of a language
  with items of its own: one `ReadsTo` per item, put together by `Lexes.item`.
-/
import TwProofs.Lemmas.TextVars
namespace Tw
open Lx

theorem lex_if_header (s : Lx) (g1 n g2 tl : Bytes) (hh : s.isHTML = true) (hprev : s.prev ≠ 92) (hp0 : s.parens = 0)
    (hg1 : allWs g1) (hg2 : allWs g2) (hn : isName n)
    (hr : s.rest = kwIf ++ ([40] ++ g1 ++ n ++ g2 ++ [41] ++ tl)) :
    ∃ t1 t2 t3 t4 s4, Run s [t1, t2, t3, t4] s4 ∧ key t1 = (.IF, kwIf) ∧ key t2 = (.LPAREN, [40]) ∧ key t3 = (.IDENT, n) ∧
      key t4 = (.RPAREN, [41]) ∧ s4.rest = tl ∧ s4.isHTML = true ∧ s4.isDirective = false ∧ s4.parens = 0 ∧ s4.braces = s.braces ∧
      s4.panicked = s.panicked ∧ s4.prev = 41 := by
  obtain ⟨t1, t2, t3, t4, s4, run, k1, k2, k3, k4, r4, pv4, m4⟩ := lex_cond_header kwIf .IF dirKw_if s g1 n g2 tl hh hprev hp0 hg1 hg2 hn
    (by rw [hr]; simp)
  obtain ⟨e1, e2, e3, e4, e5⟩ := mode_fields m4
  exact ⟨t1, t2, t3, t4, s4, run, k1, k2, k3, k4, r4, e1, e2, e3, e4, e5, pv4⟩

inductive WItem where
  | text (segs : List Seg)
  | comment (cm : Bytes)
  | print (g1 n g2 : Bytes)
  | lit (g1 : Bytes) (q : Byte) (c g2 : Bytes)
  | ifelse (g1 n g2 : Bytes) (th : List Seg) (el : Option (List Seg))

def elseSrc : Option (List Seg) → Bytes
  | none => []
  | some e => kwElse ++ segsSrc e

def WItem.src : WItem → Bytes
  | .text segs => segsSrc segs
  | .comment cm => [123, 123, 45, 45] ++ cm ++ [45, 45, 125, 125]
  | .print g1 n g2 => [123, 123] ++ g1 ++ n ++ g2 ++ [125, 125]
  | .lit g1 q c g2 => [123, 123] ++ g1 ++ (q :: (c ++ [q])) ++ g2 ++ [125, 125]
  | .ifelse g1 n g2 th el => kwIf ++ ([40] ++ g1 ++ n ++ g2 ++ [41] ++ (segsSrc th ++ (elseSrc el ++ kwEnd)))

def witemsSrc : List WItem → Bytes
  | [] => []
  | i :: r => i.src ++ witemsSrc r

def elseKeys : Option (List Seg) → List (TT × Bytes)
  | none => []
  | some e => [(.ELSE, kwElse), (.HTML, segsLit e)]

def wkeys : List WItem → List (TT × Bytes)
  | [] => []
  | .text segs :: r => (.HTML, segsLit segs) :: wkeys r
  | .comment _ :: r => wkeys r
  | .print _ n _ :: r => (.LBRACES, [123, 123]) :: (.IDENT, n) :: (.RBRACES, [125, 125]) :: wkeys r
  | .lit _ _ c _ :: r => (.LBRACES, [123, 123]) :: (.STR, c) :: (.RBRACES, [125, 125]) :: wkeys r
  | .ifelse _ n _ th el :: r =>
    (.IF, kwIf) :: (.LPAREN, [40]) :: (.IDENT, n) :: (.RPAREN, [41]) :: (.HTML, segsLit th) :: (elseKeys el ++ ((.END, kwEnd) :: wkeys r))

def afterRunW (segs : List Seg) : List WItem → Prop
  | [] => True
  | .text _ :: _ => False
  | _ :: _ => lastOr (segsSrc segs) 0 ≠ 92

/-- the `@else` part: a run of text that does not begin with "if", is followed by `@end`, and does not end in a backslash -/
def ElseOK (tl : Bytes) : Option (List Seg) → Prop
  | none => True
  | some e => startsRun e ∧ SegsOK e (kwEnd ++ tl) ∧ lastOr (segsSrc e) 0 ≠ 92 ∧
      ¬ ((segsSrc e ++ (kwEnd ++ tl)).headD 0 = 105 ∧ ((segsSrc e ++ (kwEnd ++ tl)).drop 1).headD 0 = 102)

def WItemsOK : List WItem → Prop
  | [] => True
  | .comment cm :: r => commentScan (cm ++ [45, 45, 125, 125] ++ witemsSrc r) = cm.length ∧ WItemsOK r
  | .text segs :: r => startsRun segs ∧ SegsOK segs (witemsSrc r) ∧ afterRunW segs r ∧ WItemsOK r
  | .print g1 n g2 :: r => allWs g1 ∧ allWs g2 ∧ isName n ∧ WItemsOK r
  | .lit g1 q c g2 :: r => allWs g1 ∧ allWs g2 ∧ (q = 34 ∨ q = 39) ∧ PlainStr q c ∧ WItemsOK r
  | .ifelse g1 n g2 th el :: r =>
    allWs g1 ∧ allWs g2 ∧ isName n ∧ startsRun th ∧ SegsOK th (elseSrc el ++ kwEnd ++ witemsSrc r) ∧ lastOr (segsSrc th) 0 ≠ 92 ∧
      ElseOK (witemsSrc r) el ∧ WItemsOK r

instance (segs : List Seg) : (r : List WItem) → Decidable (afterRunW segs r)
  | [] => isTrue trivial
  | .text _ :: _ => isFalse (by simp [afterRunW])
  | .comment _ :: _ => by unfold afterRunW; exact inferInstance
  | .print _ _ _ :: _ => by unfold afterRunW; exact inferInstance
  | .lit _ _ _ _ :: _ => by unfold afterRunW; exact inferInstance
  | .ifelse _ _ _ _ _ :: _ => by unfold afterRunW; exact inferInstance

instance (tl : Bytes) : (el : Option (List Seg)) → Decidable (ElseOK tl el)
  | none => isTrue trivial
  | some e => by unfold ElseOK; exact inferInstance

instance : (items : List WItem) → Decidable (WItemsOK items)
  | [] => isTrue trivial
  | .comment cm :: r =>
    have : Decidable (WItemsOK r) := instDecidableWItemsOK r
    by unfold WItemsOK; exact inferInstance
  | .text segs :: r =>
    have : Decidable (WItemsOK r) := instDecidableWItemsOK r
    by unfold WItemsOK; exact inferInstance
  | .print g1 n g2 :: r =>
    have : Decidable (WItemsOK r) := instDecidableWItemsOK r
    by unfold WItemsOK; exact inferInstance
  | .lit g1 q c g2 :: r =>
    have : Decidable (WItemsOK r) := instDecidableWItemsOK r
    by unfold WItemsOK; exact inferInstance
  | .ifelse g1 n g2 th el :: r =>
    have : Decidable (WItemsOK r) := instDecidableWItemsOK r
    by unfold WItemsOK; exact inferInstance

theorem Stops.kw {kw : Bytes} {ty : TT} (hk : IsKw kw ty) (x : Bytes) : Stops (kw ++ x) := by
  right; right
  cases kw with
  | nil => exact absurd hk.len1 (by decide)
  | cons c v =>
    have hat := hk.hat
    simp only [List.headD_cons] at hat
    subst hat
    exact ⟨v ++ x, rfl, hasDirectivePrefix_kw (64 :: v) x hk.lk hk.len2⟩

theorem Ready.keyword {s : Lx} (h : Ready s) {kw x : Bytes} {ty : TT} (hk : IsKw kw ty) (hscan : dirScan [] .ILLEGAL (kw ++ x) = (kw, ty))
    (hnp : (tokensWithoutParens.contains ty && !(tokensWithOptionalParens.contains ty && x.headD 0 == 40)) = true)
    (hprev : s.prev ≠ 92) (hr : s.rest = kw ++ x) (hlast : kw.reverse.headD 0 ≠ 92) : ReadsTo s [(ty, kw)] x := by
  obtain ⟨t, s1, st, k, ne, r1, pv1, m1⟩ := hk.step s x h.html hprev hr hscan hnp hlast
  exact ⟨[t], s1, .cons _ _ _ _ _ st ne (.nil _), by rw [List.map_singleton, k], r1, h.of_mode (by rw [m1, h.parens]), fun _ => pv1⟩

theorem Ready.kwEnd {s : Lx} (h : Ready s) (hprev : s.prev ≠ 92) {x : Bytes} (hr : s.rest = kwEnd ++ x) : ReadsTo s [(.END, kwEnd)] x :=
  h.keyword isKw_end (dirScan_end x) rfl hprev hr (by decide)

theorem lex_ifelse {s : Lx} (h : Ready s) (hpv : s.prev ≠ 92) {g1 n g2 : Bytes} {th : List Seg} {el : Option (List Seg)} {tl : Bytes}
    (hg1 : allWs g1) (hg2 : allWs g2) (hn : isName n) (hsth : startsRun th) (hokth : SegsOK th (elseSrc el ++ kwEnd ++ tl))
    (hlth : lastOr (segsSrc th) 0 ≠ 92) (hel : ElseOK tl el)
    (hr : s.rest = kwIf ++ ([40] ++ g1 ++ n ++ g2 ++ [41] ++ (segsSrc th ++ (elseSrc el ++ kwEnd ++ tl)))) :
    ReadsTo s ((.IF, kwIf) :: (.LPAREN, [40]) :: (.IDENT, n) :: (.RPAREN, [41]) :: (.HTML, segsLit th) ::
      (elseKeys el ++ [(.END, kwEnd)])) tl := by
  obtain ⟨t1, t2, t3, t4, s4, run4, k1, k2, k3, k4, r4, pv4, m4⟩ :=
    lex_cond_header kwIf .IF dirKw_if s g1 n g2 (segsSrc th ++ (elseSrc el ++ kwEnd ++ tl)) h.html hpv h.parens hg1 hg2 hn (by rw [hr]; simp)
  have hhead : ReadsTo s [(.IF, kwIf), (.LPAREN, [40]), (.IDENT, n), (.RPAREN, [41])] (segsSrc th ++ (elseSrc el ++ kwEnd ++ tl)) :=
    ⟨[t1, t2, t3, t4], s4, run4, by simp only [List.map_cons, List.map_nil, k1, k2, k3, k4], r4, h.of_mode m4,
      fun _ => by rw [pv4]; decide⟩
  have hstop : Stops (elseSrc el ++ kwEnd ++ tl) := by
    cases el with
    | none => exact Stops.kw isKw_end tl
    | some e => rw [elseSrc, List.append_assoc, List.append_assoc]; exact Stops.kw isKw_else _
  have hne : elseSrc el ++ kwEnd ++ tl ≠ [] := by simp [kwEnd]
  refine hhead.append fun s4 r4 hs4 _ => (hs4.run hsth hokth r4 hstop fun _ => hlth).append fun s5 r5 hs5 pv5 => ?_
  cases el with
  | none => exact hs5.kwEnd (pv5 hne) r5
  | some e =>
    obtain ⟨hste, hoke, hle, hnif⟩ := hel
    have r5' : s5.rest = kwElse ++ (segsSrc e ++ (kwEnd ++ tl)) := by rw [r5, elseSrc, List.append_assoc, List.append_assoc]
    exact (hs5.keyword isKw_else (dirScan_else _ hnif) rfl (pv5 hne) r5' (by decide)).append fun s6 r6 hs6 _ =>
      (hs6.run hste hoke r6 (Stops.kw isKw_end tl) fun _ => hle).append fun s7 r7 hs7 pv7 => hs7.kwEnd (pv7 (by simp [kwEnd])) r7

theorem Ready.lit {s : Lx} (h : Ready s) {g1 : Bytes} {q : Byte} {c g2 tl : Bytes} (hg1 : allWs g1) (hg2 : allWs g2)
    (hq : q = 34 ∨ q = 39) (hp : PlainStr q c) (hr : s.rest = [123, 123] ++ g1 ++ (q :: (c ++ [q])) ++ g2 ++ [125, 125] ++ tl) :
    ReadsTo s [(.LBRACES, [123, 123]), (.STR, c), (.RBRACES, [125, 125])] tl :=
  h.block (lex_lit s g1 q c g2 tl h.html h.braces hg1 hg2 hq hp hr)

theorem afterRunW_stops (segs : List Seg) : ∀ r : List WItem, afterRunW segs r →
    Stops (witemsSrc r) ∧ (witemsSrc r ≠ [] → lastOr (segsSrc segs) 0 ≠ 92) :=
  Stops.after_run rfl fun it _ h => by
    cases it with
    | text _ => exact h.elim
    | ifelse _ _ _ _ _ => exact ⟨by rw [witemsSrc, WItem.src, List.append_assoc]; exact .kw isKw_if _, h⟩
    | _ => exact ⟨.braces _, h⟩

theorem lexes_witems : ∀ (items : List WItem), WItemsOK items → ∀ (s : Lx), s.rest = witemsSrc items →
    Ready s → (witemsSrc items ≠ [] → s.prev ≠ 92) → Lexes s (wkeys items)
  | [], _, s, hr, hs, _ => .eof hs hr
  | .comment cm :: r, hok, s, hr, hs, _ => by
    obtain ⟨s2, hst2, hr2, hs2, hpv2⟩ := hs.comment hr hok.1
    exact .again hst2 (lexes_witems r hok.2 s2 hr2 hs2 fun _ => hpv2)
  | .text segs :: r, ⟨hstart, hsegs, hafter, hokr⟩, s, hr, hs, _ =>
    .item (hs.run hstart hsegs hr (afterRunW_stops segs r hafter).1 (afterRunW_stops segs r hafter).2) (lexes_witems r hokr)
  | .print g1 n g2 :: r, ⟨hg1, hg2, hn, hokr⟩, s, hr, hs, _ => .item (hs.print hg1 hg2 hn hr) (lexes_witems r hokr)
  | .lit g1 q c g2 :: r, ⟨hg1, hg2, hq, hpl, hokr⟩, s, hr, hs, _ => .item (hs.lit hg1 hg2 hq hpl hr) (lexes_witems r hokr)
  | .ifelse g1 n g2 th el :: r, ⟨hg1, hg2, hn, hsth, hokth, hlth, hel, hokr⟩, s, hr, hs, hpv => by
    have := Lexes.item (lex_ifelse hs (hpv (by simp [witemsSrc, WItem.src, kwIf])) hg1 hg2 hn hsth hokth hlth hel
      (by rw [hr]; simp [witemsSrc, WItem.src, List.append_assoc])) (lexes_witems r hokr)
    simpa [wkeys] using this

inductive WSpec where
  | text (t : Bytes)
  | hole (n : Bytes)
  | slit (v : Bytes)
  | cond (n : Bytes) (th : Bytes) (el : Option Bytes)
  deriving DecidableEq

def specOf : Stmt → Option WSpec
  | .html t => some (.text t.lit)
  | .expr _ (.ident _ n) => some (.hole n)
  | .expr _ (.str _ v) => some (.slit v)
  | .ifS _ (.ident _ n) [.html t] [] none => some (.cond n t.lit none)
  | .ifS _ (.ident _ n) [.html t] [] (some [.html t2]) => some (.cond n t.lit (some t2.lit))
  | _ => none

def wspec : List WItem → List WSpec
  | [] => []
  | .text segs :: r => .text (segsLit segs) :: wspec r
  | .comment _ :: r => wspec r
  | .print _ n _ :: r => .hole n :: wspec r
  | .lit _ _ c _ :: r => .slit c :: wspec r
  | .ifelse _ n _ th el :: r => .cond n (segsLit th) (el.map segsLit) :: wspec r

theorem wkeys_clean (items : List WItem) : ∀ x ∈ wkeys items, x.1 ≠ .ILLEGAL := by
  refine clean_of_all ?_
  induction items with
  | nil => rfl
  | cons it r ih => rcases it with _ | _ | _ | _ | ⟨_, _, _, _, _ | _⟩ <;> simp [wkeys, elseKeys, ih]

theorem StmtAt.if_text {t1 t2 t3 t4 t5 t6 : Token} {rest : List Token}
    (h1 : t1.ty = .IF) (h2 : t2.ty = .LPAREN) (h3 : t3.ty = .IDENT) (h4 : t4.ty = .RPAREN) (h5 : t5.ty = .HTML) (h6 : t6.ty = .END)
    (hclean : NoIll rest) :
    StmtAt 4 (t1 :: t2 :: t3 :: t4 :: t5 :: t6 :: rest) (.ifS t1 (.ident t3 t3.lit) [.html t5] [] none) (t6 :: rest) :=
  have c6 : NoIll (t6 :: rest) := .of_ty h6 hclean
  have c5 : NoIll (t5 :: t6 :: rest) := .of_ty h5 c6
  .ifS h1 h2 (.of_ty h3 (.of_ty h4 c5)) (.ident_rparen h3 h4) h4 c5 (.one_text h5 (.end h6) c6) (.end h6 hclean)

theorem StmtAt.if_else_text {t1 t2 t3 t4 t5 t6 t7 t8 : Token} {rest : List Token}
    (h1 : t1.ty = .IF) (h2 : t2.ty = .LPAREN) (h3 : t3.ty = .IDENT) (h4 : t4.ty = .RPAREN) (h5 : t5.ty = .HTML) (h6 : t6.ty = .ELSE)
    (h7 : t7.ty = .HTML) (h8 : t8.ty = .END) (hclean : NoIll rest) :
    StmtAt 5 (t1 :: t2 :: t3 :: t4 :: t5 :: t6 :: t7 :: t8 :: rest) (.ifS t1 (.ident t3 t3.lit) [.html t5] [] (some [.html t7]))
      (t8 :: rest) :=
  have c7 : NoIll (t7 :: t8 :: rest) := .of_ty h7 (.of_ty h8 hclean)
  have c5 : NoIll (t5 :: t6 :: t7 :: t8 :: rest) := .of_ty h5 (.of_ty h6 c7)
  .ifS h1 h2 (.of_ty h3 (.of_ty h4 c5)) (.ident_rparen h3 h4) h4 c5 (.one_text h5 (.else h6) c5.tail)
    (.else h6 c7 (.one_text h7 (.end h8) c7.tail) h8 hclean)

theorem parse_if_noelse (g : Nat) (t1 t2 t3 t4 t5 t6 : Token) (rest : List Token)
    (h1 : t1.ty = .IF) (h2 : t2.ty = .LPAREN) (h3 : t3.ty = .IDENT) (h4 : t4.ty = .RPAREN) (h5 : t5.ty = .HTML) (h6 : t6.ty = .END)
    (hclean : ∀ x ∈ rest, x.ty ≠ .ILLEGAL) :
    parseStatement (g + 5) ({ toks := t1 :: t2 :: t3 :: t4 :: t5 :: t6 :: rest } : PS) =
      (.ifS t1 (.ident t3 t3.lit) [.html t5] [] none, { toks := t6 :: rest }) :=
  (StmtAt.if_text h1 h2 h3 h4 h5 h6 hclean).on (by omega) rfl

theorem parse_if_else (g : Nat) (t1 t2 t3 t4 t5 t6 t7 t8 : Token) (rest : List Token)
    (h1 : t1.ty = .IF) (h2 : t2.ty = .LPAREN) (h3 : t3.ty = .IDENT) (h4 : t4.ty = .RPAREN) (h5 : t5.ty = .HTML) (h6 : t6.ty = .ELSE)
    (h7 : t7.ty = .HTML) (h8 : t8.ty = .END) (hclean : ∀ x ∈ rest, x.ty ≠ .ILLEGAL) :
    parseStatement (g + 5) ({ toks := t1 :: t2 :: t3 :: t4 :: t5 :: t6 :: t7 :: t8 :: rest } : PS) =
      (.ifS t1 (.ident t3 t3.lit) [.html t5] [] (some [.html t7]), { toks := t8 :: rest }) :=
  (StmtAt.if_else_text h1 h2 h3 h4 h5 h6 h7 h8 hclean).on (by omega) rfl

/-- The fuel as in `parseLoop_vitems_gen`; the dearest statement is `StmtAt.if_else_text`, graded 5.  8 is not tight. -/
theorem parseLoop_witems : ∀ (items : List WItem) (toks : List Token) (e : Token) (acc : List Stmt) (f : Nat),
    toks.map key = wkeys items → e.ty = .EOF → (wspec items).length + 8 ≤ f →
    ∃ stmts, parseProgramLoop f acc ({ toks := toks ++ [e] } : PS) = (some (acc ++ stmts), { toks := [e] }) ∧
      stmts.map specOf = (wspec items).map some
  | [], toks, e, acc, f, hk, he, hf => by
    cases List.map_eq_nil_iff.mp hk
    obtain ⟨g, rfl⟩ : ∃ g, f = g + 1 := ⟨f - 1, by omega⟩
    exact ⟨[], by simpa using loop_eof g acc _ e [] rfl he, rfl⟩
  | .comment _ :: r, toks, e, acc, f, hk, he, hf => parseLoop_witems r toks e acc f hk he (by simpa [wspec] using hf)
  | .text segs :: r, toks, e, acc, f, hk, he, hf => by
    obtain ⟨g, rfl⟩ : ∃ g, f = g + 1 := ⟨f - 1, by omega⟩
    obtain ⟨t, rest, rfl, ht, hlit, hkr⟩ := map_key_cons hk
    obtain ⟨stmts, h1, h2⟩ := parseLoop_witems r rest e (acc ++ [.html t]) g hkr he (by simp [wspec] at hf; omega)
    exact ⟨.html t :: stmts,
      loop_text ht rfl (NoIll.of_keys_eof hkr (wkeys_clean r) he) (by omega) h1,
      by simp [specOf, wspec, hlit, h2]⟩
  | .print g1 n g2 :: r, toks, e, acc, f, hk, he, hf => by
    obtain ⟨g, rfl⟩ : ∃ g, f = g + 1 := ⟨f - 1, by omega⟩
    obtain ⟨t1, _, rfl, ty1, _, hk⟩ := map_key_cons hk
    obtain ⟨t2, _, rfl, ty2, lit2, hk⟩ := map_key_cons hk
    obtain ⟨t3, rest, rfl, ty3, _, hkr⟩ := map_key_cons hk
    have hcl := NoIll.of_keys_eof hkr (wkeys_clean r) he
    obtain ⟨stmts, h1, h2⟩ := parseLoop_witems r rest e (acc ++ [.expr t2 (.ident t2 t2.lit)]) g hkr he (by simp [wspec] at hf; omega)
    exact ⟨.expr t2 (.ident t2 t2.lit) :: stmts,
      loop_print ty1 ty2 ty3 rfl hcl (by omega) h1,
      by simp [specOf, wspec, show t2.lit = n from lit2, h2]⟩
  | .lit g1 q c g2 :: r, toks, e, acc, f, hk, he, hf => by
    obtain ⟨g, rfl⟩ : ∃ g, f = g + 1 := ⟨f - 1, by omega⟩
    obtain ⟨t1, _, rfl, ty1, _, hk⟩ := map_key_cons hk
    obtain ⟨t2, _, rfl, ty2, lit2, hk⟩ := map_key_cons hk
    obtain ⟨t3, rest, rfl, ty3, _, hkr⟩ := map_key_cons hk
    have hcl := NoIll.of_keys_eof hkr (wkeys_clean r) he
    obtain ⟨stmts, h1, h2⟩ := parseLoop_witems r rest e (acc ++ [.expr t2 (.str t2 t2.lit)]) g hkr he (by simp [wspec] at hf; omega)
    exact ⟨.expr t2 (.str t2 t2.lit) :: stmts,
      loop_cons (.atom ty1 (atomExpr_str ty2) ty3 hcl) rfl (by simp [ty1]) rfl (by simp [ty3]) (by simp) hcl (by omega) h1,
      by simp [specOf, wspec, show t2.lit = c from lit2, h2]⟩
  | .ifelse g1 n g2 th none :: r, toks, e, acc, f, hk, he, hf => by
    obtain ⟨g, rfl⟩ : ∃ g, f = g + 1 := ⟨f - 1, by omega⟩
    obtain ⟨t1, _, rfl, ty1, _, hk⟩ := map_key_cons hk
    obtain ⟨t2, _, rfl, ty2, _, hk⟩ := map_key_cons hk
    obtain ⟨t3, _, rfl, ty3, l3, hk⟩ := map_key_cons hk
    obtain ⟨t4, _, rfl, ty4, _, hk⟩ := map_key_cons hk
    obtain ⟨t5, _, rfl, ty5, l5, hk⟩ := map_key_cons hk
    obtain ⟨t6, rest, rfl, ty6, _, hkr⟩ := map_key_cons hk
    have hcl := NoIll.of_keys_eof hkr (wkeys_clean r) he
    obtain ⟨stmts, h1, h2⟩ := parseLoop_witems r rest e (acc ++ [Stmt.ifS t1 (.ident t3 t3.lit) [.html t5] [] none]) g hkr he
      (by simp [wspec] at hf; omega)
    exact ⟨Stmt.ifS t1 (.ident t3 t3.lit) [.html t5] [] none :: stmts,
      loop_cons (.if_text ty1 ty2 ty3 ty4 ty5 ty6 hcl) rfl (by simp [ty1]) rfl (by simp [ty6]) (by simp) hcl (by omega) h1,
      by simp [specOf, wspec, show t3.lit = n from l3, show t5.lit = segsLit th from l5, h2]⟩
  | .ifelse g1 n g2 th (some es) :: r, toks, e, acc, f, hk, he, hf => by
    obtain ⟨g, rfl⟩ : ∃ g, f = g + 1 := ⟨f - 1, by omega⟩
    obtain ⟨t1, _, rfl, ty1, _, hk⟩ := map_key_cons hk
    obtain ⟨t2, _, rfl, ty2, _, hk⟩ := map_key_cons hk
    obtain ⟨t3, _, rfl, ty3, l3, hk⟩ := map_key_cons hk
    obtain ⟨t4, _, rfl, ty4, _, hk⟩ := map_key_cons hk
    obtain ⟨t5, _, rfl, ty5, l5, hk⟩ := map_key_cons hk
    obtain ⟨t6, _, rfl, ty6, _, hk⟩ := map_key_cons hk
    obtain ⟨t7, _, rfl, ty7, l7, hk⟩ := map_key_cons hk
    obtain ⟨t8, rest, rfl, ty8, _, hkr⟩ := map_key_cons hk
    have hcl := NoIll.of_keys_eof hkr (wkeys_clean r) he
    obtain ⟨stmts, h1, h2⟩ := parseLoop_witems r rest e (acc ++ [Stmt.ifS t1 (.ident t3 t3.lit) [.html t5] [] (some [.html t7])]) g hkr he
      (by simp [wspec] at hf; omega)
    exact ⟨Stmt.ifS t1 (.ident t3 t3.lit) [.html t5] [] (some [.html t7]) :: stmts,
      loop_cons (.if_else_text ty1 ty2 ty3 ty4 ty5 ty6 ty7 ty8 hcl) rfl (by simp [ty1]) rfl (by simp [ty8]) (by simp) hcl (by omega) h1,
      by simp [specOf, wspec, show t3.lit = n from l3, show t5.lit = segsLit th from l5, show t7.lit = segsLit es from l7, h2]⟩

def wbound (env : Env) : List WSpec → Prop
  | [] => True
  | .text _ :: r => wbound env r
  | .hole n :: r => (env.get n).isSome = true ∧ wbound env r
  | .slit _ :: r => wbound env r
  | .cond n _ _ :: r => (env.get n).isSome = true ∧ wbound env r

def wrender (env : Env) : List WSpec → Bytes
  | [] => []
  | .text t :: r => t ++ wrender env r
  | .hole n :: r => ((env.get n).map Val.toStr).getD [] ++ wrender env r
  | .slit v :: r => literalValue v ++ wrender env r
  | .cond n th el :: r => (if ((env.get n).map isTruthy).getD false then th else el.getD []) ++ wrender env r

instance (env : Env) : (l : List WSpec) → Decidable (wbound env l)
  | [] => isTrue trivial
  | .text _ :: r => by unfold wbound; exact instDecidableWbound env r
  | .hole _ :: r => by have := instDecidableWbound env r; unfold wbound; exact inferInstance
  | .slit _ :: r => by unfold wbound; exact instDecidableWbound env r
  | .cond _ _ _ :: r => by have := instDecidableWbound env r; unfold wbound; exact inferInstance

theorem yieldsAll_one_text (c : Ctx) (env : Env) (t : Token) : YieldsAll c env [.html t] t.lit env 2 := by
  simpa using YieldsAll.cons' (Renders.html c env t) (.nil env 0)

theorem evalBlock_one_text (c : Ctx) (env : Env) (t : Token) {f : Nat} (hf : 2 ≤ f) :
    evalBlock f c env [.html t] = .ok ({ text := t.lit }, env) :=
  (yieldsAll_one_text c env t).evalBlock f hf

theorem Renders.if_text (c : Ctx) {env : Env} {t t2 th : Token} {n : Bytes} (hb : (env.get n).isSome = true) (alt : Option Token) :
    Renders c env (.ifS t (.ident t2 n) [.html th] [] (alt.map fun te => [.html te]))
      (if ((env.get n).map isTruthy).getD false then th.lit else (alt.map (·.lit)).getD []) 5 := by
  obtain ⟨v, hv⟩ := Option.isSome_iff_exists.mp hb
  rw [hv, Option.map_some, Option.getD_some]
  refine Yields.if_ident (m := 3) (env' := env.push) t t2 hv _ _ ?_
  by_cases htr : isTruthy v = true
  · rw [if_pos htr, if_pos htr]
    exact (yieldsAll_one_text c _ th).mono (by omega)
  · rw [if_neg htr, if_neg htr]
    cases alt with
    | none => exact .nil _ 2
    | some te => exact (yieldsAll_one_text c _ te).mono (by omega)

theorem wspecOf_renders (c : Ctx) (env : Env) {st : Stmt} {sp : WSpec} (h : specOf st = some sp) (hb : wbound env [sp]) :
    Renders c env st (wrender env [sp]) 5 := by
  unfold specOf at h
  split at h <;> cases h <;> simp only [wrender, List.append_nil]
  · exact fun f hf => Renders.html c env _ f (by omega)
  · exact fun f hf => Renders.ident_bound c _ _ hb.1 f (by omega)
  · exact fun f hf => Renders.str c env _ _ _ f (by omega)
  · exact Renders.if_text c hb.1 none
  · exact Renders.if_text c hb.1 (some _)

theorem wrender_cons (env : Env) (sp : WSpec) (r : List WSpec) : wrender env (sp :: r) = wrender env [sp] ++ wrender env r := by
  cases sp <;> simp [wrender]

theorem wbound_cons (env : Env) (sp : WSpec) (r : List WSpec) : wbound env (sp :: r) ↔ wbound env [sp] ∧ wbound env r := by
  cases sp <;> simp [wbound]

/-- The fuel: a unit per statement for the step through the list, and 5 for the dearest statement (`Renders.if_text`).
    6 is not tight. -/
theorem evalProg_wspec (c : Ctx) (env : Env) : ∀ (specs : List WSpec) (ss : List Stmt) (fuel : Nat) (acc : Bytes),
    ss.map specOf = specs.map some → wbound env specs → specs.length + 6 ≤ fuel →
    evalProg fuel c env ss acc = .ok (acc ++ wrender env specs, env) :=
  fun specs ss fuel acc hs hb hf =>
    (YieldsAll.of_specs (need := fun l => l.length + 6) rfl (wrender_cons env) (fun sp r => (wbound_cons env sp r).mp) (by simp)
      (fun sp r => by simp) (fun st sp h hb f hf => wspecOf_renders c env h hb f (by simp at hf; omega)) specs ss hs hb).evalProg fuel acc hf

theorem tokenize_witems (items : List WItem) (hok : WItemsOK items) :
    ∃ toks e, tokenize (witemsSrc items) = some { toks := toks ++ [e], insideCode := false, panicked := false } ∧
      toks.map key = wkeys items ∧ e.ty = .EOF :=
  (lexes_witems items hok _ rfl (.init _) fun _ => init_prev _).tokenize

theorem wspec_length_le : ∀ items : List WItem, (wspec items).length ≤ (wkeys items).length
  | [] => by simp [wkeys, wspec]
  | .text _ :: r => by have := wspec_length_le r; simp [wkeys, wspec]; omega
  | .comment _ :: r => by have := wspec_length_le r; simp [wkeys, wspec]; omega
  | .print _ _ _ :: r => by have := wspec_length_le r; simp [wkeys, wspec]; omega
  | .lit _ _ _ _ :: r => by have := wspec_length_le r; simp [wkeys, wspec]; omega
  | .ifelse _ _ _ _ _ :: r => by have := wspec_length_le r; simp [wkeys, wspec]; omega

theorem parse_witems (items : List WItem) (hok : WItemsOK items) :
    ∃ prog, parseSource (witemsSrc items) = .ok prog ∧ prog.stmts.map specOf = (wspec items).map some := by
  obtain ⟨toks, e, hk, he, hfuel, hfin⟩ := parseSource_keys (tokenize_witems items hok) (wkeys_clean items) 0
  obtain ⟨stmts, h1, h2⟩ := parseLoop_witems items toks e [] (parseFuel (toks ++ [e])) hk he (by rw [hfuel]; have := wspec_length_le items; omega)
  exact ⟨_, hfin _ _ h1 rfl rfl, h2⟩

/-- C02 `if_else_renders_the_chosen_branch_from_source` -/
theorem witems_render (custom : List ((VType × Bytes) × Nat)) (items : List WItem) (hok : WItemsOK items)
    (hsize : (wspec items).length + 6 ≤ evalFuel)
    (data : List (Bytes × GoVal)) (env : Env) (henv : envFromMap data = .ok env) (hb : wbound env (wspec items)) :
    evaluateStringPure custom (witemsSrc items) data = .ok (wrender env (wspec items)) := by
  obtain ⟨prog, hp, hs⟩ := parse_witems items hok
  exact source_renders hp henv (evalProg_wspec _ env (wspec items) prog.stmts evalFuel [] hs hb hsize)

end Tw
