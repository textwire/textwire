/-
  TwProofs.Lemmas.TextAround — a block of code that is one statement, between two runs of text: lexer,
  parser and evaluator composed for any such block (`text_code_text`; C01, C11 and C12 use it, e.g. for
  `Hello {{ user.name }}!`).
-/
import TwProofs.Lemmas.CodeBlock
namespace Tw

structure OneStmt (c : Code) (env : Env) (ctx : Ctx) (out : Bytes) : Prop where
  ok : c.OK
  nonempty : c.keys ≠ []
  -- `f + 8`: the `f + 7` at which `renders_one` takes the value of the expression, and one for the statement (`evalStmt_expr`,
  -- see `ParsesAs.oneStmt_of_expr`)
  parse : ∀ (g : Nat) (toks : List Token) (tn : Token) (rest : List Token), toks.map key = c.keys → Clean (tn :: rest) →
    ∃ st tl, parseStatement (g + 4 * c.keys.length) ({ toks := toks ++ tn :: rest } : PS) = (st, { toks := tl :: tn :: rest }) ∧
      tl.ty ≠ .ILLEGAL ∧ st.isBad = false ∧ (∀ f, evalStmt (f + 8) ctx env st = .ok ({ text := out }, env))
  first : ∀ (toks : List Token), toks.map key = c.keys → ∃ t r, toks = t :: r ∧ t.ty ≠ .EOF ∧ t.ty ≠ .ILLEGAL
  clean : ∀ x ∈ c.keys, x.1 ≠ .ILLEGAL

theorem ParsesAs.oneStmt {c : Code} {P : Stmt → Prop} (h : ParsesAs c P) (env : Env) (ctx : Ctx) (out : Bytes)
    (hev : ∀ st, P st → ∀ f, evalStmt (f + 8) ctx env st = .ok ({ text := out }, env)) : OneStmt c env ctx out := by
  obtain ⟨k, ks, hks, hk1⟩ := h.first
  refine ⟨h.ok, by rw [hks]; exact List.cons_ne_nil _ _, ?_, ?_, h.clean⟩
  · intro g toks tn rest hk hcl
    obtain ⟨st, tl, h1, h2, h3, h4⟩ := h.parse g toks tn rest hk hcl
    exact ⟨st, tl, h1, h2, h3, hev st h4⟩
  · intro toks hk
    obtain ⟨t, r, rfl, ht, _, _⟩ := map_key_cons (hks ▸ hk)
    exact ⟨t, r, rfl, by rw [ht]; exact hk1, by rw [ht]; exact h.clean k (by rw [hks]; exact List.mem_cons_self)⟩

theorem ParsesAs.oneStmt_of_expr {c : Code} {Q : Token → Expr → Prop} (h : ParsesAs c (fun st => ∃ t e, st = .expr t e ∧ Q t e))
    (env : Env) (ctx : Ctx) (v : Val) (hev : ∀ t e, Q t e → ∀ f, evalExpr (f + 7) ctx env e = .ok v) : OneStmt c env ctx v.toStr :=
  h.oneStmt env ctx _ fun _ ⟨t, e, hst, hq⟩ f => by
    rw [hst, show f + 8 = (f + 7) + 1 from rfl, evalStmt_expr, hev t e hq f, Res.bind_ok]

theorem text_code_text (custom : List ((VType × Bytes) × Nat)) (pre post : List Seg) (c : Code) (data : List (Bytes × GoVal)) (env : Env)
    (henv : envFromMap data = .ok env) (out : Bytes) (hone : OneStmt c env { custom := custom } out)
    (hitems : GItemsOK [.text pre, .code c, .text post]) :
    evaluateStringPure custom (segsSrc pre ++ (c.src ++ segsSrc post)) data = .ok (segsLit pre ++ out ++ segsLit post) := by
  obtain ⟨toks, e, htok, hkeys, he⟩ := tokenize_gitems _ hitems
  have hsrc : gsrc [.text pre, .code c, .text post] = segsSrc pre ++ (c.src ++ segsSrc post) := by simp [gsrc, GItem.src]
  rw [hsrc] at htok
  have hk' : toks.map key = (.HTML, segsLit pre) :: (c.keys ++ [(.HTML, segsLit post)]) := by simpa [gkeys] using hkeys
  obtain ⟨th1, r1, rfl, ty1, lit1, hr1⟩ := map_key_cons hk'
  obtain ⟨mid, l2, rfl, hmid, hl2⟩ := List.map_eq_append_iff.mp hr1
  obtain ⟨th2, _, rfl, ty2, lit2, hn⟩ := map_key_cons hl2
  cases List.map_eq_nil_iff.mp hn
  have ty1 : th1.ty = .HTML := ty1
  have lit1 : th1.lit = segsLit pre := lit1
  have ty2 : th2.ty = .HTML := ty2
  have lit2 : th2.lit = segsLit post := lit2
  have hce : NoIll [e] := .one (by rw [he]; decide)
  have c2 : NoIll [th2, e] := .of_ty ty2 hce
  have cmid : NoIll (mid ++ [th2, e]) := (NoIll.of_keys hmid hone.clean).append c2
  have hcl : NoIll ((th1 :: (mid ++ [th2])) ++ [e]) := by
    rw [show (th1 :: (mid ++ [th2])) ++ [e] = th1 :: (mid ++ [th2, e]) by simp]
    exact .of_ty ty1 cmid
  obtain ⟨tf, rmid, rfl, hfe, hfi⟩ := hone.first mid hmid
  -- `parseFuel` of text, the block's n tokens, text and EOF is 4n + 28; the turn for the first text takes one, the next
  -- turn hands `parseStatement` one less again
  obtain ⟨st, tl, hst, htl, hbad, hev⟩ := hone.parse 26 (tf :: rmid) th2 [e] hmid c2
  rw [Nat.add_comm 26] at hst
  have hfuel : parseFuel ((th1 :: ((tf :: rmid) ++ [th2])) ++ [e]) = (4 * c.keys.length + 26) + 2 := by
    simp [parseFuel, ← hmid]; omega
  have hloop : parseProgramLoop ((4 * c.keys.length + 26) + 2) [] ({ toks := (th1 :: ((tf :: rmid) ++ [th2])) ++ [e] } : PS) =
      (some [.html th1, st, .html th2], { toks := [e] }) :=
    calc _
      _ = parseProgramLoop ((4 * c.keys.length + 26) + 1) [.html th1] ({ toks := (tf :: rmid) ++ [th2, e] } : PS) :=
        loop_stmt (.html ty1) (by simp) (by rw [ty1]; decide) rfl (by rw [ty1]; decide) cmid.tail (by omega) []
      _ = parseProgramLoop (4 * c.keys.length + 26) [.html th1, st] ({ toks := [th2, e] } : PS) :=
        loop_turn_of hst rfl hfe hbad rfl htl hce _
      _ = parseProgramLoop (4 * c.keys.length + 25) [.html th1, st, .html th2] ({ toks := [e] } : PS) :=
        loop_stmt (.html ty2) rfl (by rw [ty2]; decide) rfl (by rw [ty2]; decide) .nil (by omega) _
      _ = _ := loop_eof _ _ _ e [] rfl he
  have hprog : parseSource (segsSrc pre ++ (c.src ++ segsSrc post)) = .ok { tok := th1, stmts := [.html th1, st, .html th2] } :=
    parseSource_tokens htok hcl (by rw [hfuel]; exact hloop) rfl rfl
  have hst8 : Yields { custom := custom } env st out env 8 := fun f hf => by
    obtain ⟨g, rfl⟩ : ∃ g, f = g + 8 := ⟨f - 8, by omega⟩
    exact hev g
  have hy := YieldsAll.cons' (Renders.html _ env th1) (.cons' hst8 (.cons' (Renders.html _ env th2) (.nil env 0)))
  exact source_renders hprog henv (by simpa [lit1, lit2] using hy.evalProg evalFuel [] (by decide))

end Tw
