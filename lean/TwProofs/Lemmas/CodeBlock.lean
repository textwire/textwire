/-
  TwProofs.Lemmas.CodeBlock — a template that is one `{{ … }}` block.  `ParsesAs c P`: the piece of
  code `c` lexes (`Code.OK`) and its tokens, wherever they stand in a token list, parse as one
  statement that satisfies `P`.  From it: the parse of the block alone (`parseSource_one`), its render
  (`renders_one`, `fails_one`; `ParsesAs.renders_expr`, `.fails_expr`).  A block given by its lexemes
  (`Block`, Lemmas/GenItems) is such a piece of code by a derivation over its tokens (`Block.parsesAs`;
  `ForTokens b K`: `K` holds of every token list that spells the lexemes `b`).
-/
import TwProofs.Lemmas.GenItems
namespace Tw

/-- The fuel reads `g + 4 * c.keys.length` because `parseFuel` allots four units per token: that
    much and more is left wherever the statement loop reaches the block. -/
structure ParsesAs (c : Code) (P : Stmt → Prop) : Prop where
  ok : c.OK
  first : ∃ k ks, c.keys = k :: ks ∧ k.1 ≠ .EOF
  clean : ∀ x ∈ c.keys, x.1 ≠ .ILLEGAL
  parse : ∀ (g : Nat) (toks : List Token) (tn : Token) (rest : List Token), toks.map key = c.keys → NoIll (tn :: rest) →
    ∃ st tl, parseStatement (g + 4 * c.keys.length) ({ toks := toks ++ tn :: rest } : PS) = (st, { toks := tl :: tn :: rest }) ∧
      tl.ty ≠ .ILLEGAL ∧ st.isBad = false ∧ P st

theorem ParsesAs.of_stmtAt {c : Code} {P : Stmt → Prop} (ok : c.OK) (first : ∃ k ks, c.keys = k :: ks ∧ k.1 ≠ .EOF)
    (clean : ∀ x ∈ c.keys, x.1 ≠ .ILLEGAL)
    (h : ∀ (toks : List Token) (tn : Token) (rest : List Token), toks.map key = c.keys → NoIll (toks ++ tn :: rest) →
      ∃ N st tl, N ≤ 4 * c.keys.length ∧ StmtAt N (toks ++ tn :: rest) st (tl :: tn :: rest) ∧ tl.ty ≠ .ILLEGAL ∧ st.isBad = false ∧ P st) :
    ParsesAs c P :=
  ⟨ok, first, clean, fun g toks tn rest hkeys hcl => by
    obtain ⟨N, st, tl, hN, hst, htl, hbad, hP⟩ := h toks tn rest hkeys ((NoIll.of_keys hkeys clean).append hcl)
    exact ⟨st, tl, hst.on (by omega) rfl, htl, hbad, hP⟩⟩

theorem parseSource_one {c : Code} {P : Stmt → Prop} (h : ParsesAs c P) :
    ∃ st t, parseSource c.src = .ok { tok := t, stmts := [st] } ∧ P st := by
  obtain ⟨toks, e, htok, hkeys, he⟩ := tokenize_gitems [.code c] ⟨h.ok, trivial⟩
  have hsrc : gsrc [.code c] = c.src := by simp [gsrc, GItem.src]
  have hk : toks.map key = c.keys := by simpa [gkeys] using hkeys
  rw [hsrc] at htok
  obtain ⟨k, ks, hks, hk1⟩ := h.first
  obtain ⟨tf, r, rfl, tyf, _, _⟩ := map_key_cons (hks ▸ hk)
  have hce : NoIll [e] := .one (by rw [he]; decide)
  have hcl : NoIll ((tf :: r) ++ [e]) := (NoIll.of_keys hk h.clean).append hce
  -- `parseFuel` of the block's n tokens and EOF is 4n + 20; the first turn of the loop hands `parseStatement` one less
  obtain ⟨st, tl, hst, htl, hbad, hP⟩ := h.parse 19 (tf :: r) e [] hk hce
  have hlen : (tf :: r).length = c.keys.length := by rw [← hk, List.length_map]
  have hfuel : parseFuel ((tf :: r) ++ [e]) = (19 + 4 * c.keys.length) + 1 := by
    simp only [parseFuel, List.length_append, hlen, List.length_singleton]; omega
  have hloop : parseProgramLoop (parseFuel ((tf :: r) ++ [e])) [] ({ toks := (tf :: r) ++ [e] } : PS) = (some [st], { toks := [e] }) := by
    rw [hfuel, loop_turn_of hst rfl (tyf ▸ hk1) hbad rfl htl .nil [],
      show 19 + 4 * c.keys.length = (18 + 4 * c.keys.length) + 1 by omega]
    exact loop_eof _ _ _ e [] rfl he
  exact ⟨st, tf, parseSource_tokens htok hcl hloop rfl rfl, hP⟩

/-- `f + 7`: the fuel at which the modules of the single blocks (TextAccess,
    TextCalls, TextStrings, TextArith, …) state the value of their expressions (no shape of theirs needs more); `evalFuel`
    leaves that and more. -/
theorem renders_one (custom : List ((VType × Bytes) × Nat)) {src : Bytes} {data : List (Bytes × GoVal)} {env : Env}
    {prog : Program} {t : Token} {e : Expr} (v : Val) (hp : parseSource src = .ok prog) (hs : prog.stmts = [.expr t e])
    (henv : envFromMap data = .ok env) (hev : ∀ f, evalExpr (f + 7) { custom := custom } env e = .ok v) :
    evaluateStringPure custom src data = .ok v.toStr := by
  rw [evaluate_parsed custom hp henv, hs]
  rw [show evalFuel = (evalFuel - 9) + 7 + 1 + 1 from by decide, evalProg_cons, evalStmt_expr, hev, Res.bind_ok, Res.bind_ok, evalProg_nil]
  simp [resToOut]

theorem fails_one (custom : List ((VType × Bytes) × Nat)) {src : Bytes} {data : List (Bytes × GoVal)} {env : Env}
    {prog : Program} {t : Token} {e : Expr} {code : String} {line : Nat} {args : List Bytes}
    (hp : parseSource src = .ok prog) (hs : prog.stmts = [.expr t e])
    (henv : envFromMap data = .ok env) (hev : ∀ f, evalExpr (f + 7) { custom := custom } env e = .err code line args) :
    evaluateStringPure custom src data = .fail (failOf code line args []) := by
  rw [evaluate_parsed custom hp henv, hs]
  rw [show evalFuel = (evalFuel - 9) + 7 + 1 + 1 from by decide, evalProg_cons, evalStmt_expr, hev]
  simp [Res.bind, resToOut]

theorem ParsesAs.renders_expr {c : Code} {Q : Token → Expr → Prop} (hc : ParsesAs c (fun st => ∃ t e, st = .expr t e ∧ Q t e))
    (custom : List ((VType × Bytes) × Nat)) (data : List (Bytes × GoVal)) (env : Env) (v : Val) (henv : envFromMap data = .ok env)
    (hev : ∀ t e, Q t e → ∀ f, evalExpr (f + 7) { custom := custom } env e = .ok v) :
    evaluateStringPure custom c.src data = .ok v.toStr := by
  obtain ⟨_, t, hp, t', e, rfl, he⟩ := parseSource_one hc
  exact renders_one custom v hp rfl henv (hev t' e he)

theorem ParsesAs.fails_expr {c : Code} {Q : Token → Expr → Prop} (hc : ParsesAs c (fun st => ∃ t e, st = .expr t e ∧ Q t e))
    (custom : List ((VType × Bytes) × Nat)) (data : List (Bytes × GoVal)) (env : Env) (code : String) (args : List Bytes)
    (henv : envFromMap data = .ok env)
    (hev : ∀ t e, Q t e → ∃ line, ∀ f, evalExpr (f + 7) { custom := custom } env e = .err code line args) :
    ∃ line, evaluateStringPure custom c.src data = .fail (failOf code line args []) := by
  obtain ⟨_, t, hp, t', e, rfl, he⟩ := parseSource_one hc
  obtain ⟨line, hl⟩ := hev t' e he
  exact ⟨line, fails_one custom hp rfl henv hl⟩

/-- `K` holds of every list of tokens that spells the lexemes `b`.  For a list `b` written out this unfolds to
    `∀ t1, t1.ty = … → t1.lit = … → ∀ t2, … → K [t1, t2, …]`, so a proof is a function of the tokens and what is known
    of each, and nothing has to be taken apart. -/
def ForTokens : List (Bytes × Lexeme) → (List Token → Prop) → Prop
  | [], K => K []
  | l :: b, K => ∀ t : Token, t.ty = l.2.key.1 → t.lit = l.2.key.2 → ForTokens b (fun ts => K (t :: ts))

theorem ForTokens.of_map : ∀ {b : List (Bytes × Lexeme)} {K : List Token → Prop}, ForTokens b K → ∀ {ts : List Token},
    ts.map key = b.map (·.2.key) → K ts
  | [], _, h, [], _ => h
  | [], _, _, _ :: _, hk => nomatch hk
  | _ :: _, _, _, [], hk => nomatch hk
  | _ :: _, _, h, t :: _, hk =>
    (h t (congrArg Prod.fst (List.cons.inj hk).1) (congrArg Prod.snd (List.cons.inj hk).1)).of_map (List.cons.inj hk).2

/-- For a list written out the proof is `trivial` (one lexeme), `nofun` (the first is no word) or `fun _ => nofun` (the second is not `=`). -/
def NotAssign : List (Bytes × Lexeme) → Prop
  | x :: y :: _ => x.2.key.1 = .IDENT → y.2.key.1 ≠ .ASSIGN
  | _ => True

theorem NotAssign.tokens : ∀ {b : List (Bytes × Lexeme)}, NotAssign b → ∀ {ts : List Token}, ts.map key = b.map (·.2.key) → ∀ {te t2 : Token}
    {k mid : List Token}, te.ty = .RBRACES → ts ++ te :: k = t2 :: mid → t2.ty = .IDENT → (mid.headD t2).ty ≠ .ASSIGN
  | [], _, [], _, _, _, _, _, hte, h, h2 => by cases h; rw [hte] at h2; cases h2
  | [_], _, [_], _, _, _, _, _, hte, h, _ => by cases h; simp [hte]
  | x :: y :: _, hna, t :: t' :: _, hs, _, _, _, _, _, h, h2 => by
    cases h
    have k1 : t.ty = x.2.key.1 := congrArg Prod.fst (List.cons.inj hs).1
    have k2 : t'.ty = y.2.key.1 := congrArg Prod.fst (List.cons.inj (List.cons.inj hs).2).1
    simpa [k2] using hna (k1 ▸ h2)
  | [], _, _ :: _, hs, _, _, _, _, _, _, _ => nomatch hs
  | _ :: _, _, [], hs, _, _, _, _, _, _, _ => nomatch hs
  | [_], _, _ :: _ :: _, hs, _, _, _, _, _, _, _ => nomatch (List.cons.inj hs).2
  | _ :: _ :: _, _, [_], hs, _, _, _, _, _, _, _ => nomatch (List.cons.inj hs).2

theorem Block.clean {dir : Bool} {c : Code} {b : List (Bytes × Lexeme)} {g2 : Bytes} (hb : Block dir c b g2) : ∀ x ∈ c.keys, x.1 ≠ .ILLEGAL := by
  intro x hx
  rw [hb.keys] at hx
  rcases List.mem_cons.mp hx with rfl | hx
  · exact nofun
  · rcases List.mem_append.mp hx with hx | hx
    · exact (hb.lexemes []).clean x hx
    · cases List.mem_singleton.mp hx; exact nofun

/-- For a list written out the grade `N` and the length are numerals once the derivation is given, so the bound is closed by
    evaluating `Nat.ble` (`Nat.le_of_ble_eq_true rfl`). -/
theorem Block.parsesAs {c : Code} {b : List (Bytes × Lexeme)} {g2 : Bytes} (hb : Block false c b g2) (hna : NotAssign b)
    {Q : Token → Expr → Prop}
    (h : ForTokens b fun ts => ∀ (te : Token) (k : List Token), te.ty = .RBRACES → NoIll (ts ++ te :: k) →
      ∃ N e tl, N < 4 * (ts.length + 2) ∧ ParsesAt N LOWEST (ts ++ te :: k) e (tl :: te :: k) ∧ Q tl e) :
    ParsesAs c (fun st => ∃ tl e, st = .expr tl e ∧ Q tl e) := by
  refine .of_stmtAt hb.ok ⟨_, _, hb.keys, nofun⟩ hb.clean fun toks tn rest hkeys cl => ?_
  rw [hb.keys] at hkeys
  obtain ⟨t1, r, rfl, ty1, _, hkeys⟩ := map_key_cons hkeys
  obtain ⟨ts, l2, rfl, hs, hl2⟩ := List.map_eq_append_iff.mp hkeys
  obtain ⟨te, _, rfl, tye, _, hn⟩ := map_key_cons hl2
  cases List.map_eq_nil_iff.mp hn
  have cl' : NoIll (ts ++ te :: tn :: rest) := by simpa using cl.tail
  obtain ⟨N, e, tl, hN, hp, hQ⟩ := h.of_map hs te (tn :: rest) tye cl'
  have hlen : c.keys.length = ts.length + 2 := by simp [hb.keys, blockKeys, ← congrArg List.length hs]
  obtain ⟨t2, mid, hts⟩ : ∃ t2 mid, ts ++ te :: tn :: rest = t2 :: mid := List.exists_cons_of_ne_nil hp.starts.1
  rw [show (t1 :: (ts ++ [te])) ++ tn :: rest = t1 :: t2 :: mid by simp [← hts]]
  rw [hts] at hp cl'
  exact ⟨N + 1, _, te, by omega, .expr ty1 (hp.starts.2 t2 rfl).1 (hna.tokens hs tye hts) tye cl'.tail
    (fun x hx => cl x (by simp [hx])) hp, by rw [tye]; decide, rfl, tl, e, rfl, hQ⟩

end Tw
