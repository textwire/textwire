/-
  TwProofs.Lemmas.LexIfChain — `@if(c0) t0 @elseif(c1) t1 … [@else te] @end` with plain texts, lexed
  as one piece of code (C02): the keyword `@elseif` is the case in which `@else` is "potentially
  longer".
-/
import TwProofs.Lemmas.LexDirArgs
namespace Tw
open Lx

def kwElseIf : Bytes := [64, 101, 108, 115, 101, 105, 102]

theorem dirScan_elseif (x : Bytes) : dirScan [] .ILLEGAL (kwElseIf ++ x) = (kwElseIf, .ELSE_IF) := by
  -- `@else` is a directive, but in front of "if" it may go on: the scan continues behind it
  have h : dirScan [] .ILLEGAL (kwElseIf ++ x) = dirScan kwElse .ELSE (105 :: 102 :: x) := by
    obtain ⟨h1, h2, h3, h4, h5⟩ : lookupDirective [64] = .ILLEGAL ∧ lookupDirective [64, 101] = .ILLEGAL ∧
        lookupDirective [64, 101, 108] = .ILLEGAL ∧ lookupDirective [64, 101, 108, 115] = .ILLEGAL ∧
        lookupDirective [64, 101, 108, 115, 101] = .ELSE := by simp only [lookupDirective_bytes]; decide
    have l1 : isLetterWord 64 = true ∧ isLetterWord 101 = true ∧ isLetterWord 108 = true ∧ isLetterWord 115 = true := by decide
    have hp : isPotentiallyLong .ELSE (105 :: 102 :: x) = true := by simp [isPotentiallyLong]
    simp only [kwElseIf, kwElse, List.cons_append, List.nil_append, dirScan, l1, if_true, h1, h2, h3, h4, h5, hp]
    rfl
  rw [h]
  exact dirScan_kw .ELSE_IF x (by decide) rfl [105, 102] kwElse _ (by decide) (by decide) (by simp only [lookupDirective_bytes]; decide)
    (by rw [lookupDirective_bytes]; decide)

/-- not by `DirKw.of_lookup`: `@else` is a proper prefix -/
theorem dirKw_elseif : DirKw kwElseIf .ELSE_IF :=
  { IsKw.of_lookup (by rw [lookupDirective_bytes]; decide) (by decide) with scan := dirScan_elseif, paren := by decide }

/-- `@kw( g1 c g2 ) t` -/
theorem lex_cond_text (kw : Bytes) (ty : TT) (hk : DirKw kw ty) (s : Lx) (g1 c g2 t tl : Bytes) (hh : s.isHTML = true) (hpv : s.prev ≠ 92)
    (hp0 : s.parens = 0) (hg1 : allWs g1) (hg2 : allWs g2) (hc : isName c) (ht : VeryPlain t) (hne : t ≠ []) (hstop : Stops tl)
    (hr : s.rest = kw ++ (40 :: (g1 ++ (c ++ (g2 ++ (41 :: (t ++ tl))))))) :
    ∃ toks s5, Run s toks s5 ∧ toks.map key = [(ty, kw), (.LPAREN, [40]), (.IDENT, c), (.RPAREN, [41]), (.HTML, t)] ∧ s5.rest = tl ∧
      s5.prev ≠ 92 ∧ mode s5 = (true, false, 0, s.braces, s.panicked) := by
  obtain ⟨t1, t2, t3, t4, s4, run4, k1, k2, k3, k4, r4, pv4, m4⟩ := lex_cond_header kw ty hk s g1 c g2 _ hh hpv hp0 hg1 hg2 hc hr
  obtain ⟨t5, s5, st5, k5, ne5, r5, pv5, m5⟩ := lex_vplain s4 t tl (mode_fields m4).1 ht hne r4 hstop
  exact ⟨[t1, t2, t3, t4, t5], s5, Run.snoc run4 st5 ne5, by simp [k1, k2, k3, k4, k5], r5, pv5, m5.trans m4⟩

/-- one `@elseif(c) t` -/
structure Alt where
  g1 : Bytes
  c : Bytes
  g2 : Bytes
  t : Bytes

def Alt.OK (a : Alt) : Prop := allWs a.g1 ∧ allWs a.g2 ∧ isName a.c ∧ VeryPlain a.t ∧ a.t ≠ []
instance Alt.OK.dec (a : Alt) : Decidable a.OK := by unfold Alt.OK; exact inferInstance

def Alt.src (a : Alt) : Bytes := kwElseIf ++ (40 :: (a.g1 ++ (a.c ++ (a.g2 ++ (41 :: a.t)))))
def Alt.keys (a : Alt) : List (TT × Bytes) := [(.ELSE_IF, kwElseIf), (.LPAREN, [40]), (.IDENT, a.c), (.RPAREN, [41]), (.HTML, a.t)]

def altsSrc : List Alt → Bytes
  | [] => []
  | a :: r => a.src ++ altsSrc r
def altsKeys : List Alt → List (TT × Bytes)
  | [] => []
  | a :: r => a.keys ++ altsKeys r

def tailSrc (els : Option Bytes) : Bytes := (match els with | some te => kwElse ++ te | none => []) ++ kwEnd
def tailKeys (els : Option Bytes) : List (TT × Bytes) :=
  (match els with | some te => [(.ELSE, kwElse), (.HTML, te)] | none => []) ++ [(.END, kwEnd)]

/-- the `@else` text does not begin with "if" (that would be `@elseif`) -/
def ElseTextOK (els : Option Bytes) : Prop :=
  match els with
  | some te => VeryPlain te ∧ te ≠ [] ∧ ¬ (te.headD 0 = 105 ∧ (te.drop 1).headD 0 = 102)
  | none => True
instance (els : Option Bytes) : Decidable (ElseTextOK els) := by unfold ElseTextOK; cases els <;> exact inferInstance

theorem stops_tail (els : Option Bytes) (tl : Bytes) : Stops (tailSrc els ++ tl) := by
  cases els with
  | none => simpa [tailSrc] using Stops.kw isKw_end tl
  | some te => simpa [tailSrc, List.append_assoc] using Stops.kw isKw_else (te ++ kwEnd ++ tl)

theorem stops_alts (alts : List Alt) (els : Option Bytes) (tl : Bytes) : Stops (altsSrc alts ++ (tailSrc els ++ tl)) := by
  cases alts with
  | nil => simpa [altsSrc] using stops_tail els tl
  | cons a r =>
    simpa [altsSrc, Alt.src, List.append_assoc] using
      dirKw_elseif.stops ((40 :: (a.g1 ++ (a.c ++ (a.g2 ++ (41 :: a.t))))) ++ (altsSrc r ++ (tailSrc els ++ tl)))

theorem lex_tail (els : Option Bytes) (hok : ElseTextOK els) (s : Lx) (tl : Bytes) (hh : s.isHTML = true) (hprev : s.prev ≠ 92)
    (hr : s.rest = tailSrc els ++ tl) :
    ∃ toks s1, Run s toks s1 ∧ toks.map key = tailKeys els ∧ s1.rest = tl ∧ s1.prev ≠ 92 ∧
      mode s1 = (true, false, s.parens, s.braces, s.panicked) := by
  cases els with
  | none =>
    obtain ⟨t, s1, st, k, ne, r1, pv1, m1⟩ := end_step s tl hh hprev (by simpa [tailSrc] using hr)
    exact ⟨[t], s1, Run.cons _ _ _ _ _ st ne (Run.nil _), by simp [tailKeys, k], r1, pv1, m1⟩
  | some te =>
    obtain ⟨hvp, hne, hnif⟩ := hok
    have hr' : s.rest = kwElse ++ (te ++ (kwEnd ++ tl)) := by rw [hr]; simp [tailSrc, List.append_assoc]
    obtain ⟨t1, s1, st1, k1, ne1, r1, pv1, m1⟩ := else_step s _ hh hprev hr' (not_if_append hne hnif (.kw isKw_end tl))
    obtain ⟨a1, _, a3, a4, a5⟩ := mode_fields m1
    obtain ⟨t2, s2, st2, k2, ne2, r2, pv2, m2⟩ := lex_vplain s1 te (kwEnd ++ tl) a1 hvp hne r1 (Stops.kw isKw_end tl)
    obtain ⟨t3, s3, st3, k3, ne3, r3, pv3, m3⟩ := end_step s2 tl (by rw [mode_html m2]; exact a1) pv2 r2
    refine ⟨[t1, t2, t3], s3, Run.cons _ _ _ _ _ st1 ne1 (Run.cons _ _ _ _ _ st2 ne2 (Run.cons _ _ _ _ _ st3 ne3 (Run.nil _))),
      by simp [tailKeys, k1, k2, k3], r3, pv3, ?_⟩
    rw [m3, mode_parens m2, mode_braces m2, mode_pan m2, a3, a4, a5]

theorem lex_alts (els : Option Bytes) (hels : ElseTextOK els) : ∀ (alts : List Alt), (∀ a ∈ alts, a.OK) → ∀ (s : Lx) (tl : Bytes),
    s.isHTML = true → s.prev ≠ 92 → s.isDirective = false → s.parens = 0 → s.rest = altsSrc alts ++ (tailSrc els ++ tl) →
    ∃ toks s1, Run s toks s1 ∧ toks.map key = altsKeys alts ++ tailKeys els ∧ s1.rest = tl ∧ s1.prev ≠ 92 ∧
      mode s1 = (true, false, 0, s.braces, s.panicked)
  | [], _, s, tl, hh, hpv, hd, hp0, hr => by
    obtain ⟨toks, s1, run, hk, r1, pv1, m1⟩ := lex_tail els hels s tl hh hpv (by simpa [altsSrc] using hr)
    exact ⟨toks, s1, run, by simpa [altsKeys] using hk, r1, pv1, by rw [m1, hp0]⟩
  | a :: r, hok, s, tl, hh, hpv, hd, hp0, hr => by
    obtain ⟨a1, a2, a3, a4, a5⟩ := hok a (by simp)
    obtain ⟨ts, s5, run5, k5, r5, pv5, m5⟩ := lex_cond_text kwElseIf .ELSE_IF dirKw_elseif s a.g1 a.c a.g2 a.t _ hh hpv hp0 a1 a2 a3 a4 a5
      (stops_alts r els tl) (by rw [hr]; simp [altsSrc, Alt.src, List.append_assoc])
    obtain ⟨f1, f2, f3, f4, f5⟩ := mode_fields m5
    obtain ⟨toks, s6, run6, hk6, r6, pv6, m6⟩ := lex_alts els hels r (fun x hx => hok x (List.mem_cons_of_mem _ hx)) s5 tl f1 pv5 f2 f3 r5
    exact ⟨ts ++ toks, s6, run5.append run6, by simp [altsKeys, Alt.keys, k5, hk6], r6, pv6, by rw [m6, f4, f5]⟩

/-- `@if( g1 c g2 ) t alts [@else els] @end` -/
structure Chain where
  g1 : Bytes
  c : Bytes
  g2 : Bytes
  t : Bytes
  alts : List Alt
  els : Option Bytes

def Chain.OK (ch : Chain) : Prop :=
  allWs ch.g1 ∧ allWs ch.g2 ∧ isName ch.c ∧ VeryPlain ch.t ∧ ch.t ≠ [] ∧ (∀ a ∈ ch.alts, a.OK) ∧ ElseTextOK ch.els
instance Chain.OK.dec (ch : Chain) : Decidable ch.OK := by unfold Chain.OK; exact inferInstance

def Chain.code (ch : Chain) : Code :=
  { src := kwIf ++ (40 :: (ch.g1 ++ (ch.c ++ (ch.g2 ++ (41 :: (ch.t ++ (altsSrc ch.alts ++ tailSrc ch.els))))))),
    keys := [(.IF, kwIf), (.LPAREN, [40]), (.IDENT, ch.c), (.RPAREN, [41]), (.HTML, ch.t)] ++ (altsKeys ch.alts ++ tailKeys ch.els) }

theorem chain_ok (ch : Chain) (h : ch.OK) : ch.code.OK := by
  obtain ⟨a1, a2, a3, a4, a5, a6, a7⟩ := h
  refine .of_run ?_ ?_
  · intro tl
    have := Stops.kw isKw_if ((40 :: (ch.g1 ++ (ch.c ++ (ch.g2 ++ (41 :: (ch.t ++ (altsSrc ch.alts ++ tailSrc ch.els))))))) ++ tl)
    simpa [Chain.code, List.append_assoc] using this
  · intro s tl hr hh hb hpa hd hpv
    obtain ⟨ts, s5, run5, k5, r5, pv5, m5⟩ := lex_cond_text kwIf .IF dirKw_if s ch.g1 ch.c ch.g2 ch.t _ hh hpv hpa a1 a2 a3 a4 a5
      (stops_alts ch.alts ch.els tl) (by rw [hr]; simp [Chain.code, List.append_assoc])
    obtain ⟨f1, f2, f3, f4, f5⟩ := mode_fields m5
    obtain ⟨toks, s6, run6, hk6, r6, pv6, m6⟩ := lex_alts ch.els a7 ch.alts a6 s5 tl f1 pv5 f2 f3 r5
    exact ⟨ts ++ toks, s6, run5.append run6, by simp [Chain.code, k5, hk6], r6, pv6, by rw [m6, f4, f5, hb]⟩

end Tw
