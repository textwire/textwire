/-
  TwProofs.Lemmas.EachSimple — the passes of `@each` computed: for a body of text and plain
  variable prints the loop renders, element after element, the body's text with the holes filled
  from the environment of that pass (C03); then what the `@each` statement evaluates to (Lemmas/TextEach
  goes on from there to source text; C03 states the same three facts as its results).
-/
import TwProofs.Lemmas.Loops
import TwProofs.Lemmas.SimpleBlock
namespace Tw

def passEnv (env : Env) (var : Bytes) (x : Val) (i n : Nat) : Env := [(var, x), (b "loop", loopObj i n)] :: env

/-- the scope of the loop before a pass: empty before the first one, the previous pass's afterwards -/
def ScopeOk (var : Bytes) (ty : VType) (sc : List (Bytes × Val)) : Prop :=
  sc = [] ∨ ∃ xp lp, sc = [(var, xp), (b "loop", lp)] ∧ xp.type = ty

theorem setVar_pass (env : Env) (var : Bytes) (ty : VType) (sc : List (Bytes × Val)) (x : Val) (line i n : Nat)
    (hv : (var == b "loop") = false) (hfresh : ∀ old, env.get var = some old → old.type = ty) (hx : x.type = ty)
    (hsc : ScopeOk var ty sc) :
    ∃ env1, setVar (sc :: env) var x line = .ok env1 ∧ env1.setLoop (loopObj i n) = passEnv env var x i n := by
  rcases hsc with rfl | ⟨xp, lp, rfl, hxp⟩
  · exact ⟨_, setVar_eq_ok line hv (fun old ho => hx ▸ hfresh old (by simpa [Env.get, mapGet] using ho)),
      by simp [setTop, Env.setLoop, mapSet, passEnv, hv]⟩
  · exact ⟨_, setVar_eq_ok line hv (fun old ho => by
        have : xp = old := by simpa [Env.get, mapGet] using ho
        rw [← this, hxp, hx]), by simp [setTop, Env.setLoop, mapSet, passEnv, hv]⟩

def holesVisible (env : Env) (var : Bytes) : List Piece → Prop
  | [] => True
  | .text _ :: r => holesVisible env var r
  | .hole n :: r => (n = var ∨ n = b "loop" ∨ (env.get n).isSome = true) ∧ holesVisible env var r

theorem holesBound_pass (env : Env) (var : Bytes) (x : Val) (i n : Nat) : ∀ ps : List Piece, holesVisible env var ps →
    holesBound (passEnv env var x i n) ps
  | [], _ => trivial
  | .text _ :: r, h => holesBound_pass env var x i n r h
  | .hole k :: r, h => by
    refine ⟨?_, holesBound_pass env var x i n r h.2⟩
    unfold passEnv
    simp only [Env.get, mapGet]
    by_cases h1 : (var == k) = true
    · simp [h1]
    · by_cases h2 : (b "loop" == k) = true
      · simp [h1, h2]
      · simp only [h1, h2, Bool.false_eq_true, if_false]
        rcases h.1 with e | e | e
        · subst e; simp at h1
        · subst e; simp at h2
        · exact e

def passTexts (env : Env) (var : Bytes) (ps : List Piece) (n : Nat) : List Val → Nat → Bytes
  | [], _ => []
  | x :: r, i => fill (passEnv env var x i n) ps ++ passTexts env var ps n r (i + 1)

theorem eachPasses_simple_at (c : Ctx) (env : Env) (t : Token) (var : Bytes) (body : List Stmt) (ty : VType) (n : Nat)
    (hv : (var == b "loop") = false) (hfresh : ∀ old, env.get var = some old → old.type = ty)
    (hsb : simpleBlock body = true) (hvis : holesVisible env var (piecesOf body)) (F : Nat) (hF : body.length + 3 ≤ F) :
    ∀ (xs : List Val) (i : Nat) (sc : List (Bytes × Val)), (∀ x ∈ xs, x.type = ty) → ScopeOk var ty sc →
      EachPasses F c t var body n (sc :: env) xs i (passTexts env var (piecesOf body) n xs i) := by
  intro xs
  induction xs with
  | nil => intro i sc _ _; exact EachPasses.done _ _
  | cons x rest ih =>
    intro i sc hty hsc
    have hx : x.type = ty := hty x List.mem_cons_self
    obtain ⟨env1, h1, h2⟩ := setVar_pass env var ty sc x t.errorLine i n hv hfresh hx hsc
    have hblk := (yieldsAll_simple c (passEnv env var x i n) body hsb (holesBound_pass env var x i n _ hvis)).evalBlock F hF
    have hnext := ih (i + 1) [(var, x), (b "loop", loopObj i n)] (fun y hy => hty y (List.mem_cons_of_mem _ hy))
      (Or.inr ⟨x, loopObj i n, rfl, hx⟩)
    have := EachPasses.pass (f := F) (c := c) (t := t) (var := var) (body := body) (n := n)
      (sc :: env) x rest i env1 ({ text := fill (passEnv env var x i n) (piecesOf body) }, passEnv env var x i n)
      (passTexts env var (piecesOf body) n rest (i + 1)) h1 (by rw [h2]; exact hblk) rfl hnext
    exact this

theorem eachPasses_simple (c : Ctx) (env : Env) (t : Token) (var : Bytes) (body : List Stmt) (ty : VType) (n : Nat)
    (hv : (var == b "loop") = false) (hfresh : ∀ old, env.get var = some old → old.type = ty)
    (hsb : simpleBlock body = true) (hvis : holesVisible env var (piecesOf body)) :
    ∀ (xs : List Val) (i : Nat) (sc : List (Bytes × Val)), (∀ x ∈ xs, x.type = ty) → ScopeOk var ty sc →
      EachPasses (body.length + 3) c t var body n (sc :: env) xs i (passTexts env var (piecesOf body) n xs i) :=
  eachPasses_simple_at c env t var body ty n hv hfresh hsb hvis _ (Nat.le_refl _)

theorem evalStmt_each_of_passes (f : Nat) (c : Ctx) (env : Env) (t : Token) (var : Bytes) (arrE : Expr) (body : List Stmt)
    (alt : Option (List Stmt)) (xs : List Val) (out : Bytes)
    (harr : evalExpr f c env.push arrE = .ok (.arr xs)) (hne : xs ≠ [])
    (hp : EachPasses f c t var body xs.length env.push xs 0 out) :
    evalStmt (f + xs.length + 1 + 1) c env (.eachS t var arrE body alt) = .ok ({ text := out }, env) := by
  rw [evalStmt_succ]
  simp only [stmtBody, calleesAt_expr, calleesAt_eachL]
  rw [show f + xs.length + 1 = f + (xs.length + 1) from rfl, evalExpr_lift harr, Res.bind_ok]
  have hemp : xs.isEmpty = false := by cases xs with | nil => exact absurd rfl hne | cons _ _ => rfl
  simp only [hemp, Bool.false_eq_true, if_false]
  rw [show f + (xs.length + 1) = f + xs.length + 1 from rfl, eachLoop_passes hp, Res.bind_ok]
  simp

theorem evalStmt_each_simple (f : Nat) (c : Ctx) (env : Env) (t : Token) (var : Bytes) (arrE : Expr) (body : List Stmt)
    (alt : Option (List Stmt)) (xs : List Val) (ty : VType)
    (harr : evalExpr f c env.push arrE = .ok (.arr xs)) (hne : xs ≠ [])
    (hv : (var == b "loop") = false) (hfresh : ∀ old, env.get var = some old → old.type = ty)
    (hty : ∀ x ∈ xs, x.type = ty) (hsb : simpleBlock body = true) (hvis : holesVisible env var (piecesOf body)) :
    evalStmt (max f (body.length + 3) + xs.length + 1 + 1) c env (.eachS t var arrE body alt) =
      .ok ({ text := passTexts env var (piecesOf body) xs.length xs 0 }, env) := by
  have hp := eachPasses_simple_at c env t var body ty xs.length hv hfresh hsb hvis (max f (body.length + 3)) (Nat.le_max_right _ _)
    xs 0 [] hty (Or.inl rfl)
  obtain ⟨k2, hk2⟩ : ∃ k, max f (body.length + 3) = f + k := ⟨max f (body.length + 3) - f, by omega⟩
  exact evalStmt_each_of_passes (max f (body.length + 3)) c env t var arrE body alt xs _ (by rw [hk2]; exact evalExpr_lift harr k2) hne hp

theorem evalStmt_each_empty (f : Nat) (c : Ctx) (env : Env) (t : Token) (var : Bytes) (arrE : Expr) (body : List Stmt)
    (alt : Option (List Stmt)) (harr : evalExpr f c env.push arrE = .ok (.arr [])) :
    evalStmt (f + 1) c env (.eachS t var arrE body alt) =
      match alt with
      | some ab => (evalBlock f c env.push ab).bind fun r => .ok (r.1, env)
      | none => .ok ({}, env) := by
  rw [evalStmt_succ]
  simp only [stmtBody, calleesAt_expr]
  rw [harr, Res.bind_ok]
  rfl

/-- the fuel: `body.length + 3` for a pass (`yieldsAll_simple`), one more per element, one for the step that finds the list
    empty (`eachLoop_passes`), one for the statement -/
theorem Renders.each_simple (c : Ctx) {env : Env} (t t5 : Token) {var xs : Bytes} {body : List Stmt} (alt : Option (List Stmt))
    {vs : List Val} {ty : VType} (hget : env.get xs = some (.arr vs)) (hne : vs ≠ [])
    (hv : (var == b "loop") = false) (hfresh : ∀ old, env.get var = some old → old.type = ty)
    (hty : ∀ x ∈ vs, x.type = ty) (hsb : simpleBlock body = true) (hvis : holesVisible env var (piecesOf body)) :
    Renders c env (.eachS t var (.ident t5 xs) body alt) (passTexts env var (piecesOf body) vs.length vs 0)
      (body.length + vs.length + 5) := by
  have hex : evalExpr 1 c env.push (.ident t5 xs) = .ok (.arr vs) := by simp [evalExpr, get_push, hget]
  have h0 := evalStmt_each_simple 1 c env t var (.ident t5 xs) body alt vs ty hex hne hv hfresh hty hsb hvis
  rw [show max 1 (body.length + 3) = body.length + 3 by omega] at h0
  intro F hF
  obtain ⟨k, rfl⟩ : ∃ k, F = (body.length + 3 + vs.length + 1 + 1) + k := ⟨F - (body.length + 3 + vs.length + 1 + 1), by omega⟩
  exact evalStmt_lift h0 k

end Tw
