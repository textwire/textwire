/-
  TwProofs.Lemmas.LexProgress — one `NextToken` body by cases: it skips a comment or
  returns a token that a `TokDesc` describes, and what holds of every such description (`DescOK`);
  in code and not at "{{" the description is `codeStepDesc`.  Hence every body consumes at least one
  byte unless it returns `EOF`, and `lexAll` never runs out of the fuel `tokenize` gives it (C08).
-/
import TwProofs.Lemmas.Basics
import TwProofs.Lemmas.LexDirective
import TwProofs.Lemmas.LexPos

namespace Tw
open Lx

theorem tokenBegins_rest (s : Lx) : s.tokenBegins.rest = s.rest := rfl
theorem tokenBegins_pre (s : Lx) : s.tokenBegins.pre = s.pre := rfl

theorem readChar_eq_advance (s : Lx) : readChar s = advance s 1 := rfl

theorem emit_rest (s : Lx) (n : Nat) (ty : TT) (lit : Bytes) : (emit s n ty lit).2.rest = s.rest.drop n := by
  simp [emit, advance_rest, tokenBegins_rest]

theorem emit_ty (s : Lx) (n : Nat) (ty : TT) (lit : Bytes) : (emit s n ty lit).1.ty = ty := by
  simp only [emit, newToken]; split <;> rfl

theorem emit_lit (s : Lx) (n : Nat) (ty : TT) (lit : Bytes) : (emit s n ty lit).1.lit = lit := by
  simp only [emit, newToken]; split <;> rfl

theorem TokDesc.emit_rest (d : TokDesc) : d.emit.2.rest = d.st.rest.drop d.n := Tw.emit_rest _ _ _ _
theorem TokDesc.emit_ty (d : TokDesc) : d.emit.1.ty = d.ty := Tw.emit_ty _ _ _ _
theorem TokDesc.emit_lit (d : TokDesc) : d.emit.1.lit = d.lit := Tw.emit_lit _ _ _ _

theorem emit_key (s : Lx) (n : Nat) (ty : TT) (lit : Bytes) : key (emit s n ty lit).1 = (ty, lit) :=
  Prod.ext (emit_ty s n ty lit) (emit_lit s n ty lit)

theorem TokDesc.emit_key (d : TokDesc) : key d.emit.1 = (d.ty, d.lit) := Tw.emit_key _ _ _ _

theorem drop_length_lt {α} {l : List α} {n : Nat} (hn : 1 ≤ n) (hl : l ≠ []) : (l.drop n).length < l.length := by
  cases l with
  | nil => exact absurd rfl hl
  | cons a t => simp; omega

theorem take_takeWhile_length {α} (p : α → Bool) (l : List α) : l.take (l.takeWhile p).length = l.takeWhile p := by
  rw [List.takeWhile_eq_take_findIdx_not, List.length_take]
  simp

theorem takeWhile_prefix (p : Byte → Bool) (l r : Bytes) (hl : ∀ y ∈ l, p y = true) (hr : p (r.headD 0) = false) :
    (l ++ r).takeWhile p = l := by
  rw [List.takeWhile_append_of_pos hl]
  cases r with
  | nil => simp
  | cons c t => rw [List.takeWhile_cons_of_neg (by simpa using hr), List.append_nil]

theorem strSpan_two_le (rest : Bytes) : 2 ≤ (strSpan rest).1 := by
  unfold strSpan
  simp only
  split <;> simp

theorem strSpan_empty {q : Byte} {after : Bytes} (h : after.head? = some q) : strSpan (q :: after) = (2, []) := by
  obtain ⟨t, rfl⟩ := List.head?_eq_some_iff.mp h
  simp [strSpan]

theorem strSpan_scan {q : Byte} {after : Bytes} (h : after.head? ≠ some q) :
    strSpan (q :: after) = (strScan q after + 2, after.take (strScan q after)) := by
  unfold strSpan
  simp only [List.headD_cons, List.drop_succ_cons, List.drop_zero]
  rw [if_neg]
  cases after with
  | nil => simp
  | cons c t => simpa using fun e => h (by rw [e]; rfl)

theorem strScan_cons2 (q c d : Byte) (t : Bytes) :
    strScan q (c :: d :: t) = if (d == q && c != 92) = true then 1 else 1 + strScan q (d :: t) := by
  rw [strScan]

theorem numScan_digit (c : Byte) (r : Bytes) (h : isNumberCh c = true) :
    numScan (c :: r) = ((numScan r).1 + 1, (numScan r).2) := by
  simp only [numScan, h, if_true]

theorem numScan_dot (r : Bytes) :
    numScan (46 :: r) = if isNumberCh (r.headD 0) then ((numScan r).1 + 1, false) else (0, true) := by
  simp only [numScan]
  rw [if_neg (by decide)]
  simp

theorem numScan_other (c : Byte) (r : Bytes) (h : isNumberCh c = false) (hd : c ≠ 46) : numScan (c :: r) = (0, true) := by
  simp only [numScan, h]
  simp [hd]

theorem numScan_eq_zero (y : Bytes) (h0 : isNumberCh (y.headD 0) = false)
    (h1 : y.headD 0 = 46 → isNumberCh ((y.drop 1).headD 0) = false) : numScan y = (0, true) := by
  cases y with
  | nil => rfl
  | cons c r =>
    simp only [List.headD_cons] at h0 h1
    by_cases hd : c = 46
    · subst hd
      rw [numScan_dot]
      have := h1 rfl
      simp only [List.drop_succ_cons, List.drop_zero] at this
      rw [this]; rfl
    · exact numScan_other c r h0 hd

theorem numScan_zero (x : Bytes) (h : (numScan x).1 = 0) :
    isNumberCh (x.headD 0) = false ∧ (x.headD 0 = 46 → isNumberCh ((x.drop 1).headD 0) = false) := by
  cases x with
  | nil => exact ⟨by decide, fun h => by cases h⟩
  | cons c r =>
    simp only [List.headD_cons, List.drop_succ_cons, List.drop_zero]
    by_cases hn : isNumberCh c = true
    · rw [numScan_digit c r hn] at h; simp at h
    · have hn' : isNumberCh c = false := by simpa using hn
      refine ⟨hn', ?_⟩
      intro hd; subst hd
      rw [numScan_dot] at h
      by_cases hr : isNumberCh (r.headD 0) = true
      · rw [if_pos hr] at h; simp at h
      · simpa using hr

theorem htmlScan_count (prev : Byte) (out : Bytes) (n : Nat) (pan : Bool) (rest : Bytes) :
    n ≤ (htmlScan prev out n pan rest).2.1 := by
  induction rest generalizing prev out n pan with
  | nil => simp [htmlScan]
  | cons c r ih =>
    simp only [htmlScan]
    split
    · exact Nat.le_refl _
    · split
      · exact Nat.le_trans (Nat.le_succ n) (ih _ _ _ _)
      · exact Nat.le_trans (Nat.le_succ n) (ih _ _ _ _)

theorem commentScan_stop (l : Bytes) : l.drop (commentScan l) = [] ∨ ∃ r, l.drop (commentScan l) = 45 :: 45 :: 125 :: 125 :: r := by
  induction l with
  | nil => left; simp [commentScan]
  | cons c t ih =>
    unfold commentScan
    split
    · rename_i hp
      right
      simp only [List.drop_zero]
      exact ⟨_, eq_append_of_isPrefixOf _ _ hp⟩
    · rw [show 1 + commentScan t = commentScan t + 1 by omega, List.drop_succ_cons]
      exact ih

theorem isEOF_iff (s : Lx) : s.isEOF = true ↔ s.rest = [] := by
  simp [Lx.isEOF]

theorem Lx.char_of_rest {s : Lx} {c : Byte} {r : Bytes} (h : s.rest = c :: r) : s.char = c := by
  simp [Lx.char, h]

theorem Lx.peek_of_rest {s : Lx} {c : Byte} {r : Bytes} (h : s.rest = c :: r) : s.peek = r.headD 0 := by
  simp [Lx.peek, h]

theorem Lx.exists_rest_cons (s : Lx) (hne : s.rest ≠ []) : ∃ c r, s.rest = c :: r ∧ s.char = c := by
  obtain ⟨c, r, h⟩ := List.exists_cons_of_ne_nil hne
  exact ⟨c, r, h, Lx.char_of_rest h⟩

theorem Lx.rest_take_one (s : Lx) (hne : s.rest ≠ []) : s.rest.take 1 = [s.char] := by
  obtain ⟨c, r, hcr, hchar⟩ := s.exists_rest_cons hne
  rw [hcr, hchar]; rfl

/-- `peekChar` answers 0 at the end of the input, so a next byte other than 0 is there -/
theorem Lx.rest_take_two (s : Lx) (h0 : s.peek ≠ 0) : s.rest.take 2 = [s.char, s.peek] := by
  have hne : s.rest ≠ [] := fun e => h0 (by simp [Lx.peek, e])
  obtain ⟨c, r, hcr, hchar⟩ := s.exists_rest_cons hne
  rw [Lx.peek_of_rest hcr] at h0 ⊢
  rw [hcr, hchar]
  cases r with
  | nil => exact absurd rfl h0
  | cons y r' => rfl

theorem Lx.rest_eq_cons (s : Lx) (hne : s.rest ≠ []) : s.rest = s.char :: s.rest.drop 1 :=
  (List.take_append_drop 1 s.rest).symm.trans (by rw [s.rest_take_one hne]; rfl)

theorem Lx.rest_eq_cons2 (s : Lx) (h0 : s.peek ≠ 0) : s.rest = s.char :: s.peek :: s.rest.drop 2 :=
  (List.take_append_drop 2 s.rest).symm.trans (by rw [s.rest_take_two h0]; rfl)

/-- the two states stand at the same place of the same input and may differ in the flags: so stands the state of a
    `TokDesc` to the state it was read at, and what `directiveToken` returns to what `emit` returns -/
def SameBytes (a c : Lx) : Prop :=
  a.pre = c.pre ∧ a.rest = c.rest ∧ a.line = c.line ∧ a.col = c.col ∧ a.reset = c.reset

theorem SameBytes.refl (s : Lx) : SameBytes s s := ⟨rfl, rfl, rfl, rfl, rfl⟩

theorem SameBytes.pre {a c : Lx} (h : SameBytes a c) : a.pre = c.pre := h.1
theorem SameBytes.rest {a c : Lx} (h : SameBytes a c) : a.rest = c.rest := h.2.1
theorem SameBytes.line {a c : Lx} (h : SameBytes a c) : a.line = c.line := h.2.2.1
theorem SameBytes.col {a c : Lx} (h : SameBytes a c) : a.col = c.col := h.2.2.2.1
theorem SameBytes.reset {a c : Lx} (h : SameBytes a c) : a.reset = c.reset := h.2.2.2.2

structure DescOK (s : Lx) (d : TokDesc) : Prop where
  same : SameBytes d.st s
  n_pos : 1 ≤ d.n
  ne_eof : d.ty ≠ .EOF
  lit : d.ty ≠ .STR → d.ty ≠ .HTML → d.lit = s.rest.take d.n

/-- the `isHTML` of `s` unless the token is the one byte ")" (which may close a directive) -/
structure CodeOK (s : Lx) (d : TokDesc) : Prop extends DescOK s d where
  pan : d.st.panicked = s.panicked
  html : d.st.isHTML = s.isHTML ∨ (d.n = 1 ∧ s.char = 41)

theorem CodeOK.of_st {s : Lx} {d : TokDesc} (hst : d.st = s) (hn : 1 ≤ d.n) (hty : d.ty ≠ .EOF)
    (hlit : d.ty ≠ .STR → d.lit = s.rest.take d.n) : CodeOK s d :=
  ⟨⟨hst ▸ SameBytes.refl _, hn, hty, fun h _ => hlit h⟩, hst ▸ rfl, Or.inl (hst ▸ rfl)⟩

theorem illegalDesc_ok (s : Lx) (hne : s.rest ≠ []) : CodeOK s (illegalDesc s) :=
  .of_st rfl (Nat.le_refl 1) (by simp [illegalDesc]) fun _ => (s.rest_take_one hne).symm

theorem wordDesc_ok (s : Lx) (hne : s.rest ≠ []) : CodeOK s (wordDesc s) := by
  obtain ⟨c, r, hcr, hchar⟩ := s.exists_rest_cons hne
  unfold wordDesc
  refine iteInduction (fun hid => ?_) fun _ => iteInduction (fun hnum => ?_) fun _ => illegalDesc_ok s hne
  · refine .of_st rfl ?_ (lookupIdent_ne_eof _) fun _ => (take_takeWhile_length _ _).symm
    show 1 ≤ (s.rest.takeWhile fun x => isIdentCh x || isNumberCh x).length
    rw [hchar] at hid
    simp [hcr, hid]
  · refine .of_st rfl ?_ ?_ fun _ => rfl
    · show 1 ≤ (numScan s.rest).1
      rw [hchar] at hnum
      simp only [hcr, numScan, hnum, if_true]
      omega
    · show (if (numScan s.rest).2 = true then TT.INT else TT.FLOAT) ≠ TT.EOF
      split <;> simp

/-- the one and two byte operators of `opDesc`: first byte, second byte, long kind, short kind.
    `opChain` is `opDesc` as a recursion over this table, so that each fact about
    `opDesc` is one recursion and not six `if`s -/
def opTable : List (Byte × Byte × TT × TT) :=
  [(60, 61, .LTHAN_EQ, .LTHAN), (62, 61, .GTHAN_EQ, .GTHAN), (33, 61, .NOT_EQ, .NOT),
   (45, 45, .DEC, .SUB), (43, 43, .INC, .ADD), (61, 61, .EQ, .ASSIGN)]

def opChain (s : Lx) : List (Byte × Byte × TT × TT) → TokDesc
  | [] => wordDesc s
  | (a, k, t2, t1) :: r =>
    if s.char == a then (if s.peek == k then { st := s, n := 2, ty := t2, lit := [a, k] } else { st := s, n := 1, ty := t1, lit := [a] })
    else opChain s r

theorem opDesc_eq_chain (s : Lx) : opDesc s = opChain s opTable := rfl

theorem opChain_cases (s : Lx) {P : TokDesc → Prop} (hw : P (wordDesc s)) : ∀ tbl : List (Byte × Byte × TT × TT),
    (∀ e ∈ tbl, s.char = e.1 → s.peek = e.2.1 → P { st := s, n := 2, ty := e.2.2.1, lit := [e.1, e.2.1] }) →
    (∀ e ∈ tbl, s.char = e.1 → P { st := s, n := 1, ty := e.2.2.2, lit := [e.1] }) → P (opChain s tbl)
  | [], _, _ => hw
  | (a, k, t2, t1) :: r, h2, h1 => by
    unfold opChain
    refine iteInduction (fun ha => iteInduction (fun hk => ?_) fun _ => ?_) fun _ =>
      opChain_cases s hw r (fun e he => h2 e (List.mem_cons_of_mem _ he)) (fun e he => h1 e (List.mem_cons_of_mem _ he))
    · exact h2 _ List.mem_cons_self (by simpa using ha) (by simpa using hk)
    · exact h1 _ List.mem_cons_self (by simpa using ha)

theorem opChain_ok (s : Lx) (hne : s.rest ≠ []) (tbl : List (Byte × Byte × TT × TT))
    (htbl : ∀ e ∈ tbl, e.2.1 ≠ 0 ∧ e.2.2.1 ≠ .EOF ∧ e.2.2.2 ≠ .EOF) : CodeOK s (opChain s tbl) := by
  refine opChain_cases s (wordDesc_ok s hne) tbl (fun e he hc hp => ?_) (fun e he hc => ?_)
  · refine .of_st rfl (Nat.le_succ 1) (htbl e he).2.1 fun _ => ?_
    rw [← hc, ← hp]
    exact (s.rest_take_two (by rw [hp]; exact (htbl e he).1)).symm
  · refine .of_st rfl (Nat.le_refl 1) (htbl e he).2.2 fun _ => ?_
    rw [← hc]
    exact (s.rest_take_one hne).symm

theorem opDesc_ok (s : Lx) (hne : s.rest ≠ []) : CodeOK s (opDesc s) :=
  opChain_ok s hne opTable (by decide)

theorem strDesc_ok (s : Lx) : CodeOK s (strDesc s) :=
  .of_st rfl (Nat.le_trans (by decide) (strSpan_two_le s.rest)) (by simp [strDesc]) fun h => absurd rfl h

theorem bracketDesc_ok (s : Lx) (hne : s.rest ≠ []) : CodeOK s (bracketDesc s) := by
  have one : ∀ a : Byte, (s.char == a) = true → [a] = s.rest.take 1 := fun a h => by
    rw [s.rest_take_one hne, eq_of_beq h]
  unfold bracketDesc
  refine iteInduction (fun h => ?_) fun _ => iteInduction (fun h => ?_) fun _ => iteInduction (fun h => ?_) fun _ =>
    iteInduction (fun h => ?_) fun _ => iteInduction (fun _ => strDesc_ok s) fun _ => opDesc_ok s hne
  · exact ⟨⟨⟨rfl, rfl, rfl, rfl, rfl⟩, Nat.le_refl 1, by simp, fun _ _ => one _ h⟩, rfl, Or.inl rfl⟩
  · exact ⟨⟨⟨rfl, rfl, rfl, rfl, rfl⟩, Nat.le_refl 1, by simp, fun _ _ => one _ h⟩, rfl, Or.inl rfl⟩
  -- "(" and ")": the state is an `if` on `isDirective`
  · refine ⟨⟨?_, Nat.le_refl 1, by simp, fun _ _ => one _ h⟩, ?_, Or.inl ?_⟩ <;>
      (dsimp only; split <;> first | rfl | exact ⟨rfl, rfl, rfl, rfl, rfl⟩)
  · refine ⟨⟨?_, Nat.le_refl 1, by simp, fun _ _ => one _ h⟩, ?_, Or.inr ⟨rfl, eq_of_beq h⟩⟩ <;>
      (dsimp only; split; (first | rfl | exact ⟨rfl, rfl, rfl, rfl, rfl⟩); split <;> first | rfl | exact ⟨rfl, rfl, rfl, rfl, rfl⟩)

theorem simpleToken_mem {c : Byte} {ty : TT} (h : simpleToken c = some ty) : (c, ty) ∈ simpleTokens := by
  unfold simpleToken at h
  obtain ⟨p, hf, rfl⟩ := Option.map_eq_some_iff.mp h
  have hc : p.1 = c := by simpa using List.find?_some hf
  exact hc ▸ List.mem_of_find?_eq_some hf

theorem simpleToken_ne_eof {c : Byte} {ty : TT} (h : simpleToken c = some ty) : ty ≠ .EOF :=
  (by decide : ∀ p ∈ simpleTokens, p.2 ≠ TT.EOF) _ (simpleToken_mem h)

theorem codeDesc_ok (s : Lx) (hne : s.rest ≠ []) : CodeOK s (codeDesc s) := by
  unfold codeDesc
  split
  · rename_i ty hst
    exact .of_st rfl (Nat.le_refl 1) (simpleToken_ne_eof hst) fun _ => (s.rest_take_one hne).symm
  · exact bracketDesc_ok s hne

theorem bracesDesc_ok (s : Lx) (ty : TT) (a : Byte) (hty : ty ≠ .EOF) (ha : a ≠ 0)
    (hc : s.char = a) (hp : s.peek = a) :
    DescOK s { st := { s with isHTML := ty != TT.LBRACES }, n := 2, ty := ty, lit := [a, a] } :=
  ⟨⟨rfl, rfl, rfl, rfl, rfl⟩, Nat.le_succ 1, hty, fun _ _ => by
    have := s.rest_take_two (by rw [hp]; exact ha)
    rw [hc, hp] at this; exact this.symm⟩

theorem directiveDesc_ok (s : Lx) (hd : (isDirectiveToken s).1 = true) : DescOK s (directiveDesc s) := by
  have hne : s.rest ≠ [] := fun e => by have := (isDirectiveToken_true s hd).1; simp [Lx.char, e] at this
  obtain ⟨c, r, hcr, hchar⟩ := s.exists_rest_cons hne
  rw [directiveDesc_eq s hd]
  refine ⟨SameBytes.refl s, ?_, ?_, fun _ _ => ?_⟩
  · show 1 ≤ (dirScan [] TT.ILLEGAL s.rest).1.length
    rw [hcr]
    exact dirScan_one_le c r (by rw [← hchar, (isDirectiveToken_true s hd).1]; decide)
  · show (dirScan [] TT.ILLEGAL s.rest).2 ≠ TT.EOF
    rcases dirScan_tok [] TT.ILLEGAL s.rest with h | ⟨k, h⟩
    · rw [h]; decide
    · rw [h]; exact lookupDirective_ne_eof k
  · show (dirScan [] TT.ILLEGAL s.rest).1 = s.rest.take (dirScan [] TT.ILLEGAL s.rest).1.length
    obtain ⟨m, hm, hle⟩ := dirScan_prefix s.rest [] .ILLEGAL
    rw [hm]
    simp [List.length_take, Nat.min_eq_left hle]

theorem directiveToken_emit (s : Lx) :
    (directiveToken s).1 = (directiveDesc s).emit.1 ∧ SameBytes (directiveToken s).2 (directiveDesc s).emit.2 := by
  unfold directiveToken
  simp only []
  split <;> exact ⟨rfl, rfl, rfl, rfl, rfl, rfl⟩

theorem htmlStart_one_le (s : Lx) (hne : s.rest ≠ [])
    (hnb : ¬ (s.char = 123 ∧ s.peek = 123)) (hnd : (isDirectiveToken s).1 = false) :
    1 ≤ (htmlScan s.prev [] 0 false s.rest).2.1 := by
  have hneof : s.isEOF = false := Bool.eq_false_iff.mpr fun h => hne ((isEOF_iff s).mp h)
  obtain ⟨c, r, hcr, hchar⟩ := s.exists_rest_cons hne
  rw [isDirectiveToken_fst, hneof, hchar] at hnd
  rw [hchar, Lx.peek_of_rest hcr] at hnb
  rw [hcr] at hnd ⊢
  simp only [htmlScan]
  rw [show (c == 123 && r.headD 0 == 123) = false by simpa using hnb, Bool.false_or, if_neg (by simpa using hnd)]
  split
  · exact htmlScan_count _ _ _ _ _
  · exact htmlScan_count _ _ _ _ _

theorem stepAt_eof (s : Lx) (h : s.rest = []) : stepAt s = (.tok (s.tokenBegins.newToken .EOF []), s.tokenBegins) := by
  unfold stepAt
  rw [if_pos ((isEOF_iff s).mpr h)]

theorem nextStep_html (s : Lx) (hh : s.isHTML = true) : nextStep s = stepAt s := by
  unfold nextStep skipWs
  rw [hh]; rfl

theorem stepAt_lbraces (s : Lx) (hne : s.rest ≠ []) (hb : s.char = 123 ∧ s.peek = 123)
    (hn : ¬ ((bracesToken s .LBRACES [123, 123]).2.char = 45 ∧ (bracesToken s .LBRACES [123, 123]).2.peek = 45)) :
    stepAt s = (.tok (bracesToken s .LBRACES [123, 123]).1, (bracesToken s .LBRACES [123, 123]).2) := by
  unfold stepAt
  rw [if_neg (by rwa [isEOF_iff]), if_pos (by simpa using hb), if_neg (by simpa using hn)]

theorem stepAt_comment (s : Lx) (hne : s.rest ≠ []) (hb : s.char = 123 ∧ s.peek = 123)
    (hc : (bracesToken s .LBRACES [123, 123]).2.char = 45 ∧ (bracesToken s .LBRACES [123, 123]).2.peek = 45) :
    stepAt s = (.again, skipComment (bracesToken s .LBRACES [123, 123]).2) := by
  unfold stepAt
  rw [if_neg (by rwa [isEOF_iff]), if_pos (by simpa using hb), if_pos (by simpa using hc)]

theorem stepAt_dir (s : Lx) (hh : s.isHTML = true) (hd : (isDirectiveToken s).1 = true) :
    stepAt s = (.tok (directiveToken s).1, (directiveToken s).2) := by
  have he : ¬ s.isEOF = true := by
    rw [isDirectiveToken_fst] at hd
    intro h; simp [h] at hd
  unfold stepAt
  rw [if_neg he, if_neg (by rw [(isDirectiveToken_true s hd).1]; simp), if_neg (by simp [hh]), if_neg (by simp [hh]), if_pos hd]

theorem stepAt_html (s : Lx) (hh : s.isHTML = true) (hne : s.rest ≠ []) (hb : ¬ (s.char = 123 ∧ s.peek = 123))
    (hd : (isDirectiveToken s).1 = false) : stepAt s = (.tok (htmlToken s).1, (htmlToken s).2) := by
  unfold stepAt
  rw [if_neg (by rwa [isEOF_iff]), if_neg (by simpa using hb), if_neg (by simp [hh]), if_neg (by simp [hh]), if_neg (by rw [hd]; simp)]

/-- the closing "}}" outside every object literal, or `embeddedCodeToken` -/
def codeStepDesc (s : Lx) : TokDesc :=
  if s.char == 125 && s.peek == 125 && s.braces == 0 then
    { st := { s with isHTML := true }, n := 2, ty := .RBRACES, lit := [125, 125] }
  else codeDesc s

theorem stepAt_code (s : Lx) (hh : s.isHTML = false) (hne : s.rest ≠ []) (hb : ¬ (s.char = 123 ∧ s.peek = 123)) :
    stepAt s = (.tok (codeStepDesc s).emit.1, (codeStepDesc s).emit.2) := by
  unfold stepAt codeStepDesc
  rw [if_neg (by simpa [isEOF_iff] using hne)]
  rw [if_neg (by simpa using hb)]
  simp only [hh, Bool.not_false, Bool.true_and]
  split
  · rfl
  · rfl

theorem codeDesc_eq_bracketDesc {s : Lx} (h : simpleToken s.char = none) : codeDesc s = bracketDesc s := by
  unfold codeDesc
  rw [h]

theorem codeStepDesc_eq_codeDesc {s : Lx} (h : ¬ (s.char = 125 ∧ s.peek = 125)) : codeStepDesc s = codeDesc s := by
  unfold codeStepDesc
  rw [if_neg (by simpa using fun h1 h2 _ => h ⟨h1, h2⟩)]

theorem codeDesc_rbrace (s : Lx) (h : s.char = 125) : (codeDesc s).n = 1 := by
  rw [codeDesc_eq_bracketDesc (by rw [h]; decide)]
  unfold bracketDesc
  rw [h]
  rfl

theorem codeStepDesc_rbraces (s : Lx) (hc : s.char = 125) (hp : s.peek = 125) (hb : s.braces = 0) :
    codeStepDesc s = { st := { s with isHTML := true }, n := 2, ty := .RBRACES, lit := [125, 125] } := by
  unfold codeStepDesc
  rw [if_pos (by simp [hc, hp, hb])]

theorem codeStepDesc_ok (s : Lx) (hne : s.rest ≠ []) : DescOK s (codeStepDesc s) := by
  unfold codeStepDesc
  refine iteInduction (fun h => ?_) fun _ => (codeDesc_ok s hne).toDescOK
  simp only [Bool.and_eq_true, beq_iff_eq] at h
  exact bracesDesc_ok s .RBRACES 125 (by decide) (by decide) h.1.1 h.1.2

theorem stepAt_cases {P : LexStep × Lx → Prop} (s : Lx)
    (eof : s.rest = [] → P (.tok (s.tokenBegins.newToken .EOF []), s.tokenBegins))
    (comment : s.rest ≠ [] → s.char = 123 ∧ s.peek = 123 →
      (bracesToken s .LBRACES [123, 123]).2.char = 45 ∧ (bracesToken s .LBRACES [123, 123]).2.peek = 45 →
      P (.again, skipComment (bracesToken s .LBRACES [123, 123]).2))
    (lbraces : s.rest ≠ [] → s.char = 123 ∧ s.peek = 123 →
      P (.tok (bracesToken s .LBRACES [123, 123]).1, (bracesToken s .LBRACES [123, 123]).2))
    (rbraces : s.rest ≠ [] → s.isHTML = false → s.char = 125 → s.peek = 125 → s.braces = 0 →
      P (.tok (bracesToken s .RBRACES [125, 125]).1, (bracesToken s .RBRACES [125, 125]).2))
    (code : s.rest ≠ [] → s.isHTML = false → P (.tok (codeDesc s).emit.1, (codeDesc s).emit.2))
    (dir : s.rest ≠ [] → s.isHTML = true → (isDirectiveToken s).1 = true → P (.tok (directiveToken s).1, (directiveToken s).2))
    (html : s.rest ≠ [] → s.isHTML = true → ¬ (s.char = 123 ∧ s.peek = 123) → (isDirectiveToken s).1 = false →
      P (.tok (htmlToken s).1, (htmlToken s).2)) :
    P (stepAt s) := by
  unfold stepAt
  refine iteInduction (fun he => eof ((isEOF_iff s).mp he)) fun he => ?_
  have hne : s.rest ≠ [] := fun h => he ((isEOF_iff s).mpr h)
  refine iteInduction (fun hb => ?_) fun hb => iteInduction (fun hr => ?_) fun _ => iteInduction (fun hh => code hne (by simpa using hh)) fun hh => ?_
  · have hb' : s.char = 123 ∧ s.peek = 123 := by simpa using hb
    exact iteInduction (fun hc => comment hne hb' (by simpa using hc)) fun _ => lbraces hne hb'
  · simp only [Bool.and_eq_true, Bool.not_eq_true', beq_iff_eq] at hr
    exact rbraces hne hr.1.1.1 hr.1.1.2 hr.1.2 hr.2
  · have hh' : s.isHTML = true := by simpa using hh
    exact iteInduction (dir hne hh') fun hd => html hne hh' (by simpa using hb) (by simpa using hd)

theorem stepAt_tok {s : Lx} (hne : s.rest ≠ []) {st : LexStep} {s1 : Lx} (h : stepAt s = (st, s1)) :
    ((s.char = 123 ∧ s.peek = 123) ∧
      ((bracesToken s .LBRACES [123, 123]).2.char = 45 ∧ (bracesToken s .LBRACES [123, 123]).2.peek = 45) ∧
      st = .again ∧ s1 = skipComment (bracesToken s .LBRACES [123, 123]).2) ∨
    ∃ d, DescOK s d ∧ st = .tok d.emit.1 ∧ SameBytes s1 d.emit.2 := by
  obtain ⟨rfl, rfl⟩ : (stepAt s).1 = st ∧ (stepAt s).2 = s1 := ⟨congrArg Prod.fst h, congrArg Prod.snd h⟩
  refine stepAt_cases (P := fun r => (_ ∧ _ ∧ r.1 = _ ∧ r.2 = _) ∨ ∃ d, DescOK s d ∧ r.1 = .tok d.emit.1 ∧ SameBytes r.2 d.emit.2) s
    (fun h => absurd h hne) (fun _ hb hc => Or.inl ⟨hb, hc, rfl, rfl⟩) (fun _ hb => Or.inr ?_) (fun _ _ hc hp _ => Or.inr ?_)
    (fun _ _ => Or.inr ⟨_, (codeDesc_ok s hne).toDescOK, rfl, SameBytes.refl _⟩)
    (fun _ _ hd => Or.inr ⟨_, directiveDesc_ok s hd, congrArg LexStep.tok (directiveToken_emit s).1, (directiveToken_emit s).2⟩)
    (fun _ _ hnb hnd => Or.inr ?_)
  · exact ⟨_, bracesDesc_ok s .LBRACES 123 (by decide) (by decide) hb.1 hb.2, rfl, SameBytes.refl _⟩
  · exact ⟨_, bracesDesc_ok s .RBRACES 125 (by decide) (by decide) hc hp, rfl, SameBytes.refl _⟩
  · exact ⟨⟨s, (htmlScan s.prev [] 0 false s.rest).2.1, .HTML, (htmlScan s.prev [] 0 false s.rest).1.reverse⟩,
      ⟨SameBytes.refl s, htmlStart_one_le s hne hnb hnd, show TT.HTML ≠ TT.EOF by decide, fun _ h => absurd rfl h⟩, rfl, ⟨rfl, rfl, rfl, rfl, rfl⟩⟩

theorem advance_rest_le (s : Lx) (n : Nat) : (advance s n).rest.length ≤ s.rest.length := by
  rw [advance_rest]; simp

def allWs (g : Bytes) : Prop := ∀ c ∈ g, isWs c = true

instance (g : Bytes) : Decidable (allWs g) := by unfold allWs; exact inferInstance

theorem ws_not_number {c : Byte} (h : isWs c = true) : isNumberCh c = false := by
  have : ((c = 32 ∨ c = 9) ∨ c = 10) ∨ c = 13 := by simpa [isWs] using h
  rcases this with ((h | h) | h) | h <;> subst h <;> decide

theorem ws_not_ident {c : Byte} (h : isWs c = true) : isIdentCh c = false := by
  have : ((c = 32 ∨ c = 9) ∨ c = 10) ∨ c = 13 := by simpa [isWs] using h
  rcases this with ((h | h) | h) | h <;> subst h <;> decide

theorem skipWs_rest_le (s : Lx) : (skipWs s).rest.length ≤ s.rest.length := by
  unfold skipWs; split
  · exact advance_rest_le _ _
  · exact Nat.le_refl _

theorem advance_add (a : Nat) : ∀ (s : Lx) (b : Nat), advance (advance s a) b = advance s (a + b) := by
  induction a with
  | zero => intro s b; rw [Nat.zero_add]; rfl
  | succ a ih => intro s b; rw [Nat.succ_add]; exact ih (readChar s) b

/-- a name for the update, so that rewriting does not meet it in every state through structure eta -/
def Lx.withHTML (s : Lx) (b : Bool) : Lx := { s with isHTML := b }

theorem readChar_withHTML (s : Lx) (b : Bool) : readChar (s.withHTML b) = (readChar s).withHTML b := by
  cases hrest : s.rest with
  | nil => simp [readChar, Lx.withHTML, hrest]
  | cons c r => by_cases hb : s.reset <;> simp [readChar, Lx.withHTML, hrest, hb]

theorem advance_withHTML (n : Nat) : ∀ (s : Lx) (b : Bool), advance (s.withHTML b) n = (advance s n).withHTML b := by
  induction n with
  | zero => intro s b; rfl
  | succ n ih => intro s b; show advance (readChar (s.withHTML b)) n = _; rw [readChar_withHTML, ih]; rfl

theorem skipComment_eq (s : Lx) :
    skipComment s = if (advance s (2 + commentScan (s.rest.drop 2))).isEOF then advance s (2 + commentScan (s.rest.drop 2))
      else advance (s.withHTML true) (2 + commentScan (s.rest.drop 2) + 4) := by
  show (if (advance (advance s 2) (commentScan (advance s 2).rest)).isEOF then advance (advance s 2) (commentScan (advance s 2).rest)
    else advance ((advance (advance s 2) (commentScan (advance s 2).rest)).withHTML true) 4) = _
  rw [advance_rest, advance_add, ← advance_withHTML, advance_add]

theorem skipComment_rest_le (s : Lx) : (skipComment s).rest.length ≤ s.rest.length := by
  rw [skipComment_eq]
  split <;> exact advance_rest_le _ _

theorem stepAt_progress {s : Lx} (hne : s.rest ≠ []) {st : LexStep} {s1 : Lx} (h : stepAt s = (st, s1)) :
    s1.rest.length < s.rest.length ∧ ∀ t, st = .tok t → t.ty ≠ .EOF := by
  rcases stepAt_tok hne h with ⟨_, _, rfl, rfl⟩ | ⟨d, hd, rfl, hs⟩
  · refine ⟨Nat.lt_of_le_of_lt (skipComment_rest_le _) ?_, fun t h => by cases h⟩
    rw [bracesToken, emit_rest]; exact drop_length_lt (by decide) hne
  · refine ⟨?_, fun t h => ?_⟩
    · rw [hs.rest, TokDesc.emit_rest, hd.same.rest]
      exact drop_length_lt hd.n_pos hne
    · cases h
      rw [TokDesc.emit_ty]; exact hd.ne_eof

theorem stepAt_rest_nil_iff {s : Lx} {st : LexStep} {s1 : Lx} (h : stepAt s = (st, s1)) :
    s.rest = [] ↔ ∃ t, st = .tok t ∧ t.ty = .EOF := by
  constructor
  · intro hnil
    rw [stepAt_eof s hnil] at h
    cases h
    exact ⟨_, rfl, by simp [newToken]⟩
  · intro ⟨t, ht, he⟩
    exact Classical.byContradiction fun hne => (stepAt_progress hne h).2 t ht he

theorem nextStep_progress {s : Lx} {st : LexStep} {s1 : Lx} (h : nextStep s = (st, s1)) :
    ((∃ t, st = .tok t ∧ t.ty = .EOF) ∧ s1.rest.length ≤ s.rest.length) ∨
    (s1.rest.length < s.rest.length ∧ ∀ t, st = .tok t → t.ty ≠ .EOF) := by
  have hws := skipWs_rest_le s
  by_cases hnil : (skipWs s).rest = []
  · left
    refine ⟨(stepAt_rest_nil_iff h).mp hnil, Nat.le_trans ?_ hws⟩
    rw [nextStep, stepAt_eof _ hnil] at h
    cases h
    exact Nat.le_refl _
  · right
    obtain ⟨hl, ht⟩ := stepAt_progress hnil h
    exact ⟨Nat.lt_of_lt_of_le hl hws, ht⟩

theorem lexAll_again {f : Nat} {s s1 : Lx} (h : nextStep s = (.again, s1)) : lexAll (f + 1) s = lexAll f s1 := by
  rw [lexAll, h]

theorem lexAll_eof {f : Nat} {s s1 : Lx} {t : Token} (h : nextStep s = (.tok t, s1)) (he : t.ty = .EOF) :
    lexAll (f + 1) s = some ([t], s1) := by
  rw [lexAll, h]
  exact if_pos (by simpa using he)

theorem lexAll_tok {f : Nat} {s s1 : Lx} {t : Token} (h : nextStep s = (.tok t, s1)) (hne : t.ty ≠ .EOF) :
    lexAll (f + 1) s = (lexAll f s1).map fun p => (t :: p.1, p.2) := by
  rw [lexAll, h]
  exact if_neg (by simpa using hne)

theorem lexAll_induct {P : Nat → Lx → List Token → Lx → Prop}
    (eof : ∀ f s t s1, nextStep s = (.tok t, s1) → t.ty = .EOF → P (f + 1) s [t] s1)
    (again : ∀ f s s1 ts sf, nextStep s = (.again, s1) → P f s1 ts sf → P (f + 1) s ts sf)
    (tok : ∀ f s t s1 ts sf, nextStep s = (.tok t, s1) → t.ty ≠ .EOF → P f s1 ts sf → P (f + 1) s (t :: ts) sf) :
    ∀ f s ts sf, lexAll f s = some (ts, sf) → P f s ts sf
  | 0, _, _, _, h => by simp [lexAll] at h
  | f + 1, s, ts, sf, h => by
    cases hn : nextStep s with
    | mk st s1 =>
      cases st with
      | again =>
        rw [lexAll_again hn] at h
        exact again f s s1 ts sf hn (lexAll_induct eof again tok f s1 ts sf h)
      | tok t =>
        by_cases he : t.ty = .EOF
        · rw [lexAll_eof hn he] at h
          cases h
          exact eof f s t _ hn he
        · rw [lexAll_tok hn he] at h
          cases hl : lexAll f s1 with
          | none => rw [hl] at h; cases h
          | some p =>
            rw [hl] at h
            cases h
            exact tok f s t s1 p.1 p.2 hn he (lexAll_induct eof again tok f s1 p.1 p.2 hl)

/-- C08 `lexer_terminates`.  The measure is `rest.length` (`nextStep_progress`); the `+ 1` is the body that returns EOF -/
theorem lexAll_terminates : ∀ (fuel : Nat) (s : Lx), s.rest.length + 1 ≤ fuel → (lexAll fuel s).isSome = true
  | 0, _, h => by omega
  | fuel + 1, s, h => by
    cases hn : nextStep s with
    | mk st s1 =>
      have hp := nextStep_progress hn
      have hrec : (∀ t, st = .tok t → t.ty ≠ .EOF) → (lexAll fuel s1).isSome = true := fun hne =>
        lexAll_terminates fuel s1 (by
          rcases hp with ⟨⟨t, ht, he⟩, _⟩ | ⟨hlt, _⟩
          · exact absurd he (hne t ht)
          · omega)
      cases st with
      | again => rw [lexAll_again hn]; exact hrec (fun t h => by cases h)
      | tok t =>
        by_cases he : t.ty = .EOF
        · rw [lexAll_eof hn he]; rfl
        · rw [lexAll_tok hn he, Option.isSome_map]
          exact hrec (fun t' h => by cases h; exact he)

theorem lexAll_mono {f : Nat} {s : Lx} {r : List Token × Lx} (h : lexAll f s = some r) : ∀ k, lexAll (f + k) s = some r := by
  refine lexAll_induct (P := fun f s ts sf => ∀ k, lexAll (f + k) s = some (ts, sf)) ?_ ?_ ?_ f s r.1 r.2 h
  · intro f s t s1 hn he k
    rw [show f + 1 + k = (f + k) + 1 by omega, lexAll_eof hn he]
  · intro f s s1 ts sf hn ih k
    rw [show f + 1 + k = (f + k) + 1 by omega, lexAll_again hn]
    exact ih k
  · intro f s t s1 ts sf hn hne ih k
    rw [show f + 1 + k = (f + k) + 1 by omega, lexAll_tok hn hne, ih k]
    rfl

theorem lexAll_fuel_irrel {f f' : Nat} {s : Lx} {r r' : List Token × Lx} (h : lexAll f s = some r) (h' : lexAll f' s = some r') :
    r = r' := by
  have e := lexAll_mono h f'
  rw [Nat.add_comm, lexAll_mono h' f] at e
  exact (Option.some.inj e).symm

theorem lexAll_ends_eof {f : Nat} {s : Lx} {ts : List Token} {sf : Lx} (h : lexAll f s = some (ts, sf)) :
    ∃ ts' e, ts = ts' ++ [e] ∧ e.ty = .EOF := by
  refine lexAll_induct (P := fun _ _ ts _ => ∃ ts' e, ts = ts' ++ [e] ∧ e.ty = .EOF) ?_ ?_ ?_ f s ts sf h
  · intro _ _ t _ _ he
    exact ⟨[], t, rfl, he⟩
  · intro _ _ _ _ _ _ ih
    exact ih
  · intro _ _ t _ _ _ _ _ ⟨ts', e, h1, h2⟩
    exact ⟨t :: ts', e, by rw [h1]; rfl, h2⟩

/-- `lexFuel inp` is `inp.length + 2`, `lexAll_terminates` asks for `inp.length + 1`: one unit of the model's fuel is never
    used -/
theorem lexAll_lexFuel (inp : Bytes) : ∃ r, lexAll (lexFuel inp) (Lx.init inp) = some r :=
  Option.isSome_iff_exists.mp (lexAll_terminates (lexFuel inp) (Lx.init inp) (by simp [lexFuel, Lx.init]))

theorem tokenize_some {inp : Bytes} {r : LexResult} (h : tokenize inp = some r) :
    ∃ sf, lexAll (lexFuel inp) (Lx.init inp) = some (r.toks, sf) ∧ r.insideCode = !sf.isHTML ∧ r.panicked = sf.panicked := by
  obtain ⟨p, hl, rfl⟩ := Option.map_eq_some_iff.mp h
  exact ⟨p.2, hl, rfl, rfl⟩

theorem tokenize_eq_of_lexAll {inp : Bytes} {f : Nat} {ts : List Token} {sf : Lx} (h : lexAll f (Lx.init inp) = some (ts, sf)) :
    tokenize inp = some { toks := ts, insideCode := !sf.isHTML, panicked := sf.panicked } := by
  obtain ⟨r, hr⟩ := lexAll_lexFuel inp
  unfold tokenize
  rw [hr, lexAll_fuel_irrel hr h]
  rfl

theorem tokenize_total (inp : Bytes) : (tokenize inp).isSome = true := by
  unfold tokenize
  rw [Option.isSome_map]
  exact Option.isSome_iff_exists.mpr (lexAll_lexFuel inp)

end Tw
