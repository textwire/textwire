/-
  TwProofs.Lemmas.GenItems — templates as text runs and pieces of code, generically: a piece of
  code is described by its source bytes, the kinds and literals of its tokens and the fact that the
  lexer, started in text mode at its first byte, reads exactly these tokens and is back in text
  mode behind it, whatever follows (`Code.OK`).  The token list of a template of such items is one
  induction; a language maps its items into `GItem` and gets its keys and its well-formedness from
  `gkeys_map`, `gitemsOK_map`.  `Block`: a `{{ … }}` block given by its lexemes.
-/
import TwProofs.Lemmas.TextVars
namespace Tw
open Lx

structure Code where
  src : Bytes
  keys : List (TT × Bytes)

def Code.Lexes (c : Code) : Prop :=
  ∀ (s : Lx) (tl : Bytes), s.rest = c.src ++ tl → s.isHTML = true → s.braces = 0 → s.parens = 0 → s.isDirective = false →
    s.prev ≠ 92 →
    ∃ toks s1, Run s toks s1 ∧ toks.map key = c.keys ∧ s1.rest = tl ∧ s1.isHTML = true ∧ s1.braces = 0 ∧ s1.parens = 0 ∧
      s1.isDirective = false ∧ s1.panicked = s.panicked ∧ s1.prev ≠ 92

structure Code.OK (c : Code) : Prop where
  stops : ∀ tl, Stops (c.src ++ tl)
  short : c.keys.length ≤ c.src.length
  lexes : c.Lexes

/-- `short` follows: the lexer takes at least a byte per token (`Run.progress`) -/
theorem Code.OK.of_run {c : Code} (stops : ∀ tl, Stops (c.src ++ tl))
    (run : ∀ (s : Lx) (tl : Bytes), s.rest = c.src ++ tl → s.isHTML = true → s.braces = 0 → s.parens = 0 → s.isDirective = false →
      s.prev ≠ 92 → ∃ toks sf, Run s toks sf ∧ toks.map key = c.keys ∧ sf.rest = tl ∧ sf.prev ≠ 92 ∧
        mode sf = (true, false, 0, 0, s.panicked)) : c.OK := by
  have lexes : c.Lexes := fun s tl hr hh hb hpa hd hpv => by
    obtain ⟨toks, sf, r, hk, r1, pv, m⟩ := run s tl hr hh hb hpa hd hpv
    obtain ⟨f1, f2, f3, f4, f5⟩ := mode_fields m
    exact ⟨toks, sf, r, hk, r1, f1, f4, f3, f2, f5, pv⟩
  refine ⟨stops, ?_, lexes⟩
  obtain ⟨ts, s1, r, hk, r1, _⟩ := lexes (Lx.init c.src) [] (by simp [Lx.init]) rfl rfl rfl rfl (init_prev _)
  have := r.progress
  rw [r1] at this
  rw [← hk, List.length_map]
  simpa [Lx.init] using this

inductive GItem where
  | text (segs : List Seg)
  | code (c : Code)

def GItem.src : GItem → Bytes
  | .text segs => segsSrc segs
  | .code c => c.src

def gsrc : List GItem → Bytes
  | [] => []
  | i :: r => i.src ++ gsrc r

def gkeys : List GItem → List (TT × Bytes)
  | [] => []
  | .text segs :: r => (.HTML, segsLit segs) :: gkeys r
  | .code c :: r => c.keys ++ gkeys r

def afterRunG (segs : List Seg) : List GItem → Prop
  | [] => True
  | .text _ :: _ => False
  | .code _ :: _ => lastOr (segsSrc segs) 0 ≠ 92

def GItemsOK : List GItem → Prop
  | [] => True
  | .text segs :: r => startsRun segs ∧ SegsOK segs (gsrc r) ∧ afterRunG segs r ∧ GItemsOK r
  | .code c :: r => c.OK ∧ GItemsOK r

theorem afterRunG_stops (segs : List Seg) (r : List GItem) (hok : GItemsOK r) (h : afterRunG segs r) :
    Stops (gsrc r) ∧ (gsrc r ≠ [] → lastOr (segsSrc segs) 0 ≠ 92) :=
  Stops.after_run (after := fun r => GItemsOK r ∧ afterRunG segs r) rfl (fun it _ h => by
    cases it with
    | text _ => exact h.2.elim
    | code c => exact ⟨h.1.1.stops _, h.2⟩) r ⟨hok, h⟩

theorem Code.OK.readsTo {c : Code} (h : c.OK) {s : Lx} {tl : Bytes} (hr : s.rest = c.src ++ tl) (hs : Ready s) (hpv : s.prev ≠ 92) :
    ReadsTo s c.keys tl := by
  obtain ⟨ts, s1, run, hk, r1, h1, b1, pa1, d1, p1, pv1⟩ := h.lexes s tl hr hs.html hs.braces hs.parens hs.dir hpv
  exact ⟨ts, s1, run, hk, r1, ⟨h1, b1, pa1, d1, p1.trans hs.pan⟩, fun _ => pv1⟩

theorem Code.OK.src_ne {c : Code} (h : c.OK) : c.src ≠ [] := fun e => by
  rcases (by simpa [e] using h.stops [0]) with h | ⟨_, h⟩ | ⟨_, h, _⟩ <;> cases h

theorem lexes_gitems : ∀ (items : List GItem), GItemsOK items → ∀ (s : Lx), s.rest = gsrc items →
    Ready s → (gsrc items ≠ [] → s.prev ≠ 92) → Lexes s (gkeys items)
  | [], _, s, hr, hs, _ => .eof hs hr
  | .text segs :: r, ⟨hstart, hsegs, hafter, hokr⟩, s, hr, hs, _ =>
    .item (hs.run hstart hsegs hr (afterRunG_stops segs r hokr hafter).1 (afterRunG_stops segs r hokr hafter).2) (lexes_gitems r hokr)
  | .code c :: r, ⟨hc, hokr⟩, s, hr, hs, hpv =>
    .item (hc.readsTo hr hs (hpv (by simp [gsrc, GItem.src, hc.src_ne]))) (lexes_gitems r hokr)

theorem tokenize_gitems (items : List GItem) (hok : GItemsOK items) :
    ∃ toks e, tokenize (gsrc items) = some { toks := toks ++ [e], insideCode := false, panicked := false } ∧
      toks.map key = gkeys items ∧ e.ty = .EOF :=
  (lexes_gitems items hok _ rfl (.init _) fun _ => init_prev _).tokenize

theorem gkeys_cons (a : GItem) (l : List GItem) : gkeys (a :: l) = gkeys [a] ++ gkeys l := by
  cases a <;> simp [gkeys]

section
variable {α : Type} (g : α → GItem)

theorem gkeys_map (ks : List α → List (TT × Bytes)) (h0 : ks [] = []) (h1 : ∀ i r, ks (i :: r) = gkeys [g i] ++ ks r) :
    ∀ items, gkeys (items.map g) = ks items
  | [] => h0.symm
  | i :: r => by rw [h1, ← gkeys_map ks h0 h1 r, List.map_cons, gkeys_cons]

theorem gitemsOK_map (ok : List α → Prop)
    (h : ∀ i r, ok (i :: r) → ok r ∧ match g i with
      | .text segs => startsRun segs ∧ SegsOK segs (gsrc (r.map g)) ∧ afterRunG segs (r.map g)
      | .code c => c.OK) :
    ∀ items, ok items → GItemsOK (items.map g)
  | [], _ => trivial
  | i :: r, hi => by
    obtain ⟨hr, hg⟩ := h i r hi
    have := gitemsOK_map ok h r hr
    rw [List.map_cons]
    cases hgi : g i with
    | text segs => rw [hgi] at hg; exact ⟨hg.1, hg.2.1, hg.2.2, this⟩
    | code c => rw [hgi] at hg; exact ⟨hg, this⟩

theorem gkeys_map_forall (P : TT → Prop) (hP : P .HTML) (items : List α) (h : ∀ i ∈ items, ∀ c, g i = .code c → ∀ x ∈ c.keys, P x.1) :
    ∀ x ∈ gkeys (items.map g), P x.1 := by
  induction items with
  | nil => intro x hx; cases hx
  | cons i r ih =>
    intro x hx
    rw [List.map_cons, gkeys_cons] at hx
    rcases List.mem_append.mp hx with hx | hx
    · cases hgi : g i with
      | text segs => rw [hgi] at hx; cases List.mem_singleton.mp hx; exact hP
      | code c => rw [hgi] at hx; exact h i List.mem_cons_self c hgi x (by simpa [gkeys] using hx)
    · exact ih (fun j hj => h j (List.mem_cons_of_mem _ hj)) x hx
end

theorem parseSource_gitems (items : List GItem) (hok : GItemsOK items) {ks : List (TT × Bytes)} (hks : gkeys items = ks)
    (hc : ∀ x ∈ ks, x.1 ≠ .ILLEGAL) (base : Nat) :
    ∃ toks e, toks.map key = ks ∧ e.ty = .EOF ∧ parseFuel (toks ++ [e]) = 4 * ks.length + 20 ∧
      ∀ stmts p1, parseProgramLoop (parseFuel (toks ++ [e])) [] ({ toks := toks ++ [e], nextId := base } : PS) = (some stmts, p1) →
        p1.errors = [] → p1.oof = false →
        parseSource (gsrc items) base =
          .ok { tok := (toks ++ [e]).headD e, stmts := stmts, useName := p1.useName, components := p1.components,
                inserts := p1.inserts, reserves := p1.reserves, nextId := p1.nextId } := by
  subst hks
  exact parseSource_keys (tokenize_gitems items hok) hc base

/-- the piece of code `c` is the block `{{ b g2 }}`: its bytes and its keys are those of the lexemes `b`, which no byte behind
    them continues, and "{{" does not open a comment -/
structure Block (dir : Bool) (c : Code) (b : List (Bytes × Lexeme)) (g2 : Bytes) : Prop where
  src : ∀ tl, c.src ++ tl = 123 :: 123 :: lexemesSrc b (g2 ++ 125 :: 125 :: tl)
  keys : c.keys = blockKeys b
  gap : allWs g2
  first : ∀ ty r, b ≠ ([], .sym 45 ty) :: r
  first' : ∀ ty pr h r, b ≠ ([], .op 45 ty pr h) :: r := by exact fun _ _ _ _ h => by cases h
  lexemes : ∀ tl, LexemesOK dir (g2 ++ 125 :: 125 :: tl) b

theorem Block.lex {dir : Bool} {c : Code} {b : List (Bytes × Lexeme)} {g2 : Bytes} (h : Block dir c b g2) {s : Lx} {tl : Bytes}
    (hd : s.isDirective = dir) (hh : s.isHTML = true) (hb : s.braces = 0) (hr : s.rest = c.src ++ tl) :
    ∃ toks sf, Run s toks sf ∧ toks.map key = c.keys ∧ sf.rest = tl ∧ sf.prev = 125 ∧ mode sf = (true, dir, s.parens, 0, s.panicked) := by
  subst hd
  obtain ⟨toks, sf, run, hk, r⟩ := lex_block s b g2 tl hh hb h.gap (by rw [hr, h.src]) h.first (h.lexemes tl) h.first'
  exact ⟨toks, sf, run, by rw [hk, h.keys], r⟩

theorem Block.ok {c : Code} {b : List (Bytes × Lexeme)} {g2 : Bytes} (h : Block false c b g2) : c.OK := by
  refine .of_run (fun tl => Or.inr (Or.inl ⟨_, h.src tl⟩)) fun s tl hr hh hb hpa hd _ => ?_
  obtain ⟨toks, sf, run, hk, r, pv, m⟩ := h.lex hd hh hb hr
  exact ⟨toks, sf, run, hk, r, by rw [pv]; decide, by rw [m, hpa]⟩

end Tw
