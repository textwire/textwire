/-
  TwProofs.Lemmas.PrattRoundTrip — what the Pratt round trip is stated in: the fragment `BE` of the expression
  language with its printer ("identifiers, prefix - and !, binary operators, the ternary, parentheses"; its round
  trip is in PrattFragment), and "parses to" with enough fuel: `RParses` is the relation `ParsesAt` of ParseRel with
  the fuel bound under ∃ (`RLoops` likewise for `LoopsAt`; the round trips do not use it).  The round trip itself
  is proved over the graded relations (two units of fuel for every token); its statements in this form forget the
  bound (C01).
-/
import TwProofs.Lemmas.ParseRel

namespace Tw

inductive BE where
  | ident (t : Token)
  | pre (op : Token) (r : BE)
  | bin (op : Token) (l r : BE)
  | tern (q c : Token) (cnd a b : BE)

def BE.ok : BE → Prop
  | .ident t => t.ty = .IDENT
  | .pre op r => (op.ty = .SUB ∨ op.ty = .NOT) ∧ r.ok
  | .bin op l r => isBinaryOp op.ty = true ∧ l.ok ∧ r.ok
  | .tern q c cnd a b => q.ty = .QUESTION ∧ c.ty = .COLON ∧ cnd.ok ∧ a.ok ∧ b.ok

def BE.toExpr : BE → Expr
  | .ident t => .ident t t.lit
  | .pre op r => .pre op op.lit r.toExpr
  | .bin op l r => .inf op op.lit l.toExpr r.toExpr
  | .tern q _ cnd a b => .tern q cnd.toExpr a.toExpr b.toExpr

def opPrec (op : Token) : Nat := precedence op.ty

/-- may `e` stand without parentheses where level `m` is required -/
def BE.tight (m : Nat) : BE → Bool
  | .ident _ => true
  | .pre _ _ => m ≤ PREFIX
  | .bin op _ _ => m ≤ opPrec op
  | .tern _ _ _ _ _ => m ≤ TERNARY

/-- the printer: parentheses where the precedence order requires them, and wherever `extra`
    asks for a redundant pair -/
def showAt (lp rp : Token) (extra : BE → Bool) (m : Nat) : BE → List Token
  | .ident t => if extra (.ident t) then [lp, t, rp] else [t]
  | .pre op r =>
    if m ≤ PREFIX && !extra (.pre op r) then [op] ++ showAt lp rp extra (PREFIX + 1) r
    else [lp] ++ ([op] ++ showAt lp rp extra (PREFIX + 1) r) ++ [rp]
  | .bin op l r =>
    if m ≤ opPrec op && !extra (.bin op l r) then
      showAt lp rp extra (opPrec op) l ++ [op] ++ showAt lp rp extra (opPrec op + 1) r
    else [lp] ++ (showAt lp rp extra (opPrec op) l ++ [op] ++ showAt lp rp extra (opPrec op + 1) r) ++ [rp]
  | .tern q c cnd a b =>
    if m ≤ TERNARY && !extra (.tern q c cnd a b) then
      showAt lp rp extra (TERNARY + 1) cnd ++ [q] ++ showAt lp rp extra (TERNARY + 1) a ++ [c] ++ showAt lp rp extra (LOWEST + 1) b
    else [lp] ++ (showAt lp rp extra (TERNARY + 1) cnd ++ [q] ++ showAt lp rp extra (TERNARY + 1) a ++ [c] ++
      showAt lp rp extra (LOWEST + 1) b) ++ [rp]

def BE.body (lp rp : Token) (extra : BE → Bool) : BE → List Token
  | .ident t => [t]
  | .pre op r => [op] ++ showAt lp rp extra (PREFIX + 1) r
  | .bin op l r => showAt lp rp extra (opPrec op) l ++ [op] ++ showAt lp rp extra (opPrec op + 1) r
  | .tern q c cnd a b =>
    showAt lp rp extra (TERNARY + 1) cnd ++ [q] ++ showAt lp rp extra (TERNARY + 1) a ++ [c] ++ showAt lp rp extra (LOWEST + 1) b

def RParses (prec : Nat) (ts : List Token) (ex : Expr) (ts' : List Token) : Prop :=
  ∃ N, ∀ f, N ≤ f → ∀ p : PS, parseExpression f prec (p.withToks ts) = (ex, p.withToks ts')

def RLoops (prec : Nat) (left : Expr) (ts : List Token) (ex : Expr) (ts' : List Token) : Prop :=
  ∃ N, ∀ f, N ≤ f → ∀ p : PS, prattLoop f prec left (p.withToks ts) = (ex, p.withToks ts')

theorem RParses.fst_eq {prec : Nat} {ts1 ts2 r1 r2 : List Token} {ex : Expr} (h1 : RParses prec ts1 ex r1)
    (h2 : RParses prec ts2 ex r2) :
    ∃ N, ∀ f, N ≤ f → ∀ p : PS,
      (parseExpression f prec (p.withToks ts1)).1 = (parseExpression f prec (p.withToks ts2)).1 := by
  obtain ⟨N1, h1⟩ := h1
  obtain ⟨N2, h2⟩ := h2
  exact ⟨max N1 N2, fun f hf p => by rw [h1 f (by omega) p, h2 f (by omega) p]⟩

theorem RParses.unique {prec : Nat} {ts r1 r2 : List Token} {ex1 ex2 : Expr} (h1 : RParses prec ts ex1 r1)
    (h2 : RParses prec ts ex2 r2) : ex1 = ex2 := by
  obtain ⟨N1, h1⟩ := h1
  obtain ⟨N2, h2⟩ := h2
  have a := h1 (max N1 N2) (by omega) default
  rw [h2 (max N1 N2) (by omega) default] at a
  exact (Prod.mk.inj a).1.symm

theorem loops_stop {prec : Nat} {l : Expr} {x : Token} {k : List Token} (h : StopR prec k) :
    RLoops prec l (x :: k) l (x :: k) :=
  ⟨1, LoopsAt.stop h⟩

theorem parses_paren {prec : Nat} {lp rp x : Token} {rest k : List Token} {e ex : Expr} {ts' : List Token}
    (hlp : lp.ty = .LPAREN) (hrp : rp.ty = .RPAREN) (hrest : NoIll rest.tail) (hk : NoIll k)
    (hin : RParses LOWEST rest e (x :: rp :: k)) (h : RLoops prec e (rp :: k) ex ts') (hne : rest ≠ []) :
    RParses prec (lp :: rest) ex ts' :=
  let ⟨_, h1⟩ := hin; let ⟨_, h2⟩ := h; ⟨_, ParsesAt.paren hlp hrp hrest hk h1 h2⟩

theorem loops_op {prec : Nat} {l r : Expr} {x op : Token} {rest : List Token} {ts' : List Token} {ex : Expr} {ts'' : List Token}
    (hop : isBinaryOp op.ty = true) (hlt : prec < precedence op.ty) (hrest : NoIll rest) (hne : rest ≠ [])
    (hnb : ∀ t, rest.head? = some t → t.ty ≠ .RBRACES)
    (hr : RParses (precedence op.ty) rest r ts') (h : RLoops prec (.inf op op.lit l r) ts' ex ts'') :
    RLoops prec l (x :: op :: rest) ex ts'' :=
  let ⟨_, h1⟩ := hr; let ⟨_, h2⟩ := h; ⟨_, LoopsAt.op hop hlt hrest h1 h2⟩

def lastTok (ts : List Token) : Token := ts.getLastD eofTok

theorem lastTok_append (a c : List Token) (h : c ≠ []) : lastTok (a ++ c) = lastTok c := by
  unfold lastTok
  rw [List.getLastD_eq_getLast?, List.getLastD_eq_getLast?, List.getLast?_append, List.getLast?_eq_some_getLast h]
  rfl
theorem lastTok_cons (x : Token) (c : List Token) (h : c ≠ []) : lastTok (x :: c) = lastTok c :=
  lastTok_append [x] c h
theorem lastTok_append_cons (a : List Token) (x : Token) {c : List Token} (h : c ≠ []) : lastTok (a ++ x :: c) = lastTok c :=
  (lastTok_append a _ (List.cons_ne_nil x c)).trans (lastTok_cons x c h)
theorem lastTok_append_singleton (a : List Token) (x : Token) : lastTok (a ++ [x]) = x :=
  lastTok_append a [x] (List.cons_ne_nil x [])
theorem lastTok_cons_append_singleton (x : Token) (a : List Token) (y : Token) : lastTok (x :: (a ++ [y])) = y :=
  lastTok_append_singleton (x :: a) y

theorem binop_not_ill {op : Token} (h : isBinaryOp op.ty = true) : op.ty ≠ .ILLEGAL := by
  intro he; rw [he] at h; simp [isBinaryOp] at h

/-- the binary operators lie between `EQL` = 3 and `PRODUCT` = 6 -/
theorem binop_prec {op : Token} (h : isBinaryOp op.ty = true) : 3 ≤ opPrec op ∧ opPrec op ≤ 6 := by
  unfold opPrec
  cases hty : op.ty <;> rw [hty] at h <;> simp [isBinaryOp] at h <;> decide

/-- the tokens carry their canonical literals (what the lexer produces for these types) -/
def BE.canon : BE → Prop
  | .ident _ => True
  | .pre op r => (op.ty = .SUB → op.lit = b "-") ∧ (op.ty = .NOT → op.lit = b "!") ∧ r.canon
  | .bin _ l r => l.canon ∧ r.canon
  | .tern _ _ cnd a bb => cnd.canon ∧ a.canon ∧ bb.canon

end Tw
