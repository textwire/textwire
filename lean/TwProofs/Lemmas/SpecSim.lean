/-
  TwProofs.Lemmas.SpecSim — the model's evaluator against the token-free semantics `TwSpec.seval` (C01).  `Expr.toS` forgets
  the tokens, `Agrees r o` sets a result of the model against an optional value, and `eval_sim` is
  `Agrees (evalExpr fuel c env e) (seval env e.toS)` for the trees with `Expr.wf e`, by induction over the fuel: a case takes
  the `Res.bind` form of the node (EvalStep) and the `Option.bind` form of `seval` (`seval_neg` …), joins them with
  `Agrees.bind` and ends in an operator helper (`infixOp_agrees` …).  An object literal is sorted before its pairs are
  evaluated in the model and after in `seval`: sorting commutes with `sevalPairs` and `toSPairs`.
-/
import TwSpec.ExprSem
import TwProofs.Lemmas.EvalStep
import TwProofs.Lemmas.Sort
namespace Tw
open TwSpec

/-- `.oof` and `.panic` agree with everything: `Agrees` speaks of the runs that end in a value or an error.  No `.panic` on a tree
    without `bad` nodes is `np_closed` (EvalWalk; C09 `expr_no_panic`).  `.oof` is excluded nowhere; `stable_closed`
    (EvalWalk; `evalExpr_mono`) says that a result other than `.oof` is the result at every larger fuel. -/
def Agrees {α} (r : Res α) (o : Option α) : Prop :=
  match r with
  | .ok v => o = some v
  | .err _ _ _ => o = none
  | .oof => True
  | .panic _ => True

theorem intInfix_agrees (op : Bytes) (a c : Int64) (line : Nat) : Agrees (intInfix op a c line) (intOp op a c) := by
  unfold intInfix intOp Agrees
  by_cases h1 : op = b "+"; · subst h1; simp (config := { decide := true })
  by_cases h2 : op = b "-"; · subst h2; simp (config := { decide := true })
  by_cases h3 : op = b "*"; · subst h3; simp (config := { decide := true })
  by_cases h4 : op = b "/"
  · subst h4; by_cases hz : c = 0 <;> simp (config := { decide := true }) [hz]
  by_cases h5 : op = b "%"
  · subst h5; by_cases hz : c = 0 <;> simp (config := { decide := true }) [hz]
  by_cases h6 : op = b "=="; · subst h6; simp (config := { decide := true }) [boolV]
  by_cases h7 : op = b "!="; · subst h7; simp (config := { decide := true }) [boolV]
  by_cases h8 : op = b ">"; · subst h8; simp (config := { decide := true }) [boolV]
  by_cases h9 : op = b "<"; · subst h9; simp (config := { decide := true }) [boolV]
  by_cases h10 : op = b ">="; · subst h10; simp (config := { decide := true }) [boolV]
  by_cases h11 : op = b "<="; · subst h11; simp (config := { decide := true }) [boolV]
  simp [h1, h2, h3, h4, h5, h6, h7, h8, h9, h10, h11]

theorem floatInfix_agrees (op : Bytes) (a c : Float) (line : Nat) : Agrees (floatInfix op a c line) (floatOp op a c) := by
  unfold floatInfix floatOp Agrees
  by_cases h1 : op = b "+"; · subst h1; simp (config := { decide := true })
  by_cases h2 : op = b "-"; · subst h2; simp (config := { decide := true })
  by_cases h3 : op = b "*"; · subst h3; simp (config := { decide := true })
  by_cases h4 : op = b "/"; · subst h4; simp (config := { decide := true })
  by_cases h6 : op = b "=="; · subst h6; simp (config := { decide := true }) [boolV]
  by_cases h7 : op = b "!="; · subst h7; simp (config := { decide := true }) [boolV]
  by_cases h8 : op = b ">"; · subst h8; simp (config := { decide := true }) [boolV]
  by_cases h9 : op = b "<"; · subst h9; simp (config := { decide := true }) [boolV]
  by_cases h10 : op = b ">="; · subst h10; simp (config := { decide := true }) [boolV]
  by_cases h11 : op = b "<="; · subst h11; simp (config := { decide := true }) [boolV]
  simp [h1, h2, h3, h4, h6, h7, h8, h9, h10, h11]

theorem strInfix_agrees (op : Bytes) (a c : Bytes) (line : Nat) : Agrees (strInfix op a c line) (strOp op a c) := by
  unfold strInfix strOp Agrees
  by_cases h1 : op = b "=="; · subst h1; simp (config := { decide := true }) [boolV]
  by_cases h2 : op = b "!="; · subst h2; simp (config := { decide := true }) [boolV]
  by_cases h3 : op = b "+"; · subst h3; simp (config := { decide := true })
  simp [h1, h2, h3]

theorem infixOp_agrees (op : Bytes) (l r : Val) (line : Nat) : Agrees (infixOp op l r line) (binOp op l r) := by
  unfold infixOp
  split
  · rename_i hty
    show binOp op l r = none
    cases l <;> cases r <;> first | rfl | cases hty
  · cases l <;> cases r <;>
      first
        | rfl
        | exact intInfix_agrees _ _ _ _
        | exact floatInfix_agrees _ _ _ _
        | exact strInfix_agrees _ _ _ _

theorem prefixOp_neg_agrees (r : Val) (line : Nat) :
    Agrees (prefixOp (b "-") r line) (match r with | .int v => some (.int (-v)) | .float v => some (.float (-v)) | _ => none) := by
  unfold prefixOp Agrees
  cases r <;> simp (config := { decide := true })

theorem prefixOp_not_agrees (r : Val) (line : Nat) :
    Agrees (prefixOp (b "!") r line) (match r with | .bool v => some (.bool (!v)) | .nil => some (.bool true) | _ => none) := by
  unfold prefixOp Agrees
  cases r <;> simp (config := { decide := true })

theorem postfixOp_inc_agrees (l : Val) (line : Nat) :
    Agrees (postfixOp (b "++") l line)
      (match l with | .int v => some (.int (v + 1)) | .float v => some (.float (v + 1.0)) | _ => none) := by
  unfold postfixOp Agrees
  cases l <;> simp (config := { decide := true })

theorem postfixOp_dec_agrees (l : Val) (line : Nat) :
    Agrees (postfixOp (b "--") l line)
      (match l with | .int v => some (.int (v - 1)) | .float v => some (.float (floatDec v)) | _ => none) := by
  unfold postfixOp Agrees
  cases l <;> simp (config := { decide := true })

theorem objIndex_agrees (kvs : List (Bytes × Val)) (k : Bytes) (line : Nat) : Agrees (objIndex kvs k line) (getProp kvs k) := by
  unfold objIndex getProp
  cases mapGet kvs k with
  | some v => simp [Agrees]
  | none =>
    simp only []
    by_cases hk : k.isEmpty = true
    · simp [hk, Agrees]
    · simp only [hk, Bool.false_eq_true, if_false]
      cases mapGet kvs (toUpper (List.take 1 k) ++ List.drop 1 k) <;> simp [Agrees]

mutual
def Expr.toS : Expr → SExpr
  | .bad => .nil
  | .ident _ n => .var n
  | .int _ v => .int v
  | .float _ v => .float v
  | .str _ v => .str v
  | .nil _ => .nil
  | .bool _ v => .bool v
  | .arr _ es => .arr (Expr.toSList es)
  | .obj _ ps => .obj (Expr.toSPairs ps)
  | .pre _ op r => if op == b "-" then .neg r.toS else .not r.toS
  | .inf _ op l r => .bin op l.toS r.toS
  | .post _ op l => if op == b "++" then .inc l.toS else .dec l.toS
  | .tern _ c a bb => .tern c.toS a.toS bb.toS
  | .index _ l i => .idx l.toS i.toS
  | .dot _ l k => .dot l.toS k
  | .call _ r fn args => .call r.toS fn (Expr.toSList args)
def Expr.toSList : List Expr → List SExpr
  | [] => []
  | e :: r => e.toS :: Expr.toSList r
def Expr.toSPairs : List (Bytes × Expr) → List (Bytes × SExpr)
  | [] => []
  | (k, e) :: r => (k, e.toS) :: Expr.toSPairs r
end

mutual
/-- what `eval_sim` asks of a tree; the trees of the round trip have it (`full_wf`, PrattFullEval).  No `bad` node: `toS`
    has no image for it (it sends it to `.nil`) and the evaluator panics there.  The operator of a prefix node is "-" or
    "!", of a postfix node "++" or "--": `toS` tells the two apart by one comparison, and on any other operator the
    evaluator answers `ErrUnknownOperator`.  The keys of an object literal are distinct: `seval` drops duplicate keys, the
    evaluator does not (a parsed tree has none: `parseObjLoop` enters the pairs by `mapSet`). -/
def Expr.wf : Expr → Prop
  | .bad => False
  | .ident _ _ | .int _ _ | .float _ _ | .str _ _ | .nil _ | .bool _ _ => True
  | .arr _ es => Expr.wfList es
  | .obj _ ps => Expr.wfPairs ps ∧ KeysDistinct ps
  | .pre _ op r => (op = b "-" ∨ op = b "!") ∧ r.wf
  | .inf _ _ l r => l.wf ∧ r.wf
  | .post _ op l => (op = b "++" ∨ op = b "--") ∧ l.wf
  | .tern _ c a bb => c.wf ∧ a.wf ∧ bb.wf
  | .index _ l i => l.wf ∧ i.wf
  | .dot _ l _ => l.wf
  | .call _ r _ args => r.wf ∧ Expr.wfList args
def Expr.wfList : List Expr → Prop
  | [] => True
  | e :: r => e.wf ∧ Expr.wfList r
def Expr.wfPairs : List (Bytes × Expr) → Prop
  | [] => True
  | (_, e) :: r => e.wf ∧ Expr.wfPairs r
end

theorem sevalList_cons (env : Env) (e : SExpr) (r : List SExpr) :
    sevalList env (e :: r) = (seval env e).bind fun v => (sevalList env r).map (v :: ·) := by
  rw [sevalList]
  cases seval env e <;> rfl

theorem sevalPairs_cons (env : Env) (k : Bytes) (e : SExpr) (r : List (Bytes × SExpr)) :
    sevalPairs env ((k, e) :: r) = (seval env e).bind fun v => (sevalPairs env r).map ((k, v) :: ·) := by
  rw [sevalPairs]
  cases seval env e <;> rfl

theorem sevalPairs_insert (env : Env) (k : Bytes) (e : SExpr) (l : List (Bytes × SExpr)) :
    sevalPairs env (insertByKey (k, e) l) =
      match seval env e, sevalPairs env l with
      | some v, some vs => some (insertByKey (k, v) vs)
      | _, _ => none := by
  induction l with
  | nil =>
    simp only [insertByKey, sevalPairs_cons]
    cases seval env e <;> simp [sevalPairs, insertByKey]
  | cons x r ih =>
    obtain ⟨k2, e2⟩ := x
    simp only [insertByKey]
    split
    · simp only [sevalPairs_cons]
      cases seval env e with
      | none => simp
      | some v =>
        cases seval env e2 with
        | none => simp
        | some v2 =>
          cases sevalPairs env r with
          | none => simp
          | some vs => simp [insertByKey, *]
    · rename_i hlt
      simp only [sevalPairs_cons, ih]
      cases seval env e2 with
      | none => cases seval env e <;> simp
      | some v2 =>
        cases seval env e with
        | none => simp
        | some v =>
          cases sevalPairs env r with
          | none => simp
          | some vs => simp [insertByKey, hlt]

theorem sevalPairs_sort (env : Env) (l : List (Bytes × SExpr)) :
    sevalPairs env (sortByKey l) = (sevalPairs env l).map sortByKey := by
  induction l with
  | nil => simp [sortByKey, sevalPairs]
  | cons x r ih =>
    obtain ⟨k, e⟩ := x
    rw [sortByKey_cons, sevalPairs_insert, ih, sevalPairs_cons]
    cases seval env e with
    | none => simp
    | some v =>
      cases sevalPairs env r with
      | none => simp
      | some vs => simp [sortByKey]

theorem toSPairs_insert (k : Bytes) (e : Expr) (l : List (Bytes × Expr)) :
    Expr.toSPairs (insertByKey (k, e) l) = insertByKey (k, e.toS) (Expr.toSPairs l) := by
  induction l with
  | nil => simp [insertByKey, Expr.toSPairs]
  | cons x r ih =>
    obtain ⟨k2, e2⟩ := x
    simp only [insertByKey, Expr.toSPairs]
    split <;> simp [Expr.toSPairs, ih]

theorem toSPairs_sort (l : List (Bytes × Expr)) : Expr.toSPairs (sortByKey l) = sortByKey (Expr.toSPairs l) := by
  induction l with
  | nil => simp [sortByKey, Expr.toSPairs]
  | cons x r ih =>
    obtain ⟨k, e⟩ := x
    rw [sortByKey_cons, toSPairs_insert, ih, Expr.toSPairs, sortByKey_cons]

theorem sevalPairs_keys (env : Env) : ∀ (l : List (Bytes × Expr)) (vs : List (Bytes × Val)),
    sevalPairs env (Expr.toSPairs l) = some vs → vs.map Prod.fst = l.map Prod.fst
  | [], vs, h => by simp [Expr.toSPairs, sevalPairs] at h; simp [← h]
  | (k, e) :: r, vs, h => by
    simp only [Expr.toSPairs, sevalPairs_cons] at h
    cases hv : seval env e.toS with
    | none => simp [hv] at h
    | some v =>
      cases hr : sevalPairs env (Expr.toSPairs r) with
      | none => simp [hv, hr] at h
      | some vr =>
        simp [hv, hr] at h
        rw [← h]
        simp [sevalPairs_keys env r vr hr]

theorem Expr.wfPairs_iff (ps : List (Bytes × Expr)) : Expr.wfPairs ps ↔ ∀ p ∈ ps, p.2.wf := by
  induction ps with
  | nil => simp [Expr.wfPairs]
  | cons x r ih => obtain ⟨k, e⟩ := x; simp [Expr.wfPairs, ih]

theorem Expr.wfPairs_sort {ps : List (Bytes × Expr)} (h : Expr.wfPairs ps) : Expr.wfPairs (sortByKey ps) :=
  (Expr.wfPairs_iff _).mpr fun p hp => (Expr.wfPairs_iff ps).mp h p ((sortByKey_perm ps).subset hp)

/-! The specification propagates "no value" by a `match` on the operand's value; each equation shows that match as
    `Option.bind`, the form `Agrees.bind` sets against the `Res.bind` of EvalStep. -/

theorem seval_neg (env : Env) (e : SExpr) : seval env (.neg e) =
    (seval env e).bind fun v => match v with | .int v => some (.int (-v)) | .float v => some (.float (-v)) | _ => none := by
  rw [seval]
  cases seval env e with
  | none => rfl
  | some v => cases v <;> rfl

theorem seval_not (env : Env) (e : SExpr) : seval env (.not e) =
    (seval env e).bind fun v => match v with | .bool v => some (.bool (!v)) | .nil => some (.bool true) | _ => none := by
  rw [seval]
  cases seval env e with
  | none => rfl
  | some v => cases v <;> rfl

theorem seval_inc (env : Env) (e : SExpr) : seval env (.inc e) =
    (seval env e).bind fun v => match v with | .int v => some (.int (v + 1)) | .float v => some (.float (v + 1.0)) | _ => none := by
  rw [seval]
  cases seval env e with
  | none => rfl
  | some v => cases v <;> rfl

theorem seval_dec (env : Env) (e : SExpr) : seval env (.dec e) =
    (seval env e).bind fun v => match v with | .int v => some (.int (v - 1)) | .float v => some (.float (floatDec v)) | _ => none := by
  rw [seval]
  cases seval env e with
  | none => rfl
  | some v => cases v <;> rfl

theorem seval_bin (env : Env) (op : Bytes) (l r : SExpr) : seval env (.bin op l r) =
    (seval env l).bind fun lv => (seval env r).bind fun rv => binOp op lv rv := by
  rw [seval]
  cases seval env l with
  | none => rfl
  | some lv => cases seval env r <;> rfl

theorem seval_tern (env : Env) (c a bb : SExpr) : seval env (.tern c a bb) =
    (seval env c).bind fun cv => if isTruthy cv then seval env a else seval env bb := by
  rw [seval]
  cases seval env c <;> rfl

theorem seval_idx (env : Env) (l i : SExpr) : seval env (.idx l i) =
    (seval env l).bind fun lv => (seval env i).bind fun iv =>
      match lv, iv with
      | .arr xs, .int n => some (if n < 0 || n.toInt ≥ xs.length then .nil else xs.getD n.toInt.toNat .nil)
      | .obj kvs, .str k => getProp kvs k
      | _, _ => none := by
  rw [seval]
  cases seval env l with
  | none => rfl
  | some lv =>
    cases seval env i with
    | none => cases lv <;> rfl
    | some iv => cases lv <;> cases iv <;> rfl

theorem seval_dot (env : Env) (l : SExpr) (k : Bytes) : seval env (.dot l k) =
    (seval env l).bind fun lv => match lv with | .obj kvs => getProp kvs k | _ => none := by
  rw [seval]
  cases seval env l with
  | none => rfl
  | some lv => cases lv <;> rfl

theorem seval_call (env : Env) (recv : SExpr) (fn : Bytes) (args : List SExpr) : seval env (.call recv fn args) =
    (seval env recv).bind fun rv =>
      if !hasBuiltinTable rv.type then none
      else (sevalList env args).bind fun avs => match callBuiltin rv fn avs with | some (.ok v) => some v | _ => none := by
  rw [seval]
  cases seval env recv with
  | none => rfl
  | some rv =>
    dsimp only [Option.bind]
    split
    · rfl
    · cases sevalList env args <;> rfl

theorem Agrees.oof' {α} (o : Option α) : Agrees (Res.oof : Res α) o := trivial

theorem Agrees.bind {α β} {r : Res α} {o : Option α} {f : α → Res β} {g : α → Option β} (h : Agrees r o)
    (hv : ∀ v, Agrees (f v) (g v)) : Agrees (r.bind f) (o.bind g) := by
  cases r with
  | ok v => rw [show o = some v from h]; exact hv v
  | err a l as => rw [show o = none from h]; rfl
  | panic w => trivial
  | oof => trivial

theorem Agrees.map {α β} {r : Res α} {o : Option α} {g : α → β} (h : Agrees r o) :
    Agrees (r.bind fun a => .ok (g a)) (o.map g) := by
  rw [Option.map_eq_bind]
  exact h.bind fun _ => rfl

/-- C01 `eval_is_denotation` with its two companions for expression lists and object-literal pairs; nothing is said of a
    run that ends in `.oof` or `.panic` (see `Agrees`).  `c.custom = []`: `seval` knows no registered functions. -/
theorem eval_sim : ∀ fuel : Nat,
    (∀ c env e, c.custom = [] → Expr.wf e → Agrees (evalExpr fuel c env e) (seval env e.toS)) ∧
    (∀ c env es, c.custom = [] → Expr.wfList es → Agrees (evalExprs fuel c env es) (sevalList env (Expr.toSList es))) ∧
    (∀ c env ps, c.custom = [] → Expr.wfPairs ps → Agrees (evalPairs fuel c env ps) (sevalPairs env (Expr.toSPairs ps))) := by
  intro fuel
  induction fuel with
  | zero => exact ⟨fun _ _ _ _ _ => .oof' _, fun _ _ _ _ _ => .oof' _, fun _ _ _ _ _ => .oof' _⟩
  | succ n ih =>
    obtain ⟨ihE, ihL, ihP⟩ := ih
    refine ⟨?_, ?_, ?_⟩
    · intro c env e hc hw
      cases e with
      | bad => cases hw
      | ident t name =>
        rw [evalExpr_ident]
        simp only [Expr.toS, seval]
        cases env.get name <;> rfl
      | arr t es =>
        rw [evalExpr_arr]
        simp only [Expr.toS, seval]
        exact (ihL c env es hc hw).map
      | obj t ps =>
        obtain ⟨hwp, hkd⟩ := hw
        have h1 := ihP c env (sortByKey ps) hc (Expr.wfPairs_sort hwp)
        rw [toSPairs_sort, sevalPairs_sort] at h1
        rw [evalExpr_obj]
        simp only [Expr.toS, seval]
        cases hs : sevalPairs env (Expr.toSPairs ps) with
        | none =>
          rw [hs] at h1
          exact h1.map (g := Val.obj)
        | some vs =>
          -- the keys are distinct, so the specification's removal of duplicates changes nothing
          have : vs.foldl (fun m kv => mapSet m kv.1 kv.2) [] = [] ++ vs :=
            mapSetAll_fresh vs [] (keysDistinct_of_keys ps vs (sevalPairs_keys env ps vs hs) hkd) (fun _ _ a ha => nomatch ha)
          rw [hs] at h1
          simp only [Option.map_some, this, List.nil_append]
          exact h1.map (g := Val.obj)
      | pre t op r =>
        obtain ⟨hop, hr⟩ := hw
        rw [evalExpr_pre]
        rcases hop with rfl | rfl
        · simp only [Expr.toS, beq_self_eq_true, if_true, seval_neg]
          exact (ihE c env r hc hr).bind fun v => prefixOp_neg_agrees v _
        · have hne : (b "!" == b "-") = false := by decide
          simp only [Expr.toS, hne, Bool.false_eq_true, if_false, seval_not]
          exact (ihE c env r hc hr).bind fun v => prefixOp_not_agrees v _
      | post t op l =>
        obtain ⟨hop, hl⟩ := hw
        rw [evalExpr_post]
        rcases hop with rfl | rfl
        · simp only [Expr.toS, beq_self_eq_true, if_true, seval_inc]
          exact (ihE c env l hc hl).bind fun v => postfixOp_inc_agrees v _
        · have hne : (b "--" == b "++") = false := by decide
          simp only [Expr.toS, hne, Bool.false_eq_true, if_false, seval_dec]
          exact (ihE c env l hc hl).bind fun v => postfixOp_dec_agrees v _
      | inf t op l r =>
        rw [evalExpr_inf]
        simp only [Expr.toS, seval_bin]
        exact (ihE c env l hc hw.1).bind fun lv => (ihE c env r hc hw.2).bind fun rv => infixOp_agrees op lv rv _
      | tern t cnd a bb =>
        rw [evalExpr_tern]
        simp only [Expr.toS, seval_tern]
        refine (ihE c env cnd hc hw.1).bind fun v => ?_
        split
        · exact ihE c env a hc hw.2.1
        · exact ihE c env bb hc hw.2.2
      | index t l i =>
        rw [evalExpr_index]
        simp only [Expr.toS, seval_idx]
        refine (ihE c env l hc hw.1).bind fun lv => (ihE c env i hc hw.2).bind fun iv => ?_
        cases lv with
        | arr xs => cases iv <;> simp [Agrees, arrIndex]
        | obj kvs => cases iv <;> first | exact objIndex_agrees kvs _ _ | rfl
        | _ => rfl
      | dot t l key =>
        rw [evalExpr_dot]
        simp only [Expr.toS, seval_dot]
        exact (ihE c env l hc hw).bind fun lv => by cases lv <;> first | exact objIndex_agrees _ key _ | rfl
      | call t recv fn args =>
        rw [evalExpr_call]
        simp only [Expr.toS, seval_call]
        refine (ihE c env recv hc hw.1).bind fun rv => ?_
        split
        · rfl
        · refine (ihL c env args hc hw.2).bind fun avs => ?_
          cases hcb : callBuiltin rv fn avs with
          | none =>
            have : lookupCustom c rv.type fn = none := by simp [lookupCustom, hc]
            simp [this, Agrees]
          | some res => cases res <;> rfl
      | _ => rfl
    · intro c env es hc hw
      cases es with
      | nil => exact rfl
      | cons e r =>
        rw [evalExprs_cons]
        simp only [Expr.toSList, sevalList_cons]
        exact (ihE c env e hc hw.1).bind fun v => (ihL c env r hc hw.2).map
    · intro c env ps hc hw
      cases ps with
      | nil => exact rfl
      | cons p r =>
        obtain ⟨k, e⟩ := p
        rw [evalPairs_cons]
        simp only [Expr.toSPairs, sevalPairs_cons]
        exact (ihE c env e hc hw.1).bind fun v => (ihP c env r hc hw.2).map

end Tw
