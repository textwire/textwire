/-
  TwProofs.Lemmas.TextEach — templates of text, `{{ name }}` blocks and
  `@each(x in xs) body @end` loops whose body is text and `{{ name }}` blocks, from the source
  bytes to the rendered output (`xitems_render`, C03): the body once per element of the array, in order
  (`passTexts`), from the environment of the pass.
-/
import TwProofs.Lemmas.TextIf
import TwProofs.Lemmas.EachSimple
namespace Tw
open Lx

def kwEach : Bytes := [64, 101, 97, 99, 104]
def kwIn : Bytes := [105, 110]

theorem dirKw_each : DirKw kwEach .EACH :=
  .of_lookup (by rw [lookupDirective_bytes]; decide) (by decide) (by simp only [lookupDirective_bytes]; decide) (by decide)

theorem isKw_each : IsKw kwEach .EACH := dirKw_each.isKw

/-- `g2`, `g3` are not empty: without white space `in` would be read into a name. -/
theorem lex_each_header (s : Lx) (g1 x g2 g3 xs g4 tl : Bytes) (hh : s.isHTML = true) (hprev : s.prev ≠ 92) (hp0 : s.parens = 0)
    (hg1 : allWs g1) (hg2 : allWs g2) (hg2n : g2 ≠ []) (hg3 : allWs g3) (hg3n : g3 ≠ []) (hg4 : allWs g4)
    (hx : isName x) (hxs : isName xs)
    (hr : s.rest = kwEach ++ ([40] ++ (g1 ++ (x ++ (g2 ++ (kwIn ++ (g3 ++ (xs ++ (g4 ++ (41 :: tl)))))))))) :
    ∃ t1 t2 t3 t4 t5 t6 s6, Run s [t1, t2, t3, t4, t5, t6] s6 ∧ key t1 = (.EACH, kwEach) ∧ key t2 = (.LPAREN, [40]) ∧
      key t3 = (.IDENT, x) ∧ key t4 = (.IN, kwIn) ∧ key t5 = (.IDENT, xs) ∧ key t6 = (.RPAREN, [41]) ∧
      s6.rest = tl ∧ s6.prev = 41 ∧ mode s6 = (true, false, 0, s.braces, s.panicked) := by
  obtain ⟨toks, s6, run, hkeys, h⟩ := lex_dir_args kwEach .EACH dirKw_each s [(g1, .word x), (g2, .word kwIn), (g3, .word xs)] g4 tl
    hh hprev hp0 hg4 hr
    ⟨hg1, Lexeme.word_ok (isName_word hx) hg2 (fun e => absurd e hg2n), hg2, Lexeme.word_ok (by decide) hg3 (fun e => absurd e hg3n), hg3,
      Lexeme.word_ok (isName_word hxs) hg4 (fun _ => rfl), trivial⟩
  obtain ⟨t1, _, rfl, k1, hkeys⟩ := List.map_eq_cons_iff.mp hkeys
  obtain ⟨t2, _, rfl, k2, hkeys⟩ := List.map_eq_cons_iff.mp hkeys
  obtain ⟨t3, _, rfl, k3, hkeys⟩ := List.map_eq_cons_iff.mp hkeys
  obtain ⟨t4, _, rfl, k4, hkeys⟩ := List.map_eq_cons_iff.mp hkeys
  obtain ⟨t5, _, rfl, k5, hkeys⟩ := List.map_eq_cons_iff.mp hkeys
  obtain ⟨t6, _, rfl, k6, hkeys⟩ := List.map_eq_cons_iff.mp hkeys
  cases List.map_eq_nil_iff.mp hkeys
  exact ⟨t1, t2, t3, t4, t5, t6, s6, run, k1, k2, by rw [k3]; simp [Lexeme.key, hx.2.2], by rw [k4]; rfl,
    by rw [k5]; simp [Lexeme.key, hxs.2.2], k6, h⟩

inductive BItem where
  | text (segs : List Seg)
  | print (g1 n g2 : Bytes)

def BItem.src : BItem → Bytes
  | .text segs => segsSrc segs
  | .print g1 n g2 => [123, 123] ++ g1 ++ n ++ g2 ++ [125, 125]

def bodySrc : List BItem → Bytes
  | [] => []
  | i :: r => i.src ++ bodySrc r

def bkeys : List BItem → List (TT × Bytes)
  | [] => []
  | .text segs :: r => (.HTML, segsLit segs) :: bkeys r
  | .print _ n _ :: r => (.LBRACES, [123, 123]) :: (.IDENT, n) :: (.RBRACES, [125, 125]) :: bkeys r

def notTextFirst : List BItem → Prop
  | .text _ :: _ => False
  | _ => True

instance : (r : List BItem) → Decidable (notTextFirst r)
  | [] => isTrue trivial
  | .text _ :: _ => isFalse (fun h => h)
  | .print _ _ _ :: _ => isTrue trivial

def BodyOK (tl : Bytes) : List BItem → Prop
  | [] => True
  | .text segs :: r => startsRun segs ∧ SegsOK segs (bodySrc r ++ tl) ∧ notTextFirst r ∧ lastOr (segsSrc segs) 0 ≠ 92 ∧ BodyOK tl r
  | .print g1 n g2 :: r => allWs g1 ∧ allWs g2 ∧ isName n ∧ BodyOK tl r

instance (tl : Bytes) : (body : List BItem) → Decidable (BodyOK tl body)
  | [] => isTrue trivial
  | .text segs :: r => by
    have := instDecidableBodyOK tl r
    unfold BodyOK; exact inferInstance
  | .print g1 n g2 :: r => by
    have := instDecidableBodyOK tl r
    unfold BodyOK; exact inferInstance

theorem Stops.body {tl : Bytes} (hs : Stops tl) : ∀ r : List BItem, notTextFirst r → Stops (bodySrc r ++ tl)
  | [], _ => hs
  | .text _ :: _, h => h.elim
  | .print _ _ _ :: _, _ => .braces _

theorem lexRun_body (tl : Bytes) (hs : Stops tl) : ∀ (body : List BItem), BodyOK tl body → ∀ (s : Lx), s.rest = bodySrc body ++ tl →
    s.isHTML = true → s.braces = 0 → s.prev ≠ 92 →
    ∃ ts sf, Run s ts sf ∧ ts.map key = bkeys body ∧ sf.rest = tl ∧ sf.isHTML = true ∧ sf.braces = 0 ∧ sf.prev ≠ 92 ∧
      sf.panicked = s.panicked ∧ sf.parens = s.parens ∧ sf.isDirective = s.isDirective
  | [], _, s, hr, hh, hb, hpv => ⟨[], s, Run.nil s, rfl, by simpa [bodySrc] using hr, hh, hb, hpv, rfl, rfl, rfl⟩
  | .text segs :: r, hok, s, hr, hh, hb, _ => by
    obtain ⟨hst, hsegs, hnt, hl, hokr⟩ := hok
    have hr' : s.rest = segsSrc segs ++ (bodySrc r ++ tl) := by rw [hr]; simp [bodySrc, BItem.src]
    obtain ⟨t, s1, st1, k1, ne1, r1, h1, p1, b1, pa1, d1, pv1⟩ := lex_run s segs _ hh hst hsegs hr' (hs.body r hnt) (fun _ => hl)
    obtain ⟨ts, sf, run, hk, rf, hf, bf, pvf, pf, paf, df⟩ := lexRun_body tl hs r hokr s1 r1 h1 (by rw [b1]; exact hb) (by rw [pv1]; exact hl)
    exact ⟨t :: ts, sf, Run.cons _ _ _ _ _ st1 ne1 run, by simp [bkeys, k1, hk], rf, hf, bf, pvf, by rw [pf, p1], by rw [paf, pa1], by rw [df, d1]⟩
  | .print g1 n g2 :: r, hok, s, hr, hh, hb, _ => by
    obtain ⟨hg1, hg2, hn, hokr⟩ := hok
    obtain ⟨t1, t2, t3, s3, run3, k1, k2, k3, r3, h3, b3, p3, pv3, d3, pa3⟩ := lex_print s g1 n g2 (bodySrc r ++ tl) hh hb hg1 hg2 hn
      (by rw [hr]; simp [bodySrc, BItem.src])
    obtain ⟨ts, sf, run, hk, rf, hf, bf, pvf, pf, paf, df⟩ := lexRun_body tl hs r hokr s3 r3 h3 b3 (by rw [pv3]; decide)
    exact ⟨t1 :: t2 :: t3 :: ts, sf, Run.append run3 run, by simp [bkeys, k1, k2, k3, hk], rf, hf, bf, pvf, by rw [pf, p3], by rw [paf, pa3], by rw [df, d3]⟩

inductive XItem where
  | text (segs : List Seg)
  | print (g1 n g2 : Bytes)
  | each (g1 x g2 g3 xs g4 : Bytes) (body : List BItem)

def XItem.src : XItem → Bytes
  | .text segs => segsSrc segs
  | .print g1 n g2 => [123, 123] ++ g1 ++ n ++ g2 ++ [125, 125]
  | .each g1 x g2 g3 xs g4 body =>
    kwEach ++ ([40] ++ (g1 ++ (x ++ (g2 ++ (kwIn ++ (g3 ++ (xs ++ (g4 ++ (41 :: (bodySrc body ++ kwEnd))))))))))

def xitemsSrc : List XItem → Bytes
  | [] => []
  | i :: r => i.src ++ xitemsSrc r

def xkeys : List XItem → List (TT × Bytes)
  | [] => []
  | .text segs :: r => (.HTML, segsLit segs) :: xkeys r
  | .print _ n _ :: r => (.LBRACES, [123, 123]) :: (.IDENT, n) :: (.RBRACES, [125, 125]) :: xkeys r
  | .each _ x _ _ xs _ body :: r =>
    (.EACH, kwEach) :: (.LPAREN, [40]) :: (.IDENT, x) :: (.IN, kwIn) :: (.IDENT, xs) :: (.RPAREN, [41]) :: (bkeys body ++ ((.END, kwEnd) :: xkeys r))

def afterRunX (segs : List Seg) : List XItem → Prop
  | [] => True
  | .text _ :: _ => False
  | _ :: _ => lastOr (segsSrc segs) 0 ≠ 92

def XItemsOK : List XItem → Prop
  | [] => True
  | .text segs :: r => startsRun segs ∧ SegsOK segs (xitemsSrc r) ∧ afterRunX segs r ∧ XItemsOK r
  | .print g1 n g2 :: r => allWs g1 ∧ allWs g2 ∧ isName n ∧ XItemsOK r
  | .each g1 x g2 g3 xs g4 body :: r =>
    allWs g1 ∧ allWs g2 ∧ g2 ≠ [] ∧ allWs g3 ∧ g3 ≠ [] ∧ allWs g4 ∧ isName x ∧ isName xs ∧ BodyOK (kwEnd ++ xitemsSrc r) body ∧ XItemsOK r

instance (segs : List Seg) : (r : List XItem) → Decidable (afterRunX segs r)
  | [] => isTrue trivial
  | .text _ :: _ => isFalse (by simp [afterRunX])
  | .print _ _ _ :: _ => by unfold afterRunX; exact inferInstance
  | .each _ _ _ _ _ _ _ :: _ => by unfold afterRunX; exact inferInstance

instance : (items : List XItem) → Decidable (XItemsOK items)
  | [] => isTrue trivial
  | .text segs :: r => by have := instDecidableXItemsOK r; unfold XItemsOK; exact inferInstance
  | .print g1 n g2 :: r => by have := instDecidableXItemsOK r; unfold XItemsOK; exact inferInstance
  | .each g1 x g2 g3 xs g4 body :: r => by have := instDecidableXItemsOK r; unfold XItemsOK; exact inferInstance

theorem Ready.body {s : Lx} (h : Ready s) (hpv : s.prev ≠ 92) {tl : Bytes} {body : List BItem} (hs : Stops tl) (hok : BodyOK tl body)
    (hr : s.rest = bodySrc body ++ tl) : ReadsTo s (bkeys body) tl := by
  obtain ⟨ts, sf, run, hk, rf, hf, bf, pvf, pf, paf, df⟩ := lexRun_body tl hs body hok s hr h.html h.braces hpv
  exact ⟨ts, sf, run, hk, rf, ⟨hf, bf, paf.trans h.parens, df.trans h.dir, pf.trans h.pan⟩, fun _ => pvf⟩

theorem lex_each {s : Lx} (h : Ready s) (hpv : s.prev ≠ 92) {g1 x g2 g3 xs g4 tl : Bytes} {body : List BItem}
    (hg1 : allWs g1) (hg2 : allWs g2) (hg2n : g2 ≠ []) (hg3 : allWs g3) (hg3n : g3 ≠ []) (hg4 : allWs g4)
    (hx : isName x) (hxs : isName xs) (hbody : BodyOK (kwEnd ++ tl) body)
    (hr : s.rest = kwEach ++ ([40] ++ (g1 ++ (x ++ (g2 ++ (kwIn ++ (g3 ++ (xs ++ (g4 ++ (41 :: (bodySrc body ++ (kwEnd ++ tl)))))))))))) :
    ReadsTo s ((.EACH, kwEach) :: (.LPAREN, [40]) :: (.IDENT, x) :: (.IN, kwIn) :: (.IDENT, xs) :: (.RPAREN, [41]) ::
      (bkeys body ++ [(.END, kwEnd)])) tl := by
  obtain ⟨t1, t2, t3, t4, t5, t6, s6, run6, k1, k2, k3, k4, k5, k6, r6, pv6, m6⟩ :=
    lex_each_header s g1 x g2 g3 xs g4 _ h.html hpv h.parens hg1 hg2 hg2n hg3 hg3n hg4 hx hxs hr
  have hhead : ReadsTo s [(.EACH, kwEach), (.LPAREN, [40]), (.IDENT, x), (.IN, kwIn), (.IDENT, xs), (.RPAREN, [41])]
      (bodySrc body ++ (kwEnd ++ tl)) :=
    ⟨[t1, t2, t3, t4, t5, t6], s6, run6, by simp only [List.map_cons, List.map_nil, k1, k2, k3, k4, k5, k6], r6, h.of_mode m6,
      fun _ => by rw [pv6]; decide⟩
  exact hhead.append fun s6 r6 hs6 pv6 => (hs6.body (pv6 (by simp [kwEnd])) (Stops.kw isKw_end tl) hbody r6).append
    fun s7 r7 hs7 pv7 => hs7.kwEnd (pv7 (by simp [kwEnd])) r7

theorem afterRunX_stops (segs : List Seg) : ∀ r : List XItem, afterRunX segs r →
    Stops (xitemsSrc r) ∧ (xitemsSrc r ≠ [] → lastOr (segsSrc segs) 0 ≠ 92) :=
  Stops.after_run rfl fun it _ h => by
    cases it with
    | text _ => exact h.elim
    | print _ _ _ => exact ⟨.braces _, h⟩
    | each _ _ _ _ _ _ _ => exact ⟨by rw [xitemsSrc, XItem.src, List.append_assoc]; exact .kw isKw_each _, h⟩

theorem lexes_xitems : ∀ (items : List XItem), XItemsOK items → ∀ (s : Lx), s.rest = xitemsSrc items →
    Ready s → (xitemsSrc items ≠ [] → s.prev ≠ 92) → Lexes s (xkeys items)
  | [], _, s, hr, hs, _ => .eof hs hr
  | .text segs :: r, ⟨hstart, hsegs, hafter, hokr⟩, s, hr, hs, _ =>
    .item (hs.run hstart hsegs hr (afterRunX_stops segs r hafter).1 (afterRunX_stops segs r hafter).2) (lexes_xitems r hokr)
  | .print g1 n g2 :: r, ⟨hg1, hg2, hn, hokr⟩, s, hr, hs, _ => .item (hs.print hg1 hg2 hn hr) (lexes_xitems r hokr)
  | .each g1 x g2 g3 xs g4 body :: r, ⟨hg1, hg2, hg2n, hg3, hg3n, hg4, hx, hxs, hbody, hokr⟩, s, hr, hs, hpv => by
    have := Lexes.item (lex_each hs (hpv (by simp [xitemsSrc, XItem.src, kwEach])) hg1 hg2 hg2n hg3 hg3n hg4 hx hxs hbody
      (by rw [hr]; simp [xitemsSrc, XItem.src, List.append_assoc])) (lexes_xitems r hokr)
    simpa [xkeys] using this

def bpieces : List BItem → List Piece
  | [] => []
  | .text segs :: r => .text (segsLit segs) :: bpieces r
  | .print _ n _ :: r => .hole n :: bpieces r

theorem bkeys_clean (body : List BItem) : ∀ x ∈ bkeys body, x.1 ≠ .ILLEGAL := by
  refine clean_of_all ?_
  induction body with
  | nil => rfl
  | cons it r ih => cases it <;> simp [bkeys, ih]

theorem NoIll.of_bkeys {bt : List Token} {body : List BItem} (hk : bt.map key = bkeys body) {tEnd : Token} {rest : List Token}
    (hEnd : BlockEnd tEnd) (hrest : NoIll rest) : NoIll (bt ++ tEnd :: rest) :=
  (NoIll.of_keys hk (bkeys_clean body)).append (.cons hEnd.noIll hrest)

theorem RestAt.bitems {tEnd : Token} {rest : List Token} (hEnd : BlockEnd tEnd) (hrest : NoIll rest) :
    ∀ (body : List BItem) (bt : List Token) (tl : Token), bt.map key = bkeys body →
      ∃ ss last, RestAt (body.length + 3) (tl :: (bt ++ tEnd :: rest)) ss (last :: tEnd :: rest) ∧
        simpleBlock ss = true ∧ piecesOf ss = bpieces body
  | [], bt, tl, hk => by
    cases List.map_eq_nil_iff.mp hk
    exact ⟨[], tl, .stop hEnd, rfl, rfl⟩
  | .text segs :: r, bt, tl, hk => by
    obtain ⟨t, bt', rfl, (ht : t.ty = .HTML), hlit, hkr⟩ := map_key_cons hk
    obtain ⟨ss, last, hr, h2, h3⟩ := RestAt.bitems hEnd hrest r bt' t hkr
    exact ⟨.html t :: ss, last,
      .next (BlockEnd.not_of_ty ht) (NoIll.of_bkeys hkr hEnd hrest) ((BlockAt.of_rest (.of_ty ht) (.html ht) rfl hr).mono (by rw [List.length_cons]; omega)),
      by simpa [simpleBlock] using h2, by simp [piecesOf, bpieces, show t.lit = segsLit segs from hlit, h3]⟩
  | .print g1 n g2 :: r, bt, tl, hk => by
    obtain ⟨t1, _, rfl, (ty1 : t1.ty = .LBRACES), _, hk⟩ := map_key_cons hk
    obtain ⟨t2, _, rfl, (ty2 : t2.ty = .IDENT), lit2, hk⟩ := map_key_cons hk
    obtain ⟨t3, bt', rfl, (ty3 : t3.ty = .RBRACES), _, hkr⟩ := map_key_cons hk
    have hcl := NoIll.of_bkeys hkr hEnd hrest
    obtain ⟨ss, last, hr, h2, h3⟩ := RestAt.bitems hEnd hrest r bt' t3 hkr
    exact ⟨.expr t2 (.ident t2 t2.lit) :: ss, last,
      .next (BlockEnd.not_of_ty ty1) (.of_ty ty2 (.of_ty ty3 hcl))
        ((BlockAt.of_rest (.of_ty ty1) (.print ty1 ty2 ty3 hcl) rfl hr).mono (by rw [List.length_cons]; omega)),
      by simpa [simpleBlock] using h2, by simp [piecesOf, bpieces, show t2.lit = n from lit2, h3]⟩

theorem StmtAt.each_bitems {t1 t2 t3 t4 t5 t6 tEnd : Token} {body : List BItem} {bt rest : List Token}
    (h1 : t1.ty = .EACH) (h2 : t2.ty = .LPAREN) (h3 : t3.ty = .IDENT) (h4 : t4.ty = .IN) (h5 : t5.ty = .IDENT) (h6 : t6.ty = .RPAREN)
    (hEnd : tEnd.ty = .END) (hb : bt.map key = bkeys body) (hrest : NoIll rest) :
    ∃ stmts, StmtAt (body.length + 5) (t1 :: t2 :: t3 :: t4 :: t5 :: t6 :: (bt ++ tEnd :: rest))
        (.eachS t1 t3.lit (.ident t5 t5.lit) stmts none) (tEnd :: rest) ∧
      simpleBlock stmts = true ∧ piecesOf stmts = bpieces body := by
  have cB : NoIll (bt ++ tEnd :: rest) := NoIll.of_bkeys hb (.end hEnd) hrest
  obtain ⟨stmts, last, hr, hs1, hs2⟩ := RestAt.bitems (.end hEnd) hrest body bt t6 hb
  exact ⟨stmts, (StmtAt.each h1 h2 h4 (.of_ty h5 (.of_ty h6 cB)) (by simp [h3]) (.ident_rparen h5 h6) h6 cB
    (.end (.of_rest hr) hEnd hrest)).mono (by omega), hs1, hs2⟩

theorem parse_each_stmt (g : Nat) (t1 t2 t3 t4 t5 t6 tEnd : Token) (body : List BItem) (bt rest : List Token)
    (h1 : t1.ty = .EACH) (h2 : t2.ty = .LPAREN) (h3 : t3.ty = .IDENT) (h4 : t4.ty = .IN) (h5 : t5.ty = .IDENT) (h6 : t6.ty = .RPAREN)
    (hEnd : tEnd.ty = .END) (hb : bt.map key = bkeys body) (hrest : ∀ x ∈ rest, x.ty ≠ .ILLEGAL) :
    ∃ stmts, parseStatement (g + body.length + 8) ({ toks := t1 :: t2 :: t3 :: t4 :: t5 :: t6 :: (bt ++ tEnd :: rest) } : PS) =
        (.eachS t1 t3.lit (.ident t5 t5.lit) stmts none, { toks := tEnd :: rest }) ∧
      simpleBlock stmts = true ∧ piecesOf stmts = bpieces body := by
  obtain ⟨stmts, hst, hs⟩ := StmtAt.each_bitems h1 h2 h3 h4 h5 h6 hEnd hb hrest
  exact ⟨stmts, hst.on (by omega) rfl, hs⟩

inductive XSpec where
  | text (t : Bytes)
  | hole (n : Bytes)
  | loop (var xs : Bytes) (ps : List Piece)

def specOfX : Stmt → Option XSpec
  | .html t => some (.text t.lit)
  | .expr _ (.ident _ n) => some (.hole n)
  | .eachS _ var (.ident _ xs) body none => if simpleBlock body = true then some (.loop var xs (piecesOf body)) else none
  | _ => none

def xspec : List XItem → List XSpec
  | [] => []
  | .text segs :: r => .text (segsLit segs) :: xspec r
  | .print _ n _ :: r => .hole n :: xspec r
  | .each _ x _ _ xs _ body :: r => .loop x xs (bpieces body) :: xspec r

theorem xkeys_clean (items : List XItem) : ∀ x ∈ xkeys items, x.1 ≠ .ILLEGAL := by
  refine clean_of_all ?_
  induction items with
  | nil => rfl
  | cons it r ih => cases it <;> simp [xkeys, ih, all_of_clean (bkeys_clean _)]

/-- fuel for the statement loop: per item the grade of its `StmtAt` rule (`StmtAt.html` 1, `StmtAt.print` 3,
    `StmtAt.each_bitems` `body.length + 5`, for which `body.length + 8` stands here) and one for the turn of the loop,
    summed because the loop hands on one unit less per turn; 1 for the turn on EOF.  The constants are not tight: any will
    do that `xpfuel_le` can keep under the 4 units per token that `parseFuel` grants. -/
def xpfuel : List XItem → Nat
  | [] => 1
  | .text _ :: r => 2 + xpfuel r
  | .print _ _ _ :: r => 4 + xpfuel r
  | .each _ _ _ _ _ _ body :: r => body.length + 9 + xpfuel r

theorem bkeys_length (body : List BItem) : body.length ≤ (bkeys body).length := by
  induction body with
  | nil => simp [bkeys]
  | cons it r ih => cases it <;> simp [bkeys] <;> omega

theorem xpfuel_le : ∀ items : List XItem, xpfuel items ≤ 4 * (xkeys items).length + 1
  | [] => by simp [xpfuel, xkeys]
  | .text _ :: r => by have := xpfuel_le r; simp [xpfuel, xkeys]; omega
  | .print _ _ _ :: r => by have := xpfuel_le r; simp [xpfuel, xkeys]; omega
  | .each _ _ _ _ _ _ body :: r => by
    have := xpfuel_le r
    have hb := bkeys_length body
    simp [xpfuel, xkeys]; omega

theorem parseLoop_xitems : ∀ (items : List XItem) (toks : List Token) (e : Token) (acc : List Stmt) (f : Nat),
    toks.map key = xkeys items → e.ty = .EOF → xpfuel items ≤ f →
    ∃ stmts, parseProgramLoop f acc ({ toks := toks ++ [e] } : PS) = (some (acc ++ stmts), { toks := [e] }) ∧
      stmts.map specOfX = (xspec items).map some
  | [], toks, e, acc, f, hk, he, hf => by
    cases List.map_eq_nil_iff.mp hk
    obtain ⟨g, rfl⟩ : ∃ g, f = g + 1 := ⟨f - 1, by simp [xpfuel] at hf; omega⟩
    exact ⟨[], by simpa using loop_eof g acc _ e [] rfl he, rfl⟩
  | .text segs :: r, toks, e, acc, f, hk, he, hf => by
    obtain ⟨g, rfl⟩ : ∃ g, f = g + 1 := ⟨f - 1, by simp [xpfuel] at hf; omega⟩
    obtain ⟨t, rest, rfl, ht, hlit, hkr⟩ := map_key_cons hk
    obtain ⟨stmts, h1, h2⟩ := parseLoop_xitems r rest e (acc ++ [.html t]) g hkr he (by simp [xpfuel] at hf; omega)
    exact ⟨.html t :: stmts,
      loop_text ht rfl (NoIll.of_keys_eof hkr (xkeys_clean r) he) (by simp [xpfuel] at hf; omega) h1,
      by simp [specOfX, xspec, hlit, h2]⟩
  | .print g1 n g2 :: r, toks, e, acc, f, hk, he, hf => by
    obtain ⟨g, rfl⟩ : ∃ g, f = g + 1 := ⟨f - 1, by simp [xpfuel] at hf; omega⟩
    obtain ⟨t1, _, rfl, ty1, _, hk⟩ := map_key_cons hk
    obtain ⟨t2, _, rfl, ty2, lit2, hk⟩ := map_key_cons hk
    obtain ⟨t3, rest, rfl, ty3, _, hkr⟩ := map_key_cons hk
    have hcl := NoIll.of_keys_eof hkr (xkeys_clean r) he
    obtain ⟨stmts, h1, h2⟩ := parseLoop_xitems r rest e (acc ++ [.expr t2 (.ident t2 t2.lit)]) g hkr he (by simp [xpfuel] at hf; omega)
    exact ⟨.expr t2 (.ident t2 t2.lit) :: stmts,
      loop_print ty1 ty2 ty3 rfl hcl (by simp [xpfuel] at hf; omega) h1,
      by simp [specOfX, xspec, show t2.lit = n from lit2, h2]⟩
  | .each g1 x g2 g3 xs g4 body :: r, toks, e, acc, f, hk, he, hf => by
    obtain ⟨g, rfl⟩ : ∃ g, f = g + 1 := ⟨f - 1, by simp [xpfuel] at hf; omega⟩
    obtain ⟨t1, _, rfl, ty1, _, hk⟩ := map_key_cons hk
    obtain ⟨t2, _, rfl, ty2, _, hk⟩ := map_key_cons hk
    obtain ⟨t3, _, rfl, ty3, l3, hk⟩ := map_key_cons hk
    obtain ⟨t4, _, rfl, ty4, _, hk⟩ := map_key_cons hk
    obtain ⟨t5, _, rfl, ty5, l5, hk⟩ := map_key_cons hk
    obtain ⟨t6, _, rfl, ty6, _, hk⟩ := map_key_cons hk
    obtain ⟨bt, _, rfl, hkb, hk⟩ := List.map_eq_append_iff.mp hk
    obtain ⟨tEnd, rest, rfl, hEnd, _, hkr⟩ := map_key_cons hk
    have hcl := NoIll.of_keys_eof hkr (xkeys_clean r) he
    obtain ⟨bstmts, hst, hs1, hs2⟩ := StmtAt.each_bitems ty1 ty2 ty3 ty4 ty5 ty6 hEnd hkb hcl
    obtain ⟨stmts, h1, h2⟩ := parseLoop_xitems r rest e (acc ++ [Stmt.eachS t1 t3.lit (.ident t5 t5.lit) bstmts none]) g hkr he
      (by simp [xpfuel] at hf; omega)
    exact ⟨Stmt.eachS t1 t3.lit (.ident t5 t5.lit) bstmts none :: stmts,
      loop_cons hst (by simp) (by simp [ty1]) rfl (by simp [hEnd]) (by simp) hcl (by simp [xpfuel] at hf; omega) h1,
      by simp [specOfX, xspec, show t3.lit = x from l3, show t5.lit = xs from l5, hs1, hs2, h2]⟩

def arrOf (env : Env) (xs : Bytes) : List Val :=
  match env.get xs with
  | some (.arr vs) => vs
  | _ => []

/-- every printed name is bound; every loop runs over an array of elements of one type, its
    variable is not `loop` and does not clash with a visible name of another type, and the names
    its body prints are the variable, `loop`, or visible outside -/
def xbound (env : Env) : List XSpec → Prop
  | [] => True
  | .text _ :: r => xbound env r
  | .hole n :: r => (env.get n).isSome = true ∧ xbound env r
  | .loop var xs ps :: r =>
    (∃ vs ty, env.get xs = some (.arr vs) ∧ (∀ v ∈ vs, v.type = ty) ∧ (∀ old, env.get var = some old → old.type = ty)) ∧
      (var == b "loop") = false ∧ holesVisible env var ps ∧ xbound env r

def xrender (env : Env) : List XSpec → Bytes
  | [] => []
  | .text t :: r => t ++ xrender env r
  | .hole n :: r => ((env.get n).map Val.toStr).getD [] ++ xrender env r
  | .loop var xs ps :: r => passTexts env var ps (arrOf env xs).length (arrOf env xs) 0 ++ xrender env r

/-- evaluation fuel: one unit for the step through the list, then what the statement or the rest needs
    (`YieldsAll.cons'`); a loop needs `ps.length + n + 5` for its `n` elements (`Renders.each_simple`), one less than stands here -/
def xneed (env : Env) : List XSpec → Nat
  | [] => 1
  | .text _ :: r => 1 + max 1 (xneed env r)
  | .hole _ :: r => 1 + max 2 (xneed env r)
  | .loop _ xs ps :: r => 1 + max (ps.length + (arrOf env xs).length + 6) (xneed env r)

theorem specOfX_renders (c : Ctx) (env : Env) {st : Stmt} {sp : XSpec} (h : specOfX st = some sp) (hb : xbound env [sp]) :
    Renders c env st (xrender env [sp]) (xneed env [sp] - 1) := by
  unfold specOfX at h
  split at h
  · cases h
    simp only [xrender, List.append_nil]
    exact fun f hf => Renders.html c env _ f (by simp [xneed] at hf; omega)
  · cases h
    simp only [xrender, List.append_nil]
    exact fun f hf => Renders.ident_bound c _ _ hb.1 f (by simp [xneed] at hf; omega)
  · rename_i t var t5 xs body
    split at h
    · rename_i hsb
      cases h
      obtain ⟨⟨vs, ty, hget, hty, hfresh⟩, hvl, hvis, _⟩ := hb
      have harr : arrOf env xs = vs := by simp [arrOf, hget]
      simp only [xrender, xneed, harr, List.append_nil]
      rw [← simple_length body hsb]
      intro F hF
      by_cases hne : vs = []
      · subst hne
        obtain ⟨k, rfl⟩ : ∃ k, F = (1 + 1) + k := ⟨F - 2, by simp at hF; omega⟩
        exact evalStmt_lift (evalStmt_each_empty 1 c env t var (.ident t5 xs) body none (by simp [evalExpr, get_push, hget])) k
      · exact Renders.each_simple c t t5 none hget hne hvl hfresh hty hsb hvis F (by simp at hF; omega)
    · cases h
  · cases h

theorem xrender_cons (env : Env) (sp : XSpec) (r : List XSpec) : xrender env (sp :: r) = xrender env [sp] ++ xrender env r := by
  cases sp <;> simp [xrender]

theorem xbound_cons (env : Env) (sp : XSpec) (r : List XSpec) : xbound env (sp :: r) ↔ xbound env [sp] ∧ xbound env r := by
  cases sp <;> simp [xbound, and_assoc]

theorem xneed_cons (env : Env) (sp : XSpec) (r : List XSpec) :
    xneed env (sp :: r) = 1 + max (xneed env [sp] - 1) (xneed env r) := by
  cases sp <;> simp [xneed] <;> omega

theorem evalProg_xspec (c : Ctx) (env : Env) : ∀ (specs : List XSpec) (ss : List Stmt) (fuel : Nat) (acc : Bytes),
    ss.map specOfX = specs.map some → xbound env specs → xneed env specs ≤ fuel →
    evalProg fuel c env ss acc = .ok (acc ++ xrender env specs, env) :=
  fun specs ss fuel acc hs hb hf =>
    (YieldsAll.of_specs rfl (xrender_cons env) (fun sp r => (xbound_cons env sp r).mp) (by simp [xneed])
      (fun sp r => by rw [xneed_cons env sp r]; omega) (fun st sp => specOfX_renders c env)
      specs ss hs hb).evalProg fuel acc hf

theorem tokenize_xitems (items : List XItem) (hok : XItemsOK items) :
    ∃ toks e, tokenize (xitemsSrc items) = some { toks := toks ++ [e], insideCode := false, panicked := false } ∧
      toks.map key = xkeys items ∧ e.ty = .EOF :=
  (lexes_xitems items hok _ rfl (.init _) fun _ => init_prev _).tokenize

theorem parse_xitems (items : List XItem) (hok : XItemsOK items) :
    ∃ prog, parseSource (xitemsSrc items) = .ok prog ∧ prog.stmts.map specOfX = (xspec items).map some := by
  obtain ⟨toks, e, hk, he, hfuel, hfin⟩ := parseSource_keys (tokenize_xitems items hok) (xkeys_clean items) 0
  obtain ⟨stmts, h1, h2⟩ := parseLoop_xitems items toks e [] (parseFuel (toks ++ [e])) hk he (by rw [hfuel]; have := xpfuel_le items; omega)
  exact ⟨_, hfin _ _ h1 rfl rfl, h2⟩

/-- C03 `each_renders_once_per_element_from_source` -/
theorem xitems_render (custom : List ((VType × Bytes) × Nat)) (items : List XItem) (hok : XItemsOK items)
    (data : List (Bytes × GoVal)) (env : Env) (henv : envFromMap data = .ok env) (hb : xbound env (xspec items))
    (hsize : xneed env (xspec items) ≤ evalFuel) :
    evaluateStringPure custom (xitemsSrc items) data = .ok (xrender env (xspec items)) := by
  obtain ⟨prog, hp, hs⟩ := parse_xitems items hok
  exact source_renders hp henv (evalProg_xspec _ env (xspec items) prog.stmts evalFuel [] hs hb hsize)

end Tw
