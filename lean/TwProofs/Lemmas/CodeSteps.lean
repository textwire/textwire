/-
  TwProofs.Lemmas.CodeSteps — single `NextToken` bodies in code.  `code_tok_step` reads one token off
  `codeStepDesc` behind any white space; the steps for a word, a number, a string, a one-byte token
  and the brackets that change the mode are its instances, each from the value of `codeStepDesc`
  at the first byte of the token.  Every step returns `t.ty ≠ .EOF`, which `Run.cons` asks for.
  Beside `isDigits`, the value the parser gives such a literal (`parseInt64_digits`).
-/
import TwModel.Parser
import TwProofs.Lemmas.LexStr
import TwProofs.Lemmas.LexRun
namespace Tw
open Lx

def isName (n : Bytes) : Prop :=
  (∃ c v, n = c :: v ∧ isIdentCh c = true) ∧ (∀ x ∈ n, (isIdentCh x || isNumberCh x) = true) ∧ lookupIdent n = .IDENT

instance (n : Bytes) : Decidable (isName n) := by
  unfold isName
  have : Decidable (∃ c v, n = c :: v ∧ isIdentCh c = true) := by
    cases n with
    | nil => exact isFalse (by simp)
    | cons c v => exact if h : isIdentCh c = true then isTrue ⟨c, v, rfl, h⟩ else isFalse (by simpa using h)
  exact inferInstance

/-- the tests `codeStepDesc` makes on a first byte before it reaches `wordDesc`, in their order: the table of
    `codeDesc`, the six bytes of `bracketDesc`, the six of `opDesc` -/
structure NotSpecial (c : Nat) : Prop where
  simple : simpleToken c = none
  ne_lbrace : c ≠ 123
  ne_rbrace : c ≠ 125
  ne_lparen : c ≠ 40
  ne_rparen : c ≠ 41
  ne_dquote : c ≠ 34
  ne_squote : c ≠ 39
  ne_lt : c ≠ 60
  ne_gt : c ≠ 62
  ne_bang : c ≠ 33
  ne_minus : c ≠ 45
  ne_plus : c ≠ 43
  ne_assign : c ≠ 61
  not_ws : isWs c = false

theorem NotSpecial.of_wordCh {c : Nat} (h : (isIdentCh c || isNumberCh c) = true) : NotSpecial c := by
  have hc : ((97 ≤ c ∧ c ≤ 122 ∨ 65 ≤ c ∧ c ≤ 90) ∨ c = 95) ∨ 48 ≤ c ∧ c ≤ 57 := by
    simpa only [isIdentCh, isNumberCh, Bool.or_eq_true, Bool.and_eq_true, decide_eq_true_eq, beq_iff_eq] using h
  refine ⟨?_, by omega, by omega, by omega, by omega, by omega, by omega, by omega, by omega, by omega, by omega, by omega, by omega, ?_⟩
  · cases hs : simpleToken c with
    | none => rfl
    | some ty =>
      have hm : c ∈ ([37, 42, 44, 46, 47, 58, 59, 63, 91, 93] : List Nat) :=
        (by decide : ∀ p ∈ simpleTokens, p.1 ∈ ([37, 42, 44, 46, 47, 58, 59, 63, 91, 93] : List Nat)) _ (simpleToken_mem hs)
      simp only [List.mem_cons, List.not_mem_nil, or_false] at hm
      omega
  · have : c ≠ 32 ∧ c ≠ 9 ∧ c ≠ 10 ∧ c ≠ 13 := by omega
    simp [isWs, this]

theorem NotSpecial.of_identCh {c : Nat} (h : isIdentCh c = true) : NotSpecial c := .of_wordCh (by rw [h]; rfl)
theorem NotSpecial.of_digit {c : Nat} (h : isNumberCh c = true) : NotSpecial c := .of_wordCh (by rw [h, Bool.or_true])

theorem allWs_nil : allWs [] := fun _ h => nomatch h
theorem allWs_space : allWs [32] := by decide

def isWord (n : Bytes) : Prop :=
  (∃ c v, n = c :: v ∧ isIdentCh c = true) ∧ (∀ x ∈ n, (isIdentCh x || isNumberCh x) = true)

instance (n : Bytes) : Decidable (isWord n) := by
  unfold isWord
  have : Decidable (∃ c v, n = c :: v ∧ isIdentCh c = true) := by
    cases n with
    | nil => exact isFalse (by simp)
    | cons c v => exact if h : isIdentCh c = true then isTrue ⟨c, v, rfl, h⟩ else isFalse (by simpa using h)
  exact inferInstance

theorem isName_word {n : Bytes} (h : isName n) : isWord n := ⟨h.1, h.2.1⟩

theorem codeStepDesc_eq_bracketDesc {s : Lx} (hs : simpleToken s.char = none) (h : s.char ≠ 125) : codeStepDesc s = bracketDesc s := by
  rw [codeStepDesc_eq_codeDesc fun e => h e.1, codeDesc_eq_bracketDesc hs]

theorem codeStepDesc_eq_opDesc (s : Lx) (hs : simpleToken s.char = none)
    (h : s.char ≠ 123 ∧ s.char ≠ 125 ∧ s.char ≠ 40 ∧ s.char ≠ 41 ∧ s.char ≠ 34 ∧ s.char ≠ 39) : codeStepDesc s = opDesc s := by
  obtain ⟨h1, h2, h3, h4, h5, h6⟩ := h
  rw [codeStepDesc_eq_bracketDesc hs h2]
  unfold bracketDesc
  simp only [beq_iff_eq, h1, h2, h3, h4, if_false]
  rw [if_neg (by simp [h5, h6])]

theorem NotSpecial.codeStepDesc {s : Lx} (h : NotSpecial s.char) : codeStepDesc s = wordDesc s := by
  rw [codeStepDesc_eq_opDesc s h.simple ⟨h.ne_lbrace, h.ne_rbrace, h.ne_lparen, h.ne_rparen, h.ne_dquote, h.ne_squote⟩]
  unfold opDesc
  simp only [beq_iff_eq, h.ne_lt, h.ne_gt, h.ne_bang, h.ne_minus, h.ne_plus, h.ne_assign, if_false]

theorem codeStepDesc_word (s : Lx) (n x : Bytes) (hn : isWord n) (hr : s.rest = n ++ x)
    (hx : (isIdentCh (x.headD 0) || isNumberCh (x.headD 0)) = false) :
    (codeStepDesc s).n = n.length ∧ (codeStepDesc s).ty = lookupIdent n ∧ (codeStepDesc s).lit = n ∧ (codeStepDesc s).st = s := by
  obtain ⟨⟨c, v, rfl, hc⟩, hall⟩ := hn
  have hchar : s.char = c := Lx.char_of_rest hr
  rw [NotSpecial.codeStepDesc (hchar ▸ NotSpecial.of_identCh hc)]
  unfold wordDesc
  rw [hchar, if_pos hc, hr, takeWhile_prefix _ _ x hall hx]
  exact ⟨rfl, rfl, rfl, rfl⟩

/-- `hd` speaks of every state at `u` with the mode of `s` because it is used at `skipWs s` -/
theorem code_tok_step (s : Lx) (g u x : Bytes) (ty : TT) (lit : Bytes) (m : Bool × Bool × Int × Int × Bool)
    (hh : s.isHTML = false) (hg : allWs g) (hr : s.rest = g ++ (u ++ x)) (hu : u ≠ []) (hws : isWs (u.headD 0) = false)
    (h123 : ¬ (u.headD 0 = 123 ∧ ((u ++ x).drop 1).headD 0 = 123)) (hty : ty ≠ .EOF)
    (hd : ∀ s' : Lx, s'.rest = u ++ x → mode s' = mode s →
      (codeStepDesc s').n = u.length ∧ (codeStepDesc s').ty = ty ∧ (codeStepDesc s').lit = lit ∧
        (codeStepDesc s').st.rest = u ++ x ∧ mode (codeStepDesc s').st = m) :
    ∃ t s1, nextStep s = (.tok t, s1) ∧ key t = (ty, lit) ∧ t.ty ≠ .EOF ∧ s1.rest = x ∧ s1.prev = u.reverse.headD 0 ∧ mode s1 = m := by
  obtain ⟨c, v, rfl⟩ := List.exists_cons_of_ne_nil hu
  obtain ⟨k1, k2⟩ := skipWs_code s hh g _ hg hr hws
  obtain ⟨e1, e2, e3, e4, e5⟩ := hd (skipWs s) k1 k2
  have st := stepAt_code (skipWs s) (by rw [mode_html k2]; exact hh) (by rw [k1]; exact List.cons_ne_nil _ _)
    (fun ⟨e1, e2⟩ => h123 ⟨by simpa [Lx.char, k1] using e1, by simpa [Lx.peek, k1] using e2⟩)
  obtain ⟨f1, f2, f3⟩ := TokDesc.emit_after (codeStepDesc (skipWs s)) (c :: v) x hu e4 e1
  exact ⟨_, _, by unfold nextStep; exact st, by rw [TokDesc.emit_key, e2, e3],
    by rw [TokDesc.emit_ty, e2]; exact hty, f1, f3, by rw [f2, e5]⟩

theorem codeStepDesc_lparen (s : Lx) (x : Bytes) (hr : s.rest = 40 :: x) :
    codeStepDesc s = { st := (if s.isDirective then { s with parens := s.parens + 1 } else s), n := 1, ty := .LPAREN, lit := [40] } := by
  have hc : s.char = 40 := Lx.char_of_rest hr
  rw [codeStepDesc_eq_bracketDesc (by rw [hc]; decide) (by rw [hc]; decide)]
  unfold bracketDesc
  rw [hc]
  simp

theorem codeStepDesc_rparen (s : Lx) (x : Bytes) (hr : s.rest = 41 :: x) :
    codeStepDesc s = { st := (if s.isDirective && s.parens - 1 == 0 then { s with parens := s.parens - 1, isDirective := false, isHTML := true }
                              else if s.isDirective then { s with parens := s.parens - 1 } else s), n := 1, ty := .RPAREN, lit := [41] } := by
  have hc : s.char = 41 := Lx.char_of_rest hr
  rw [codeStepDesc_eq_bracketDesc (by rw [hc]; decide) (by rw [hc]; decide)]
  unfold bracketDesc
  rw [hc]
  simp

structure After (s s1 : Lx) (x : Bytes) (last : Byte) : Prop where
  rest : s1.rest = x
  md : mode s1 = mode s
  prev : s1.prev = last

theorem code_plain_step (s : Lx) (g u x : Bytes) (ty : TT) (lit : Bytes)
    (hh : s.isHTML = false) (hg : allWs g) (hr : s.rest = g ++ (u ++ x)) (hu : u ≠ []) (hws : isWs (u.headD 0) = false)
    (h123 : u.headD 0 ≠ 123) (hty : ty ≠ .EOF)
    (hd : ∀ s' : Lx, s'.rest = u ++ x → mode s' = mode s →
      (codeStepDesc s').n = u.length ∧ (codeStepDesc s').ty = ty ∧ (codeStepDesc s').lit = lit ∧ (codeStepDesc s').st = s') :
    ∃ t s1, nextStep s = (.tok t, s1) ∧ key t = (ty, lit) ∧ t.ty ≠ .EOF ∧ After s s1 x (u.reverse.headD 0) := by
  obtain ⟨t, s1, h1, h2, h3, h4, h5, h6⟩ := code_tok_step s g u x ty lit (mode s) hh hg hr hu hws (fun h => h123 h.1) hty
    (fun s' hr' hm' => by obtain ⟨a, b, c, d⟩ := hd s' hr' hm'; exact ⟨a, b, c, by rw [d]; exact hr', by rw [d]; exact hm'⟩)
  exact ⟨t, s1, h1, h2, h3, h4, h6, h5⟩

theorem code_word_step (s : Lx) (g n x : Bytes) (hh : s.isHTML = false) (hg : allWs g) (hn : isWord n)
    (hr : s.rest = g ++ (n ++ x)) (hx : (isIdentCh (x.headD 0) || isNumberCh (x.headD 0)) = false) :
    ∃ t s1, nextStep s = (.tok t, s1) ∧ key t = (lookupIdent n, n) ∧ t.ty ≠ .EOF ∧ After s s1 x (n.reverse.headD 0) := by
  obtain ⟨c, v, rfl, hc⟩ := hn.1
  exact code_plain_step s g (c :: v) x (lookupIdent (c :: v)) (c :: v) hh hg hr (List.cons_ne_nil _ _)
    (NotSpecial.of_identCh hc).not_ws (NotSpecial.of_identCh hc).ne_lbrace (lookupIdent_ne_eof _) (fun s' hr' _ => codeStepDesc_word s' (c :: v) x hn hr' hx)

def isDigits (d : Bytes) : Prop := d ≠ [] ∧ ∀ x ∈ d, isNumberCh x = true

instance instDecidableIsDigits (d : Bytes) : Decidable (isDigits d) := by unfold isDigits; exact inferInstance

theorem parseInt64_digits (d : Bytes) (hd : isDigits d) (hb : digitsToNat d ≤ 9223372036854775807) :
    parseInt64 d = some (Int64.ofNat (digitsToNat d)) := by
  obtain ⟨hne, hall⟩ := hd
  unfold parseInt64
  have e1 : d.isEmpty = false := by cases d with
    | nil => exact absurd rfl hne
    | cons _ _ => rfl
  have e2 : d.all isNumberCh = true := List.all_eq_true.mpr hall
  simp [e1, e2, hb]

theorem parseInt64_lit {t : Token} {d : Bytes} (h : t.lit = d) (hd : isDigits d) (hb : digitsToNat d ≤ 9223372036854775807) :
    parseInt64 t.lit = some (Int64.ofNat (digitsToNat d)) := h ▸ parseInt64_digits d hd hb

theorem digit_not_ident {c : Nat} (h : isNumberCh c = true) : isIdentCh c = false := by
  have hc : 48 ≤ c ∧ c ≤ 57 := by simpa only [isNumberCh, Bool.and_eq_true, decide_eq_true_eq] using h
  cases hi : isIdentCh c with
  | false => rfl
  | true =>
    have hi' : (97 ≤ c ∧ c ≤ 122 ∨ 65 ≤ c ∧ c ≤ 90) ∨ c = 95 := by
      simpa only [isIdentCh, Bool.or_eq_true, Bool.and_eq_true, decide_eq_true_eq, beq_iff_eq] using hi
    omega

theorem digit_not_special {c : Nat} (h : isNumberCh c = true) :
    simpleToken c = none ∧ c ≠ 123 ∧ c ≠ 125 ∧ c ≠ 40 ∧ c ≠ 41 ∧ c ≠ 34 ∧ c ≠ 39 ∧ c ≠ 60 ∧ c ≠ 62 ∧ c ≠ 33 ∧ c ≠ 45 ∧ c ≠ 43 ∧ c ≠ 61 ∧
      isWs c = false ∧ isIdentCh c = false :=
  have n := NotSpecial.of_digit h
  ⟨n.simple, n.ne_lbrace, n.ne_rbrace, n.ne_lparen, n.ne_rparen, n.ne_dquote, n.ne_squote, n.ne_lt, n.ne_gt, n.ne_bang, n.ne_minus, n.ne_plus,
    n.ne_assign, n.not_ws, digit_not_ident h⟩

theorem numScan_digits (d x : Bytes) (hd : ∀ y ∈ d, isNumberCh y = true) (h0 : isNumberCh (x.headD 0) = false) (h1 : x.headD 0 ≠ 46) :
    numScan (d ++ x) = (d.length, true) := by
  induction d with
  | nil => simpa using numScan_eq_zero x h0 (fun e => absurd e h1)
  | cons a t ih =>
    rw [List.cons_append, numScan_digit a _ (hd a List.mem_cons_self), ih (fun y hy => hd y (List.mem_cons_of_mem _ hy))]
    rfl

theorem codeStepDesc_int (s : Lx) (d x : Bytes) (hd : isDigits d) (hr : s.rest = d ++ x)
    (h0 : isNumberCh (x.headD 0) = false) (h1 : x.headD 0 ≠ 46) :
    (codeStepDesc s).n = d.length ∧ (codeStepDesc s).ty = .INT ∧ (codeStepDesc s).lit = d ∧ (codeStepDesc s).st = s := by
  obtain ⟨c, v, rfl⟩ := List.exists_cons_of_ne_nil hd.1
  have hc : isNumberCh c = true := hd.2 c List.mem_cons_self
  have hchar : s.char = c := Lx.char_of_rest hr
  rw [NotSpecial.codeStepDesc (hchar ▸ NotSpecial.of_digit hc)]
  unfold wordDesc
  rw [hchar, digit_not_ident hc, hc, hr, numScan_digits (c :: v) x hd.2 h0 h1]
  simp

theorem code_int_step (s : Lx) (g d x : Bytes) (hh : s.isHTML = false) (hg : allWs g) (hd : isDigits d)
    (hr : s.rest = g ++ (d ++ x)) (h0 : isNumberCh (x.headD 0) = false) (h1 : x.headD 0 ≠ 46) :
    ∃ t s1, nextStep s = (.tok t, s1) ∧ key t = (.INT, d) ∧ t.ty ≠ .EOF ∧ After s s1 x (d.reverse.headD 0) := by
  obtain ⟨c, v, rfl⟩ := List.exists_cons_of_ne_nil hd.1
  have hc := hd.2 c List.mem_cons_self
  exact code_plain_step s g (c :: v) x .INT (c :: v) hh hg hr hd.1 (NotSpecial.of_digit hc).not_ws (NotSpecial.of_digit hc).ne_lbrace (by decide)
    (fun s' hr' _ => codeStepDesc_int s' (c :: v) x hd hr' h0 h1)

theorem codeStepDesc_simple (s : Lx) (c : Byte) (ty : TT) (x : Bytes) (hs : simpleToken c = some ty) (hr : s.rest = c :: x) :
    codeStepDesc s = { st := s, n := 1, ty := ty, lit := [c] } := by
  have hc : s.char = c := Lx.char_of_rest hr
  have hne : c ≠ 125 := by
    intro e; rw [e, show simpleToken 125 = none from by decide] at hs; cases hs
  rw [codeStepDesc_eq_codeDesc (by rw [hc]; exact fun e => hne e.1)]
  unfold codeDesc
  rw [hc]
  simp only [hs]

theorem opChain_short (s : Lx) (c k : Byte) (t2 t1 : TT) (hc : s.char = c) (hp : s.peek ≠ k) :
    ∀ tbl : List (Byte × Byte × TT × TT), (c, k, t2, t1) ∈ tbl → tbl.Pairwise (fun a b => a.1 ≠ b.1) →
      opChain s tbl = { st := s, n := 1, ty := t1, lit := [c] }
  | [], h, _ => by cases h
  | (a, k', t2', t1') :: r, h, hd => by
    unfold opChain
    rcases List.mem_cons.mp h with e | e
    · cases e
      rw [if_pos (by simp [hc]), if_neg (by simpa using hp)]
    · have : a ≠ c := (List.pairwise_cons.mp hd).1 _ e
      rw [if_neg (by simp [hc, Ne.symm this])]
      exact opChain_short s c k t2 t1 hc hp r e (List.pairwise_cons.mp hd).2

/-- the one-byte tokens that leave the mode alone; `z` is the byte that follows -/
def IsSym (dir : Bool) (c : Byte) (ty : TT) (z : Byte) : Prop :=
  simpleToken c = some ty ∨ (dir = false ∧ ((c = 40 ∧ ty = .LPAREN) ∨ (c = 41 ∧ ty = .RPAREN))) ∨
    ∃ k t2, (c, k, t2, ty) ∈ opTable ∧ z ≠ k

theorem isSym_assign (dir : Bool) {z : Byte} (h : z ≠ 61) : IsSym dir 61 .ASSIGN z := Or.inr (Or.inr ⟨61, .EQ, by decide, h⟩)
theorem isSym_lparen (z : Byte) : IsSym false 40 .LPAREN z := Or.inr (Or.inl ⟨rfl, Or.inl ⟨rfl, rfl⟩⟩)
theorem isSym_rparen (z : Byte) : IsSym false 41 .RPAREN z := Or.inr (Or.inl ⟨rfl, Or.inr ⟨rfl, rfl⟩⟩)

def symTable : List (Byte × TT) := simpleTokens ++ (40, .LPAREN) :: (41, .RPAREN) :: opTable.map fun e => (e.1, e.2.2.2)

theorem IsSym.mem {dir : Bool} {c : Byte} {ty : TT} {z : Byte} (h : IsSym dir c ty z) : (c, ty) ∈ symTable := by
  rcases h with h | ⟨_, ⟨rfl, rfl⟩ | ⟨rfl, rfl⟩⟩ | ⟨k, t2, h, _⟩
  · exact List.mem_append_left _ (simpleToken_mem h)
  · decide
  · decide
  · exact List.mem_append_right _ (List.mem_cons_of_mem _ (List.mem_cons_of_mem _ (List.mem_map.mpr ⟨_, h, rfl⟩)))

theorem IsSym.not_ws {dir : Bool} {c : Byte} {ty : TT} {z : Byte} (h : IsSym dir c ty z) : isWs c = false :=
  (by decide : ∀ p ∈ symTable, isWs p.1 = false) _ h.mem

theorem IsSym.ne_lbrace {dir : Bool} {c : Byte} {ty : TT} {z : Byte} (h : IsSym dir c ty z) : c ≠ 123 :=
  (by decide : ∀ p ∈ symTable, p.1 ≠ 123) _ h.mem

theorem IsSym.ne_eof {dir : Bool} {c : Byte} {ty : TT} {z : Byte} (h : IsSym dir c ty z) : ty ≠ .EOF :=
  (by decide : ∀ p ∈ symTable, p.2 ≠ TT.EOF) _ h.mem

theorem IsSym.ne_illegal {dir : Bool} {c : Byte} {ty : TT} {z : Byte} (h : IsSym dir c ty z) : ty ≠ .ILLEGAL :=
  (by decide : ∀ p ∈ symTable, p.2 ≠ TT.ILLEGAL) _ h.mem

theorem IsSym.after_ws {dir : Bool} {c : Byte} {ty : TT} {z w : Byte} (h : IsSym dir c ty z) (hw : isWs w = true) : IsSym dir c ty w := by
  have ho : ∀ e ∈ opTable, isWs e.2.1 = false := by decide
  rcases h with h | h | ⟨k, t2, h, _⟩
  · exact Or.inl h
  · exact Or.inr (Or.inl h)
  · exact Or.inr (Or.inr ⟨k, t2, h, fun e => by rw [e, ho _ h] at hw; cases hw⟩)

theorem codeStepDesc_sym (s : Lx) (c : Byte) (ty : TT) (x : Bytes) (hr : s.rest = c :: x) (h : IsSym s.isDirective c ty (x.headD 0)) :
    codeStepDesc s = { st := s, n := 1, ty := ty, lit := [c] } := by
  have hc : s.char = c := Lx.char_of_rest hr
  rcases h with h | ⟨hd, ⟨rfl, rfl⟩ | ⟨rfl, rfl⟩⟩ | ⟨k, t2, h, hz⟩
  · exact codeStepDesc_simple s c ty x h hr
  · rw [codeStepDesc_lparen s x hr, hd]; rfl
  · rw [codeStepDesc_rparen s x hr, hd]; rfl
  · have ho : ∀ e ∈ opTable, simpleToken e.1 = none ∧ e.1 ≠ 123 ∧ e.1 ≠ 125 ∧ e.1 ≠ 40 ∧ e.1 ≠ 41 ∧ e.1 ≠ 34 ∧ e.1 ≠ 39 := by decide
    rw [codeStepDesc_eq_opDesc s (by rw [hc]; exact (ho _ h).1) (by rw [hc]; exact (ho _ h).2), opDesc_eq_chain]
    exact opChain_short s c k t2 ty hc (by rw [Lx.peek_of_rest hr]; exact hz) opTable h (by decide)

theorem code_sym_step (s : Lx) (c : Byte) (ty : TT) (g x : Bytes) (hh : s.isHTML = false) (hg : allWs g)
    (hr : s.rest = g ++ (c :: x)) (h : IsSym s.isDirective c ty (x.headD 0)) :
    ∃ t s1, nextStep s = (.tok t, s1) ∧ key t = (ty, [c]) ∧ t.ty = ty ∧ After s s1 x c := by
  obtain ⟨t, s1, h1, h2, _, h4⟩ := code_plain_step s g [c] x ty [c] hh hg hr (List.cons_ne_nil _ _) h.not_ws h.ne_lbrace h.ne_eof
    (fun s' hr' hm => by rw [codeStepDesc_sym s' c ty x hr' (by rw [mode_dir hm]; exact h)]; exact ⟨rfl, rfl, rfl, rfl⟩)
  exact ⟨t, s1, h1, h2, congrArg Prod.fst h2, h4⟩

theorem code_simple_step (s : Lx) (c : Byte) (ty : TT) (g x : Bytes) (hs : simpleToken c = some ty) (hh : s.isHTML = false) (hg : allWs g)
    (hr : s.rest = g ++ (c :: x)) :
    ∃ t s1, nextStep s = (.tok t, s1) ∧ key t = (ty, [c]) ∧ t.ty = ty ∧ After s s1 x c :=
  code_sym_step s c ty g x hh hg hr (Or.inl hs)

theorem code_lparen_plain_ws_step (s : Lx) (g x : Bytes) (hh : s.isHTML = false) (hd : s.isDirective = false) (hg : allWs g)
    (hr : s.rest = g ++ (40 :: x)) :
    ∃ t s1, nextStep s = (.tok t, s1) ∧ key t = (.LPAREN, [40]) ∧ t.ty ≠ .EOF ∧ After s s1 x 40 := by
  obtain ⟨t, s1, h1, h2, h3, h4⟩ := code_sym_step s 40 .LPAREN g x hh hg hr (by rw [hd]; exact isSym_lparen _)
  exact ⟨t, s1, h1, h2, by rw [h3]; decide, h4⟩

theorem code_lparen_plain_step (s : Lx) (x : Bytes) (hh : s.isHTML = false) (hd : s.isDirective = false) (hr : s.rest = 40 :: x) :
    ∃ t s1, nextStep s = (.tok t, s1) ∧ key t = (.LPAREN, [40]) ∧ t.ty ≠ .EOF ∧ After s s1 x 40 :=
  code_lparen_plain_ws_step s [] x hh hd allWs_nil hr

theorem code_rparen_plain_ws_step (s : Lx) (g x : Bytes) (hh : s.isHTML = false) (hd : s.isDirective = false) (hg : allWs g)
    (hr : s.rest = g ++ (41 :: x)) :
    ∃ t s1, nextStep s = (.tok t, s1) ∧ key t = (.RPAREN, [41]) ∧ t.ty ≠ .EOF ∧ After s s1 x 41 := by
  obtain ⟨t, s1, h1, h2, h3, h4⟩ := code_sym_step s 41 .RPAREN g x hh hg hr (hd ▸ isSym_rparen _)
  exact ⟨t, s1, h1, h2, by rw [h3]; decide, h4⟩

theorem code_rparen_plain_step (s : Lx) (x : Bytes) (hh : s.isHTML = false) (hd : s.isDirective = false) (hr : s.rest = 41 :: x) :
    ∃ t s1, nextStep s = (.tok t, s1) ∧ key t = (.RPAREN, [41]) ∧ t.ty ≠ .EOF ∧ After s s1 x 41 :=
  code_rparen_plain_ws_step s [] x hh hd allWs_nil hr

def strLit (q : Byte) (c : Bytes) : Bytes := q :: (c ++ [q])

theorem code_str_step (s : Lx) (g : Bytes) (q : Byte) (c x : Bytes) (hh : s.isHTML = false) (hg : allWs g)
    (hq : q = 34 ∨ q = 39) (hp : PlainStr q c) (hr : s.rest = g ++ (q :: (c ++ q :: x))) :
    ∃ t s1, nextStep s = (.tok t, s1) ∧ key t = (.STR, c) ∧ t.ty ≠ .EOF ∧ After s s1 x q := by
  have hr2 : s.rest = g ++ (q :: (c ++ [q]) ++ x) := by rw [hr]; simp
  obtain ⟨t, s1, h1, h2, h3, h4⟩ := code_plain_step s g (q :: (c ++ [q])) x .STR c hh hg hr2 (List.cons_ne_nil _ _)
    (by rcases hq with h | h <;> subst h <;> rfl) (by rcases hq with h | h <;> subst h <;> exact fun e => by cases e) (by decide)
    (fun s' hr' _ => by
      have hr'' : s'.rest = q :: (c ++ q :: x) := by rw [hr']; simp
      obtain ⟨d1, d2, d3, d4⟩ := strDesc_plain s' q c x hr'' hp
      rw [codeStepDesc_string s' (by rw [Lx.char_of_rest hr'']; exact hq)]
      exact ⟨by rw [d1]; simp, d2, d3, d4⟩)
  exact ⟨t, s1, h1, h2, h3, ⟨h4.rest, h4.md, by rw [h4.prev]; simp⟩⟩

theorem code_lparen_step (s : Lx) (x : Bytes) (hh : s.isHTML = false) (hd : s.isDirective = true) (hr : s.rest = 40 :: x) :
    ∃ t s1, nextStep s = (.tok t, s1) ∧ key t = (.LPAREN, [40]) ∧ t.ty ≠ .EOF ∧ s1.rest = x ∧ s1.prev = 40 ∧
      mode s1 = (false, true, s.parens + 1, s.braces, s.panicked) :=
  code_tok_step s [] [40] x .LPAREN [40] (false, true, s.parens + 1, s.braces, s.panicked) hh
    allWs_nil hr (List.cons_ne_nil _ _) (by decide) (by simp) (by decide) (fun s' hr' hm => by
      have e := codeStepDesc_lparen s' x hr'
      rw [(mode_dir hm).trans hd] at e
      simp only [if_true] at e
      rw [e]
      exact ⟨rfl, rfl, rfl, hr', by simp only [mode]; rw [mode_html hm, mode_parens hm, mode_braces hm, mode_pan hm, hh]⟩)

theorem code_rparen_close_step (s : Lx) (g x : Bytes) (hh : s.isHTML = false) (hd : s.isDirective = true) (hp : s.parens = 1)
    (hg : allWs g) (hr : s.rest = g ++ (41 :: x)) :
    ∃ t s1, nextStep s = (.tok t, s1) ∧ key t = (.RPAREN, [41]) ∧ t.ty ≠ .EOF ∧ s1.rest = x ∧ s1.prev = 41 ∧
      mode s1 = (true, false, 0, s.braces, s.panicked) :=
  code_tok_step s g [41] x .RPAREN [41] (true, false, 0, s.braces, s.panicked) hh hg hr
    (List.cons_ne_nil _ _) (by decide) (by simp) (by decide) (fun s' hr' hm => by
      have e := codeStepDesc_rparen s' x hr'
      rw [(mode_dir hm).trans hd, (mode_parens hm).trans hp] at e
      simp only [Bool.true_and, show ((1 : Int) - 1 == 0) = true from by decide, if_true] at e
      rw [e]
      exact ⟨rfl, rfl, rfl, hr', by simp only [mode]; rw [mode_braces hm, mode_pan hm]; rfl⟩)

theorem lex_open (s : Lx) (x : Bytes) (hh : s.isHTML = true) (hr : s.rest = 123 :: 123 :: x) (hx : x.headD 0 ≠ 45) :
    ∃ t s1, nextStep s = (.tok t, s1) ∧ key t = (.LBRACES, [123, 123]) ∧ t.ty ≠ .EOF ∧ s1.rest = x ∧ s1.prev = 123 ∧
      mode s1 = (false, s.isDirective, s.parens, s.braces, s.panicked) :=
  open_step s x hh hr fun h => hx h.1

theorem code_close_step (s : Lx) (g tl : Bytes) (hh : s.isHTML = false) (hb : s.braces = 0) (hg : allWs g)
    (hr : s.rest = g ++ (125 :: 125 :: tl)) :
    ∃ t s1, nextStep s = (.tok t, s1) ∧ key t = (.RBRACES, [125, 125]) ∧ t.ty ≠ .EOF ∧ s1.rest = tl ∧ s1.prev = 125 ∧
      mode s1 = (true, s.isDirective, s.parens, 0, s.panicked) :=
  code_tok_step s g [125, 125] tl .RBRACES [125, 125] (true, s.isDirective, s.parens, 0, s.panicked)
    hh hg hr (by simp) (by decide) (by simp) (by decide) fun s' hr' hm' => by
      have hbr : s'.braces = 0 := (mode_braces hm').trans hb
      rw [codeStepDesc_rbraces s' (Lx.char_of_rest hr') (Lx.peek_of_rest hr') hbr]
      exact ⟨rfl, rfl, rfl, hr', by simp only [mode]; rw [hbr, mode_dir hm', mode_parens hm', mode_pan hm']⟩

/-- what the lexer and the parser need to know about a one-byte binary operator -/
structure Op1 (c : Byte) (ty : TT) (pr : Nat) : Prop where
  facts : isWs c = false ∧ isNumberCh c = false ∧ c ≠ 46 ∧ (ty == .RBRACES) = false ∧ (ty == .SEMI) = false ∧ (ty == .RPAREN) = false ∧
      precedence ty = pr ∧ hasInfix ty = true ∧ isBinaryOp ty = true ∧ ty ≠ .ILLEGAL ∧ ty ≠ .EOF ∧ (!decide (LOWEST < pr)) = false
  step : ∀ (s : Lx) (g x : Bytes), s.isHTML = false → allWs g → s.rest = g ++ (c :: x) → x.headD 0 ≠ c → x.headD 0 ≠ 61 →
    ∃ t s1, nextStep s = (.tok t, s1) ∧ key t = (ty, [c]) ∧ t.ty = ty ∧ After s s1 x c

theorem Op1.not_ws {c : Byte} {ty : TT} {pr : Nat} (h : Op1 c ty pr) : isWs c = false := h.facts.1
theorem Op1.not_digit {c : Byte} {ty : TT} {pr : Nat} (h : Op1 c ty pr) : isNumberCh c = false := h.facts.2.1
theorem Op1.ne_dot {c : Byte} {ty : TT} {pr : Nat} (h : Op1 c ty pr) : c ≠ 46 := h.facts.2.2.1
theorem Op1.prec_eq {c : Byte} {ty : TT} {pr : Nat} (h : Op1 c ty pr) : precedence ty = pr := h.facts.2.2.2.2.2.2.1
theorem Op1.isBinary {c : Byte} {ty : TT} {pr : Nat} (h : Op1 c ty pr) : isBinaryOp ty = true := h.facts.2.2.2.2.2.2.2.2.1
theorem Op1.ne_illegal {c : Byte} {ty : TT} {pr : Nat} (h : Op1 c ty pr) : ty ≠ .ILLEGAL := h.facts.2.2.2.2.2.2.2.2.2.1
theorem Op1.ne_eof {c : Byte} {ty : TT} {pr : Nat} (h : Op1 c ty pr) : ty ≠ .EOF := h.facts.2.2.2.2.2.2.2.2.2.2.1
theorem Op1.lowest_lt {c : Byte} {ty : TT} {pr : Nat} (h : Op1 c ty pr) : LOWEST < pr := by simpa using h.facts.2.2.2.2.2.2.2.2.2.2.2

theorem codeStepDesc_lbrace (s : Lx) (x : Bytes) (hr : s.rest = 123 :: x) :
    codeStepDesc s = { st := { s with braces := s.braces + 1 }, n := 1, ty := .LBRACE, lit := [123] } := by
  have hc : s.char = 123 := Lx.char_of_rest hr
  rw [codeStepDesc_eq_bracketDesc (by rw [hc]; decide) (by rw [hc]; decide)]
  unfold bracketDesc
  rw [hc]
  simp

theorem codeStepDesc_rbrace (s : Lx) (x : Bytes) (hr : s.rest = 125 :: x) (hx : x.headD 0 ≠ 125) :
    codeStepDesc s = { st := { s with braces := s.braces - 1 }, n := 1, ty := .RBRACE, lit := [125] } := by
  have hc : s.char = 125 := Lx.char_of_rest hr
  rw [codeStepDesc_eq_codeDesc (by rw [Lx.peek_of_rest hr]; exact fun h => hx h.2), codeDesc_eq_bracketDesc (by rw [hc]; decide)]
  unfold bracketDesc
  rw [hc]
  simp

/-- "{" and "}" are not `IsSym`: they move the brace counter, and `code_sym_step` ends in `After`, which keeps the mode;
    so the two go through `code_tok_step` with the mode written out -/
theorem code_lbrace_step (s : Lx) (g x : Bytes) (hh : s.isHTML = false) (hg : allWs g) (hr : s.rest = g ++ (123 :: x))
    (hx : x.headD 0 ≠ 123) :
    ∃ t s1, nextStep s = (.tok t, s1) ∧ key t = (.LBRACE, [123]) ∧ t.ty ≠ .EOF ∧ s1.rest = x ∧ s1.prev = 123 ∧
      mode s1 = (s.isHTML, s.isDirective, s.parens, s.braces + 1, s.panicked) :=
  code_tok_step s g [123] x .LBRACE [123]
    (s.isHTML, s.isDirective, s.parens, s.braces + 1, s.panicked) hh hg hr (List.cons_ne_nil _ _) (by decide) (fun h => hx (by simpa using h.2))
    (by decide) (fun s' hr' hm => by
      rw [codeStepDesc_lbrace s' x hr']
      exact ⟨rfl, rfl, rfl, hr', by simp only [mode]; rw [mode_html hm, mode_dir hm, mode_parens hm, mode_braces hm, mode_pan hm]⟩)

theorem code_rbrace_step (s : Lx) (g x : Bytes) (hh : s.isHTML = false) (hg : allWs g) (hr : s.rest = g ++ (125 :: x))
    (hx : x.headD 0 ≠ 125) :
    ∃ t s1, nextStep s = (.tok t, s1) ∧ key t = (.RBRACE, [125]) ∧ t.ty ≠ .EOF ∧ s1.rest = x ∧ s1.prev = 125 ∧
      mode s1 = (s.isHTML, s.isDirective, s.parens, s.braces - 1, s.panicked) :=
  code_tok_step s g [125] x .RBRACE [125]
    (s.isHTML, s.isDirective, s.parens, s.braces - 1, s.panicked) hh hg hr (List.cons_ne_nil _ _) (by decide) (by simp)
    (by decide) (fun s' hr' hm => by
      rw [codeStepDesc_rbrace s' x hr' hx]
      exact ⟨rfl, rfl, rfl, hr', by simp only [mode]; rw [mode_html hm, mode_dir hm, mode_parens hm, mode_braces hm, mode_pan hm]⟩)

end Tw
