/-
  TwProofs.C03 — `@each` / `@for`: passes in order, loop metadata, break / continue, `@else`.

  The loops of the model's evaluator are described by the inductive relations `EachPasses` and
  `ForPasses` (TwProofs/Lemmas/Loops.lean; the fuel in them is that of the body, the loop
  function's own does not occur): the sequence of passes, each with
  the element bound and `loop` set to the metadata of its position, ending at the first pass
  whose body reports a break.  The theorems say the evaluator emits exactly the text of those
  passes, what `@break` / `@continue` (also conditional, also nested in `@if`) do to a pass, and
  that the loop statement hands back the environment it was given.  And from the source bytes,
  lexer and parser included: `each_renders_once_per_element_from_source`, `each_else_renders_from_source`.
-/
import TwModel
import TwProofs.Lemmas.Loops
import TwProofs.Lemmas.EachSimple
import TwProofs.Lemmas.TextEach
import TwProofs.Lemmas.EachElse
import TwProofs.Lemmas.ScopeEval

namespace Tw.C03
open Tw

/-- `loop.index`, `loop.iter`, `loop.first`, `loop.last` of the element at position `i` of `n` -/
theorem loop_metadata (i n : Nat) :
    loopObj i n = .obj [(b "first", .bool (i == 0)), (b "index", .int (Int64.ofNat i)),
      (b "iter", .int (Int64.ofNat (i + 1))), (b "last", .bool (i + 1 == n))] := rfl

theorem loop_index (i n line : Nat) :
    (match loopObj i n with | .obj kvs => objIndex kvs (b "index") line | _ => .oof) = .ok (.int (Int64.ofNat i)) := by
  simp (config := { decide := true }) [loopObj, objIndex, mapGet, b, utf8Bytes]

theorem loop_iter (i n line : Nat) :
    (match loopObj i n with | .obj kvs => objIndex kvs (b "iter") line | _ => .oof) = .ok (.int (Int64.ofNat (i + 1))) := by
  simp (config := { decide := true }) [loopObj, objIndex, mapGet, b, utf8Bytes]

theorem loop_first (i n line : Nat) :
    (match loopObj i n with | .obj kvs => objIndex kvs (b "first") line | _ => .oof) = .ok (.bool (i == 0)) := by
  simp (config := { decide := true }) [loopObj, objIndex, mapGet, b, utf8Bytes]

theorem loop_last (i n line : Nat) :
    (match loopObj i n with | .obj kvs => objIndex kvs (b "last") line | _ => .oof) = .ok (.bool (i + 1 == n)) := by
  simp (config := { decide := true }) [loopObj, objIndex, mapGet, b, utf8Bytes]

/-- over a non-empty array the statement emits the text of the
    passes — element `k` bound to the variable, `loop` = metadata of position `k` of `n`, in
    order, up to and including the first pass that breaks — carries no break / continue flag
    to the enclosing construct, and returns the environment it was given (so the loop variable,
    `loop`, and whatever the body assigned vanish; an outer `loop` is visible again) -/
theorem each_renders_passes (f : Nat) (c : Ctx) (env : Env) (t : Token) (var : Bytes) (arrE : Expr) (body : List Stmt)
    (alt : Option (List Stmt)) (xs : List Val) (out : Bytes)
    (harr : evalExpr f c env.push arrE = .ok (.arr xs)) (hne : xs ≠ [])
    (hp : EachPasses f c t var body xs.length env.push xs 0 out) :
    evalStmt (f + xs.length + 1 + 1) c env (.eachS t var arrE body alt) = .ok ({ text := out }, env) :=
  evalStmt_each_of_passes f c env t var arrE body alt xs out harr hne hp

/-- for a body of text and plain variable prints — the loop variable,
    `loop`, variables visible outside — and an array of `n ≥ 1` elements of one type, `@each`
    renders, element after element in order, the body's text with the holes filled from the
    environment of that pass (`passEnv`: the element bound to the variable, `loop` = the metadata
    of position `i` of `n`, everything else as outside), and hands back the environment it was
    given.  No hypothesis about passes: they are constructed. -/
theorem each_of_text_and_variables (f : Nat) (c : Ctx) (env : Env) (t : Token) (var : Bytes) (arrE : Expr) (body : List Stmt)
    (alt : Option (List Stmt)) (xs : List Val) (ty : VType)
    (harr : evalExpr f c env.push arrE = .ok (.arr xs)) (hne : xs ≠ [])
    (hv : (var == b "loop") = false) (hfresh : ∀ old, env.get var = some old → old.type = ty)
    (hty : ∀ x ∈ xs, x.type = ty) (hsb : simpleBlock body = true) (hvis : holesVisible env var (piecesOf body)) :
    evalStmt (max f (body.length + 3) + xs.length + 1 + 1) c env (.eachS t var arrE body alt) =
      .ok ({ text := passTexts env var (piecesOf body) xs.length xs 0 }, env) :=
  evalStmt_each_simple f c env t var arrE body alt xs ty harr hne hv hfresh hty hsb hvis

example : (match evaluateStringPure [] (b "@each(v in [\"a\",\"b\"])<{{ v }}|{{ w }}>@end") [(b "w", .int 7)] with
    | .ok out => out == b "<a|7><b|7>" | _ => false) = true := by decide +kernel

/-- the `@else` body is rendered exactly when the array is empty; its break / continue flags go
    to the construct around the loop -/
theorem each_empty_else (f : Nat) (c : Ctx) (env : Env) (t : Token) (var : Bytes) (arrE : Expr) (body ab : List Stmt)
    (harr : evalExpr f c env.push arrE = .ok (.arr [])) :
    evalStmt (f + 1) c env (.eachS t var arrE body (some ab)) = (evalBlock f c env.push ab).bind fun r => .ok (r.1, env) :=
  evalStmt_each_empty f c env t var arrE body (some ab) harr

theorem each_empty_no_else (f : Nat) (c : Ctx) (env : Env) (t : Token) (var : Bytes) (arrE : Expr) (body : List Stmt)
    (harr : evalExpr f c env.push arrE = .ok (.arr [])) :
    evalStmt (f + 1) c env (.eachS t var arrE body none) = .ok ({}, env) :=
  evalStmt_each_empty f c env t var arrE body none harr

/-- iterating a value that is not an array is an error with the line of the directive -/
theorem each_non_array (f : Nat) (c : Ctx) (env : Env) (t : Token) (var : Bytes) (arrE : Expr) (body : List Stmt)
    (alt : Option (List Stmt)) (v : Val) (hl : evalExpr f c env.push arrE = .ok v) (hv : ∀ xs, v ≠ .arr xs) :
    evalStmt (f + 1) c env (.eachS t var arrE body alt) = .err "ErrEachNotArray" t.errorLine [v.typeName] :=
  evalStmt_each_non_array hl hv

def ForEntry (f : Nat) (c : Ctx) (env : Env) (init : Option Stmt) (env1 : Env) : Prop :=
  match init with
  | none => env1 = env.push
  | some i => ∃ o, evalStmt f c env.push i = .ok (o, env1)

theorem evalStmt_for_entered {f : Nat} {c : Ctx} {env env1 : Env} {init : Option Stmt} (h : ForEntry f c env init env1) (k : Nat)
    (t : Token) (cnd : Option Expr) (post : Option Stmt) (body : List Stmt) (alt : Option (List Stmt)) :
    evalStmt (f + k + 1) c env (.forS t init cnd post body alt) =
      (loopCond (evalExpr (f + k)) c env1 cnd).bind fun entry =>
        if entry then (forLoop (f + k) c env1 t init cnd post body []).bind fun txt => .ok ({ text := txt }, env)
        else match alt with
          | some ab => (evalBlock (f + k) c env1 ab).bind fun r => .ok (r.1, env)
          | none => .ok ({}, env) := by
  rw [evalStmt_succ]
  cases init with
  | none => rw [show env1 = env.push from h]; rfl
  | some i =>
    obtain ⟨o, ho⟩ := h
    simp only [stmtBody, calleesAt_stmt, evalStmt_lift ho, Res.bind_ok]
    rfl

/-- while the condition is truthy the body is rendered and the post
    clause applied, in order, up to and including the first pass that breaks; no flag reaches
    the enclosing construct and the environment handed back is the one given -/
theorem for_renders_passes (f : Nat) (c : Ctx) (env env1 : Env) (t : Token) (init : Option Stmt) (cnd : Option Expr)
    (post : Option Stmt) (body : List Stmt) (alt : Option (List Stmt)) (m : Nat) (out : Bytes)
    (hinit : ForEntry f c env init env1) (hentry : CondIs f c env1 cnd true)
    (hp : ForPasses f c t init cnd post body env1 m out) :
    evalStmt (f + m + 1 + 1) c env (.forS t init cnd post body alt) = .ok ({ text := out }, env) := by
  rw [show f + m + 1 = f + (m + 1) from rfl, evalStmt_for_entered hinit, hentry.loopCond, Res.bind_ok, if_pos rfl,
    show f + (m + 1) = f + m + 1 from rfl, forLoop_passes hp, Res.bind_ok, List.nil_append]

/-- the `@else` body of `@for` is rendered exactly when the condition is false at entry -/
theorem for_else (f : Nat) (c : Ctx) (env env1 : Env) (t : Token) (init : Option Stmt) (cnd : Option Expr)
    (post : Option Stmt) (body ab : List Stmt)
    (hinit : ForEntry f c env init env1) (hentry : CondIs f c env1 cnd false) :
    evalStmt (f + 1) c env (.forS t init cnd post body (some ab)) = (evalBlock f c env1 ab).bind fun r => .ok (r.1, env) := by
  have h := evalStmt_for_entered hinit 0 t cnd post body (some ab)
  rwa [hentry.loopCond, Res.bind_ok, if_neg (by simp)] at h

theorem break_sets_flag (f : Nat) (c : Ctx) (env : Env) (t : Token) :
    evalStmt (f + 1) c env (.brk t) = .ok ({ brk := true }, env) := rfl

theorem continue_sets_flag (f : Nat) (c : Ctx) (env : Env) (t : Token) :
    evalStmt (f + 1) c env (.cont t) = .ok ({ cont := true }, env) := rfl

/-- a block stops after the statement that reports break or continue: what preceded it in the
    block has been emitted, what follows is not evaluated -/
theorem block_stops_at_control (f : Nat) (c : Ctx) (env : Env) (s : Stmt) (rest : List Stmt) (r1 : Out × Env)
    (hs : evalStmt f c env s = .ok r1) (hflag : (r1.1.brk || r1.1.cont) = true) :
    evalBlock (f + 1) c env (s :: rest) = .ok r1 := by
  rw [evalBlock_cons, hs, Res.bind_ok, if_pos hflag]

/-- otherwise the texts are concatenated and the flags of the rest are the block's flags -/
theorem block_continues (f : Nat) (c : Ctx) (env : Env) (s : Stmt) (rest : List Stmt) (r1 : Out × Env)
    (hs : evalStmt f c env s = .ok r1) (hflag : (r1.1.brk || r1.1.cont) = false) :
    evalBlock (f + 1) c env (s :: rest) =
      (evalBlock f c r1.2 rest).bind fun r2 =>
        .ok ({ text := r1.1.text ++ r2.1.text, brk := r2.1.brk, cont := r2.1.cont }, r2.2) := by
  rw [evalBlock_cons, hs, Res.bind_ok, if_neg (by rw [hflag]; simp)]

/-- an `@if` hands the flags of the branch it rendered to the construct around it, so a break or
    continue nested in `@if` blocks reaches the innermost enclosing loop -/
theorem if_passes_flags_on (f : Nat) (c : Ctx) (env : Env) (t : Token) (cnd : Expr) (cons : List Stmt)
    (alts : List (Expr × List Stmt)) (alt : Option (List Stmt)) (v : Val) (r : Out × Env)
    (hc : evalExpr f c env cnd = .ok v) (hv : isTruthy v = true) (hb : evalBlock f c env.push cons = .ok r) :
    evalStmt (f + 1) c env (.ifS t cnd cons alts alt) = .ok (r.1, env) := by
  rw [evalStmt_ifS, hc, Res.bind_ok, if_pos hv, hb, Res.bind_ok]

/-- a pass that ends with continue (and not break) is followed by the next pass: this is the
    `pass` rule of `EachPasses`, which looks at the break flag only -/
theorem continue_skips_rest_of_pass_only (f : Nat) (c : Ctx) (t : Token) (var : Bytes) (body : List Stmt) (n : Nat)
    (env env1 : Env) (x : Val) (rest : List Val) (i : Nat) (r : Out × Env) (out : Bytes)
    (hs : setVar env var x t.errorLine = .ok env1)
    (hb : evalBlock f c (env1.setLoop (loopObj i n)) body = .ok r) (hcont : r.1.cont = true) (hbrk : r.1.brk = false)
    (hrest : EachPasses f c t var body n r.2 rest (i + 1) out) :
    EachPasses f c t var body n env (x :: rest) i (r.1.text ++ out) :=
  .pass env x rest i env1 r out hs hb hbrk hrest

/-- a template of text, `{{ name }}` blocks and
    `@each(x in xs) body @end` loops (any spacing inside the parentheses; the body text and
    `{{ name }}` blocks) renders, for every data map, to the text with — at each loop — the body
    once per element of the array bound to `xs`, in order, `x` bound to the element and `loop` to
    the metadata of its position (`passTexts`), and nothing for an empty array.  The prints after a
    loop are filled from the outer environment: the loop variable does not leak. -/
theorem each_renders_once_per_element_from_source (custom : List ((VType × Bytes) × Nat)) (items : List XItem)
    (hok : XItemsOK items) (data : List (Bytes × GoVal)) (env : Env) (henv : envFromMap data = .ok env)
    (hb : xbound env (xspec items)) (hsize : xneed env (xspec items) ≤ evalFuel) :
    evaluateStringPure custom (xitemsSrc items) data = .ok (xrender env (xspec items)) :=
  xitems_render custom items hok data env henv hb hsize

/-- what a loop contributes, unrolled: the pass for the first element, then the passes for the rest
    at the next positions -/
theorem passTexts_cons (env : Env) (var : Bytes) (ps : List Piece) (n : Nat) (x : Val) (r : List Val) (i : Nat) :
    passTexts env var ps n (x :: r) i = fill (passEnv env var x i n) ps ++ passTexts env var ps n r (i + 1) := rfl

/-- the number of passes is the number of elements: the loop neither skips nor repeats one -/
theorem passTexts_of_constant_body (env : Env) (var : Bytes) (t : Bytes) (n : Nat) : ∀ (xs : List Val) (i : Nat),
    (passTexts env var [.text t] n xs i).length = xs.length * t.length
  | [], _ => by simp [passTexts]
  | x :: r, i => by
    have := passTexts_of_constant_body env var t n r (i + 1)
    simp only [passTexts, fill, List.length_append, this, List.length_cons, Nat.succ_mul]
    simp
    omega

section example_each
private def exItems : List XItem := [.text [.plain (b "n: ")],
  .each [] (b "v") (b " ") (b "  ") (b "xs") (b " ") [.print [] (b "v") (b " "), .text [.plain (b ",")]],
  .text [.plain (b " by ")], .print [] (b "who") []]
private def exData : List (Bytes × GoVal) := [(b "xs", .slice [.int 4, .int 5, .int 6]), (b "who", .str (b "me"))]
private def exEnv : Env := [[(b "who", .str (b "me")), (b "xs", .arr [.int 4, .int 5, .int 6])]]

private theorem exSrc : xitemsSrc exItems = b "n: @each(v in  xs ){{v }},@end by {{who}}" := by decide +kernel
private theorem exOK : XItemsOK exItems := by decide +kernel

example : xitemsSrc exItems = b "n: @each(v in  xs ){{v }},@end by {{who}}" := exSrc
example : XItemsOK exItems := exOK

example : evaluateStringPure [] (b "n: @each(v in  xs ){{v }},@end by {{who}}") exData = .ok (b "n: 4,5,6, by me") := by
  have hbound : xbound exEnv (xspec exItems) := by
    refine ⟨⟨[.int 4, .int 5, .int 6], .INTEGER, rfl, by decide +kernel, by decide +kernel⟩, by decide +kernel, ⟨Or.inl rfl, trivial⟩, by decide +kernel, trivial⟩
  have h := each_renders_once_per_element_from_source [] exItems exOK exData exEnv (by rfl) hbound (by decide +kernel)
  have h2 : xrender exEnv (xspec exItems) = b "n: 4,5,6, by me" := by decide +kernel
  rw [exSrc, h2] at h
  exact h
end example_each

/-- for the template
    `@each(x in xs) body @else other @end` (any white space inside the parentheses; `body` of text
    and `{{ name }}` blocks, `other` also with assignments; the text right after `@else` not
    beginning with "if") and every data map that binds `xs` to an array of elements of one type,
    the render is the body once per element, in order (`passTexts`), when the array has elements —
    the `@else` block is not evaluated then — and the `@else` block, evaluated in a scope of its
    own, when the array is empty. -/
theorem each_else_renders_from_source (custom : List ((VType × Bytes) × Nat)) (g1 x g2 g3 xs g4 : Bytes) (body ebody : List AItem)
    (hok : EachElseOK g1 x g2 g3 xs g4 body ebody) (hna : noAssign body = true)
    (data : List (Bytes × GoVal)) (env : Env) (henv : envFromMap data = .ok env)
    (vs : List Val) (ty : VType) (harr : env.get xs = some (.arr vs)) (hty : ∀ v ∈ vs, v.type = ty)
    (hxl : (x == b "loop") = false) (hfresh : ∀ old, env.get x = some old → old.type = ty)
    (hvis : holesVisible env x (apieces body)) (hel : vs = [] → abound env.push ebody)
    (hsize : body.length + ebody.length + vs.length + 10 ≤ evalFuel) :
    evaluateStringPure custom (eachElseSrc g1 x g2 g3 xs g4 body ebody) data =
      .ok (if vs = [] then (aeval env.push ebody).1 else passTexts env x (apieces body) vs.length vs 0) := by
  obtain ⟨prog, t1, t5, stmts, estmts, hp, hs, hm1, hm2⟩ := parse_each_else_source g1 x g2 g3 xs g4 body ebody hok
  obtain ⟨hsb, hpc⟩ := amatch_simple stmts body hm1 hna
  have hlen : stmts.length = body.length := hm1.length_eq
  refine source_renders hp henv (env' := env) ?_
  obtain ⟨F, hF⟩ : ∃ F, evalFuel = F + 1 + 1 + 1 := ⟨evalFuel - 3, by omega⟩
  rw [hs, hF, evalProg_cons]
  by_cases hne : vs = []
  · subst hne
    rw [each_empty_else (F + 1) _ env t1 x (.ident t5 xs) stmts estmts (by simp [evalExpr, get_push, harr]),
      evalBlock_abody _ estmts ebody hm2 env.push (F + 1) (hel rfl) (by simp at hsize; omega), Res.bind_ok, Res.bind_ok, evalProg_nil]
    rfl
  · rw [Renders.each_simple _ t1 t5 (some estmts) harr hne hxl hfresh hty hsb (by rw [hpc]; exact hvis) (F + 1 + 1) (by omega), Res.bind_ok,
      evalProg_nil, if_neg hne, hpc]
    rfl

section example_each_else
private def exBody : List AItem := [.print [] (b "v") [], .text (b ",")]
private def exElse : List AItem := [.text (b "none for "), .print [32] (b "who") [32]]

private theorem exElseSrc : eachElseSrc [] (b "v") [32] [32] (b "xs") [] exBody exElse = b "@each(v in xs){{v}},@elsenone for {{ who }}@end" := by decide +kernel
private theorem exElseOK : EachElseOK [] (b "v") [32] [32] (b "xs") [] exBody exElse :=
  ⟨by decide +kernel, by decide +kernel, by decide +kernel, by decide +kernel, by decide +kernel, by decide +kernel, by decide +kernel,
    by decide +kernel, by decide +kernel, by decide +kernel, by decide +kernel⟩

example : eachElseSrc [] (b "v") [32] [32] (b "xs") [] exBody exElse = b "@each(v in xs){{v}},@elsenone for {{ who }}@end" := exElseSrc

/-- the array has elements: the passes; it is empty: the `@else` block -/
example : evaluateStringPure [] (b "@each(v in xs){{v}},@elsenone for {{ who }}@end") [(b "who", .str (b "me")), (b "xs", .slice [.int 1, .int 2])] = .ok (b "1,2,") := by
  have h := each_else_renders_from_source [] [] (b "v") [32] [32] (b "xs") [] exBody exElse
    exElseOK (by decide +kernel)
    [(b "who", .str (b "me")), (b "xs", .slice [.int 1, .int 2])] [[(b "who", .str (b "me")), (b "xs", .arr [.int 1, .int 2])]] (by rfl)
    [.int 1, .int 2] .INTEGER (by rfl) (by decide +kernel) (by decide +kernel)
    (fun old ho => by have : Env.get [[(b "who", Val.str (b "me")), (b "xs", Val.arr [.int 1, .int 2])]] (b "v") = none := by decide +kernel
                      rw [this] at ho; cases ho)
    ⟨Or.inl rfl, trivial⟩ (fun e => by cases e) (by decide +kernel)
  have ho : passTexts [[(b "who", Val.str (b "me")), (b "xs", Val.arr [.int 1, .int 2])]] (b "v") (apieces exBody) 2 [.int 1, .int 2] 0 = b "1,2," := by decide +kernel
  rw [exElseSrc] at h
  simp only [reduceCtorEq, if_false, List.length_cons, List.length_nil] at h
  rw [show (0 + 1 + 1 : Nat) = 2 from rfl, ho] at h
  exact h

example : evaluateStringPure [] (b "@each(v in xs){{v}},@elsenone for {{ who }}@end") [(b "who", .str (b "me")), (b "xs", .slice [])] = .ok (b "none for me") := by
  have h := each_else_renders_from_source [] [] (b "v") [32] [32] (b "xs") [] exBody exElse
    exElseOK (by decide +kernel)
    [(b "who", .str (b "me")), (b "xs", .slice [])] [[(b "who", .str (b "me")), (b "xs", .arr [])]] (by rfl)
    [] .INTEGER (by rfl) (fun v hv => by cases hv) (by decide +kernel)
    (fun old ho => by have : Env.get [[(b "who", Val.str (b "me")), (b "xs", Val.arr [])]] (b "v") = none := by decide +kernel
                      rw [this] at ho; cases ho)
    ⟨Or.inl rfl, trivial⟩ (fun _ => ⟨by rfl, trivial⟩) (by decide +kernel)
  have ho : (aeval (Env.push [[(b "who", Val.str (b "me")), (b "xs", Val.arr [])]]) exElse).1 = b "none for me" := by decide +kernel
  rw [exElseSrc] at h
  simp only [if_true] at h
  rw [ho] at h
  exact h
end example_each_else

example : (match evaluateStringPure [] (b "@each(v in [7,8,9]){{ loop.index }}{{ loop.iter }}{{ loop.first }}{{ loop.last }}:{{ v }};@end") [] with
    | .ok out => out == b "0110:7;1200:8;2301:9;" | _ => false) = true := by decide +kernel

example : (match evaluateStringPure [] (b "@each(v in [1,2,3,4])a@if(v == 2)@continue@end@if(v == 3)b@break@end{{ v }}@end!") [] with
    | .ok out => out == b "a1aab!" | _ => false) = true := by decide +kernel

example : (match evaluateStringPure [] (b "@for(i = 0; i < 3; i++){{ i }}@else none@end|@for(i = 0; i < 0; i++)x@else none@end") [] with
    | .ok out => out == b "012| none" | _ => false) = true := by decide +kernel

end Tw.C03
