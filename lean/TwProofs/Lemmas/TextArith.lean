/-
  TwProofs.Lemmas.TextArith — integer literals, names and one operator, from the source bytes to the parsed program and
  its value (C01): `{{ digits }}`, `{{ name }}`, `{{ a op b }}` for two literals and one of the five arithmetic operators
  (`ArithOp`), `{{ -digits }}`.  Per shape its tokens (`x_block`), its parse (`xCode_parses`) and, for the two with an
  operator, its value (`x_evals`).
-/
import TwProofs.Lemmas.ParseStmts
import TwProofs.Lemmas.CodeBlock
namespace Tw
open Lx

theorem evalExpr_int (f : Nat) (c : Ctx) (env : Env) (t : Token) (v : Int64) : evalExpr (f + 1) c env (.int t v) = .ok (.int v) := rfl

theorem infixOp_int (op : Bytes) (a b' : Int64) (line : Nat) : infixOp op (.int a) (.int b') line = intInfix op a b' line := by
  simp only [infixOp, Val.type, bne_self_eq_false, Bool.false_eq_true, if_false]

theorem evalExpr_inf_int (f : Nat) (c : Ctx) (env : Env) (t : Token) (op : Bytes) (l r : Expr) (a b' : Int64)
    (hl : evalExpr f c env l = .ok (.int a)) (hr : evalExpr f c env r = .ok (.int b')) :
    evalExpr (f + 1) c env (.inf t op l r) = intInfix op a b' l.line := by
  rw [evalExpr_inf, hl, hr]
  exact infixOp_int ..

theorem head_ne_of_all {P : Byte → Bool} {l u : Bytes} {c : Byte} (hl : ∀ x ∈ l, P x = true) (hc : P c = false)
    (hz : l = [] → u.headD 0 ≠ c) : (l ++ u).headD 0 ≠ c := by
  cases l with
  | nil => exact hz rfl
  | cons w t =>
    intro e
    have hw : P w = true := hl w List.mem_cons_self
    rw [show w = c from e, hc] at hw; cases hw

theorem digits_head_ne {d x : Bytes} {c : Byte} (hd : isDigits d) (hc : isNumberCh c = false) : (d ++ x).headD 0 ≠ c :=
  head_ne_of_all hd.2 hc (fun e => absurd e hd.1)

theorem gap_digits_head_ne {g d x : Bytes} {c : Byte} (hg : allWs g) (hd : isDigits d) (h1 : isWs c = false) (h2 : isNumberCh c = false) :
    (g ++ (d ++ x)).headD 0 ≠ c :=
  head_ne_of_all hg h1 fun _ => digits_head_ne hd h2

/-- `{{ g1 d g2 }}` -/
def intSrc (g1 d g2 : Bytes) : Bytes := [123, 123] ++ g1 ++ d ++ g2 ++ [125, 125]

def intKeys (d : Bytes) : List (TT × Bytes) := [(.LBRACES, [123, 123]), (.INT, d), (.RBRACES, [125, 125])]

def intCode (g1 d g2 : Bytes) : Code := { src := intSrc g1 d g2, keys := intKeys d }

theorem int_block (g1 d g2 : Bytes) (hg1 : allWs g1) (hg2 : allWs g2) (hd : isDigits d) (dir : Bool) :
    Block dir (intCode g1 d g2) [(g1, .int d)] g2 where
  src tl := by simp only [intCode, intSrc, List.append_assoc, List.cons_append, List.nil_append]; rfl
  keys := rfl
  gap := hg2
  first _ _ h := by cases h
  lexemes _ := ⟨hg1, Lexeme.int_before hd hg2 rfl (by decide), trivial⟩

theorem intCode_parses (g1 d g2 : Bytes) (hg1 : allWs g1) (hg2 : allWs g2) (hd : isDigits d) (hb : digitsToNat d ≤ 9223372036854775807) :
    ParsesAs (intCode g1 d g2) (fun st => ∃ t2 e, st = .expr t2 e ∧ e = .int t2 (Int64.ofNat (digitsToNat d))) :=
  (int_block g1 d g2 hg1 hg2 hd false).parsesAs trivial fun _ ty2 lit2 _ _ ty3 _ =>
    ⟨_, _, _, Nat.le_of_ble_eq_true rfl, .one (atomExpr_int ty2 (parseInt64_lit lit2 hd hb)) (.rbraces ty3), rfl⟩

/-- `{{ g1 n g2 }}` -/
def printCode (g1 n g2 : Bytes) : Code :=
  { src := [123, 123] ++ g1 ++ n ++ g2 ++ [125, 125], keys := [(.LBRACES, [123, 123]), (.IDENT, n), (.RBRACES, [125, 125])] }

theorem print_block (g1 k g2 : Bytes) (hg1 : allWs g1) (hg2 : allWs g2) (hk : isName k) (dir : Bool) :
    Block dir (printCode g1 k g2) [(g1, .word k)] g2 where
  src tl := by simp only [printCode, List.append_assoc, List.cons_append, List.nil_append]; rfl
  keys := by simp [printCode, blockKeys, Lexeme.key, hk.2.2]
  gap := hg2
  first _ _ h := by cases h
  lexemes _ := ⟨hg1, Lexeme.word_ok (isName_word hk) hg2 (fun _ => rfl), trivial⟩

theorem printCode_parses (g1 k g2 : Bytes) (hg1 : allWs g1) (hg2 : allWs g2) (hk : isName k) :
    ParsesAs (printCode g1 k g2) (fun st => ∃ t2 e, st = .expr t2 e ∧ e = .ident t2 k) :=
  (print_block g1 k g2 hg1 hg2 hk false).parsesAs trivial fun _ ty2 lit2 _ _ ty3 _ =>
    ⟨_, _, _, Nat.le_of_ble_eq_true rfl, .one (atomExpr_ident (ty2.trans hk.2.2)) (.rbraces ty3), by rw [lit2]; rfl⟩

def ProdOp (c : Byte) (ty : TT) : Prop := (c = 42 ∧ ty = .MUL) ∨ (c = 47 ∧ ty = .DIV) ∨ (c = 37 ∧ ty = .MOD)

theorem ProdOp.isSym {c : Byte} {ty : TT} {z : Byte} (h : ProdOp c ty) (dir : Bool) : IsSym dir c ty z := by
  rcases h with ⟨rfl, rfl⟩ | ⟨rfl, rfl⟩ | ⟨rfl, rfl⟩ <;> exact Or.inl rfl

def SumOp (c : Byte) (ty : TT) : Prop := (c = 43 ∧ ty = .ADD) ∨ (c = 45 ∧ ty = .SUB)

theorem SumOp.isSym {c : Byte} {ty : TT} {z : Byte} (h : SumOp c ty) (hz : z ≠ c) (dir : Bool) : IsSym dir c ty z := by
  rcases h with ⟨rfl, rfl⟩ | ⟨rfl, rfl⟩
  · exact Or.inr (Or.inr ⟨43, .INC, by decide, hz⟩)
  · exact Or.inr (Or.inr ⟨45, .DEC, by decide, hz⟩)

def ArithOp (c : Byte) (ty : TT) (pr : Nat) : Prop := (ProdOp c ty ∧ pr = PRODUCT) ∨ (SumOp c ty ∧ pr = SUM)

theorem ArithOp.isSym {c : Byte} {ty : TT} {pr : Nat} {z : Byte} (h : ArithOp c ty pr) (hz : z ≠ c) (dir : Bool) : IsSym dir c ty z :=
  h.elim (fun h => h.1.isSym dir) (fun h => h.1.isSym hz dir)

theorem ArithOp.ne_lparen {c : Byte} {ty : TT} {pr : Nat} (h : ArithOp c ty pr) : (40 : Byte) ≠ c := by
  rcases h with ⟨⟨rfl, _⟩ | ⟨rfl, _⟩ | ⟨rfl, _⟩, _⟩ | ⟨⟨rfl, _⟩ | ⟨rfl, _⟩, _⟩ <;> decide

/-- the field `Op1.facts` (Lemmas/CodeSteps), part for part -/
theorem ArithOp.facts {c : Byte} {ty : TT} {pr : Nat} (h : ArithOp c ty pr) :
    isWs c = false ∧ isNumberCh c = false ∧ c ≠ 46 ∧ (ty == .RBRACES) = false ∧ (ty == .SEMI) = false ∧ (ty == .RPAREN) = false ∧
      precedence ty = pr ∧ hasInfix ty = true ∧ isBinaryOp ty = true ∧ ty ≠ .ILLEGAL ∧ ty ≠ .EOF ∧ (!decide (LOWEST < pr)) = false := by
  rcases h with ⟨⟨rfl, rfl⟩ | ⟨rfl, rfl⟩ | ⟨rfl, rfl⟩, rfl⟩ | ⟨⟨rfl, rfl⟩ | ⟨rfl, rfl⟩, rfl⟩ <;> decide

theorem code_arithop_step (s : Lx) (c : Byte) (ty : TT) (pr : Nat) (g x : Bytes) (hop : ArithOp c ty pr) (hh : s.isHTML = false) (hg : allWs g)
    (hr : s.rest = g ++ (c :: x)) (hx : x.headD 0 ≠ c) :
    ∃ t s1, nextStep s = (.tok t, s1) ∧ key t = (ty, [c]) ∧ t.ty = ty ∧ After s s1 x c :=
  code_sym_step s c ty g x hh hg hr (hop.isSym hx _)

theorem Op1.of_arith {c : Byte} {ty : TT} {pr : Nat} (h : ArithOp c ty pr) : Op1 c ty pr :=
  ⟨h.facts, fun s g x hh hg hr hx _ => code_arithop_step s c ty pr g x h hh hg hr hx⟩

theorem ArithOp.not_ws {c : Byte} {ty : TT} {pr : Nat} (h : ArithOp c ty pr) : isWs c = false := (Op1.of_arith h).not_ws
theorem ArithOp.not_digit {c : Byte} {ty : TT} {pr : Nat} (h : ArithOp c ty pr) : isNumberCh c = false := (Op1.of_arith h).not_digit
theorem ArithOp.ne_dot {c : Byte} {ty : TT} {pr : Nat} (h : ArithOp c ty pr) : c ≠ 46 := (Op1.of_arith h).ne_dot
theorem ArithOp.prec_eq {c : Byte} {ty : TT} {pr : Nat} (h : ArithOp c ty pr) : precedence ty = pr := (Op1.of_arith h).prec_eq
theorem ArithOp.isBinary {c : Byte} {ty : TT} {pr : Nat} (h : ArithOp c ty pr) : isBinaryOp ty = true := (Op1.of_arith h).isBinary
theorem ArithOp.ne_illegal {c : Byte} {ty : TT} {pr : Nat} (h : ArithOp c ty pr) : ty ≠ .ILLEGAL := (Op1.of_arith h).ne_illegal
theorem ArithOp.ne_eof {c : Byte} {ty : TT} {pr : Nat} (h : ArithOp c ty pr) : ty ≠ .EOF := (Op1.of_arith h).ne_eof
theorem ArithOp.lowest_lt {c : Byte} {ty : TT} {pr : Nat} (h : ArithOp c ty pr) : LOWEST < pr := (Op1.of_arith h).lowest_lt

/-- `{{ g1 a g3 c g4 b g2 }}` -/
def arithSrc (g1 a g3 : Bytes) (c : Byte) (g4 b' g2 : Bytes) : Bytes := [123, 123] ++ g1 ++ a ++ g3 ++ [c] ++ g4 ++ b' ++ g2 ++ [125, 125]

def arithKeys (a : Bytes) (c : Byte) (ty : TT) (b' : Bytes) : List (TT × Bytes) :=
  [(.LBRACES, [123, 123]), (.INT, a), (ty, [c]), (.INT, b'), (.RBRACES, [125, 125])]

def arith2Lexemes (g1 a g3 : Bytes) (c : Byte) (ty : TT) (g4 b' : Bytes) : List (Bytes × Lexeme) :=
  [(g1, .int a), (g3, .sym c ty), (g4, .int b')]

def arith2Code (g1 a g3 : Bytes) (c : Byte) (ty : TT) (g4 b' g2 : Bytes) : Code :=
  { src := arithSrc g1 a g3 c g4 b' g2, keys := arithKeys a c ty b' }

theorem arith2_block (g1 a g3 : Bytes) (c : Byte) (ty : TT) (g4 b' g2 : Bytes) (hg1 : allWs g1) (hg2 : allWs g2) (hg3 : allWs g3)
    (hg4 : allWs g4) (ha : isDigits a) (hbd : isDigits b') (pr : Nat) (hop : ArithOp c ty pr) (dir : Bool) :
    Block dir (arith2Code g1 a g3 c ty g4 b' g2) (arith2Lexemes g1 a g3 c ty g4 b') g2 where
  src tl := by simp only [arith2Code, arithSrc, List.append_assoc, List.cons_append, List.nil_append]; rfl
  keys := rfl
  gap := hg2
  first _ _ h := by cases h
  lexemes _ := ⟨hg1, Lexeme.int_before ha hg3 hop.not_digit hop.ne_dot,
    hg3, hop.isSym (gap_digits_head_ne hg4 hbd hop.not_ws hop.not_digit) dir,
    hg4, Lexeme.int_before hbd hg2 rfl (by decide), trivial⟩

theorem ParsesAt.lit_op_lit {t2 t3 t4 t5 : Token} {tail : List Token} {e2 e4 : Expr} {c : Byte} {ty : TT} {pr : Nat}
    (hop : ArithOp c ty pr) (h3 : t3.ty = ty) (h5 : t5.ty = .RBRACES)
    (he2 : atomExpr t2 = some e2) (he4 : atomExpr t4 = some e4) (hclean : NoIll (t4 :: t5 :: tail)) :
    ParsesAt 4 LOWEST (t2 :: t3 :: t4 :: t5 :: tail) (.inf t3 t3.lit e2 e4) (t4 :: t5 :: tail) := by
  subst h3
  obtain rfl := hop.prec_eq
  exact .atom he2 (.op hop.isBinary hop.lowest_lt hclean (.one he4 (.rbraces h5)) (.stop (.rbraces h5)))

theorem arith2Code_parses (g1 a g3 : Bytes) (c : Byte) (ty : TT) (g4 b' g2 : Bytes) (hg1 : allWs g1) (hg2 : allWs g2) (hg3 : allWs g3)
    (hg4 : allWs g4) (ha : isDigits a) (hbd : isDigits b') (pr : Nat) (hop : ArithOp c ty pr) (hba : digitsToNat a ≤ 9223372036854775807)
    (hbb : digitsToNat b' ≤ 9223372036854775807) :
    ParsesAs (arith2Code g1 a g3 c ty g4 b' g2) (fun st => ∃ t4 e, st = .expr t4 e ∧ ∃ t2 t3,
      e = .inf t3 [c] (.int t2 (Int64.ofNat (digitsToNat a))) (.int t4 (Int64.ofNat (digitsToNat b')))) :=
  (arith2_block g1 a g3 c ty g4 b' g2 hg1 hg2 hg3 hg4 ha hbd pr hop false).parsesAs nofun
    fun t2 ty2 lit2 t3 ty3 lit3 _ ty4 lit4 _ _ ty5 cl =>
      ⟨_, _, _, Nat.le_of_ble_eq_true rfl, .lit_op_lit hop ty3 ty5 (atomExpr_int ty2 (parseInt64_lit lit2 ha hba))
        (atomExpr_int ty4 (parseInt64_lit lit4 hbd hbb)) (cl.drop 2), t2, t3, by rw [lit3]; rfl⟩

theorem arith2_evals (c : Ctx) (env : Env) (t2 t3 t4 : Token) (op : Bytes) (a b' : Int64) (fu : Nat) :
    evalExpr (fu + 7) c env (.inf t3 op (.int t2 a) (.int t4 b')) = intInfix op a b' (Expr.int t2 a).line :=
  evalExpr_inf_int (fu + 6) c env t3 op _ _ a b' (evalExpr_int ..) (evalExpr_int ..)

theorem arithOp_sub : ArithOp 45 .SUB SUM := Or.inr ⟨Or.inr ⟨rfl, rfl⟩, rfl⟩

/-- `{{ w g1 - g3 d g2 }}` (at least one white-space byte after the braces: `{{--` opens a comment) -/
def negSrc (w : Byte) (g1 g3 d g2 : Bytes) : Bytes := [123, 123] ++ (w :: g1) ++ [45] ++ g3 ++ d ++ g2 ++ [125, 125]

def negKeys (d : Bytes) : List (TT × Bytes) := [(.LBRACES, [123, 123]), (.SUB, [45]), (.INT, d), (.RBRACES, [125, 125])]

def negCode (w : Byte) (g1 g3 d g2 : Bytes) : Code := { src := negSrc w g1 g3 d g2, keys := negKeys d }

theorem neg_block (w : Byte) (g1 g3 d g2 : Bytes) (hw : isWs w = true) (hg1 : allWs g1) (hg2 : allWs g2) (hg3 : allWs g3) (hd : isDigits d)
    (dir : Bool) : Block dir (negCode w g1 g3 d g2) [(w :: g1, .sym 45 .SUB), (g3, .int d)] g2 where
  src tl := by simp only [negCode, negSrc, List.append_assoc, List.cons_append, List.nil_append]; rfl
  keys := rfl
  gap := hg2
  first _ _ h := by cases h
  lexemes _ := ⟨List.forall_mem_cons.mpr ⟨hw, hg1⟩, arithOp_sub.isSym (gap_digits_head_ne hg3 hd rfl rfl) dir,
    hg3, Lexeme.int_before hd hg2 rfl (by decide), trivial⟩

theorem ParsesAt.neg_int {t2 t3 t4 : Token} {tail : List Token} {v : Int64} (h2 : t2.ty = .SUB) (h3 : t3.ty = .INT) (h4 : t4.ty = .RBRACES)
    (hv : parseInt64 t3.lit = some v) (hclean : NoIll (t4 :: tail)) :
    ParsesAt 3 LOWEST (t2 :: t3 :: t4 :: tail) (.pre t2 t2.lit (.int t3 v)) (t3 :: t4 :: tail) :=
  .pre (rest := t3 :: t4 :: tail) (.inl h2) hclean (.one (atomExpr_int h3 hv) (.rbraces h4)) (.stop (.rbraces h4))

theorem negCode_parses (w : Byte) (g1 g3 d g2 : Bytes) (hw : isWs w = true) (hg1 : allWs g1) (hg2 : allWs g2) (hg3 : allWs g3) (hd : isDigits d)
    (hb : digitsToNat d ≤ 9223372036854775807) :
    ParsesAs (negCode w g1 g3 d g2) (fun st => ∃ t3 e, st = .expr t3 e ∧ ∃ t2, e = .pre t2 [45] (.int t3 (Int64.ofNat (digitsToNat d)))) :=
  (neg_block w g1 g3 d g2 hw hg1 hg2 hg3 hd false).parsesAs nofun fun t2 ty2 lit2 _ ty3 lit3 _ _ ty4 cl =>
    ⟨_, _, _, Nat.le_of_ble_eq_true rfl, .neg_int ty2 ty3 ty4 (parseInt64_lit lit3 hd hb) (cl.drop 2), t2, by rw [lit2]; rfl⟩

theorem neg_evals (c : Ctx) (env : Env) (t2 t3 : Token) (x : Int64) (fu : Nat) :
    evalExpr (fu + 7) c env (.pre t2 [45] (.int t3 x)) = .ok (.int (-x)) := by
  rw [evalExpr_pre, evalExpr_int]
  simp only [Res.bind_ok, prefixOp, show (([45] : Bytes) == b "-") = true from by decide, if_true]

/-! Statements in their own right about the same shapes, each read off the shape's `x_block` or its rule.
    No from-source proof uses them. -/

theorem parse_int_operand (f prec : Nat) (t tn : Token) (rest : List Token) (v : Int64) (ht : t.ty = .INT) (hv : parseInt64 t.lit = some v)
    (hstop : tn.ty = .RBRACES ∨ ¬ prec < precedence tn.ty) :
    parseExpression (f + 2) prec ({ toks := t :: tn :: rest } : PS) = (.int t v, { toks := t :: tn :: rest }) :=
  (ParsesAt.one (atomExpr_int ht hv) (hstop.elim .rbraces fun h => .le (Nat.le_of_not_lt h))).on (by omega) rfl

theorem lex_int_block (s : Lx) (g1 d g2 tl : Bytes) (hh : s.isHTML = true) (hb : s.braces = 0) (hg1 : allWs g1) (hg2 : allWs g2)
    (hd : isDigits d) (hr : s.rest = intSrc g1 d g2 ++ tl) :
    ∃ toks s3, Run s toks s3 ∧ toks.map key = intKeys d ∧ s3.rest = tl ∧ s3.prev = 125 ∧
      mode s3 = (true, s.isDirective, s.parens, 0, s.panicked) :=
  (int_block g1 d g2 hg1 hg2 hd _).lex rfl hh hb hr

theorem parse_int_stmt (g : Nat) (t1 t2 t3 : Token) (tail : List Token) (v : Int64) (h1 : t1.ty = .LBRACES) (h2 : t2.ty = .INT)
    (h3 : t3.ty = .RBRACES) (hv : parseInt64 t2.lit = some v) (hclean : ∀ x ∈ tail, x.ty ≠ .ILLEGAL) :
    parseStatement (g + 3) ({ toks := t1 :: t2 :: t3 :: tail } : PS) = (.expr t2 (.int t2 v), { toks := t3 :: tail }) :=
  (StmtAt.expr_of_ty h1 h2 h3 (.of_ty h3 hclean) hclean (.one (atomExpr_int h2 hv) (.rbraces h3))).on (by omega) rfl

theorem codeStepDesc_sumop (s : Lx) (c : Byte) (ty : TT) (x : Bytes) (hop : SumOp c ty) (hr : s.rest = c :: x) (hx : x.headD 0 ≠ c) :
    codeStepDesc s = { st := s, n := 1, ty := ty, lit := [c] } :=
  codeStepDesc_sym s c ty x hr (hop.isSym hx _)

theorem lex_arith2 (s : Lx) (g1 a g3 : Bytes) (c : Byte) (ty : TT) (g4 b' g2 tl : Bytes) (hh : s.isHTML = true) (hb : s.braces = 0)
    (hg1 : allWs g1) (hg2 : allWs g2) (hg3 : allWs g3) (hg4 : allWs g4) (ha : isDigits a) (hbd : isDigits b') (pr : Nat) (hop : ArithOp c ty pr)
    (hr : s.rest = arithSrc g1 a g3 c g4 b' g2 ++ tl) :
    ∃ toks s5, Run s toks s5 ∧ toks.map key = arithKeys a c ty b' ∧ s5.rest = tl ∧ s5.prev = 125 ∧
      mode s5 = (true, s.isDirective, s.parens, 0, s.panicked) :=
  (arith2_block g1 a g3 c ty g4 b' g2 hg1 hg2 hg3 hg4 ha hbd pr hop _).lex rfl hh hb hr

theorem prattLoop_arith_step (f prec : Nat) (left right : Expr) (t top tnext : Token) (rest rest' : List Token) (c : Byte) (ty : TT) (pr : Nat)
    (hop : ArithOp c ty pr) (htop : top.ty = ty) (hlt : prec < pr) (hnext : tnext.ty ≠ .RBRACES)
    (hclean : ∀ x ∈ tnext :: rest, x.ty ≠ .ILLEGAL)
    (hright : parseExpression f pr ({ toks := tnext :: rest } : PS) = (right, { toks := rest' })) :
    prattLoop (f + 1) prec left ({ toks := t :: top :: tnext :: rest } : PS) =
      prattLoop f prec (.inf top top.lit left right) ({ toks := rest' } : PS) := by
  subst htop
  obtain rfl := hop.prec_eq
  exact prattLoop_turn (p := { toks := [] }) (by simp [hasInfix, hop.isBinary]) hlt hclean
    (infixBody_op hop.isBinary (NoIll.tail hclean) hnext hright)

theorem parse_arith2_stmt (g : Nat) (t1 t2 t3 t4 t5 : Token) (tail : List Token) (va vb : Int64) (c : Byte) (ty : TT) (pr : Nat) (hop : ArithOp c ty pr)
    (h1 : t1.ty = .LBRACES) (h2 : t2.ty = .INT) (h3 : t3.ty = ty) (h4 : t4.ty = .INT) (h5 : t5.ty = .RBRACES)
    (hva : parseInt64 t2.lit = some va) (hvb : parseInt64 t4.lit = some vb) (hclean : ∀ x ∈ tail, x.ty ≠ .ILLEGAL) :
    parseStatement (g + 5) ({ toks := t1 :: t2 :: t3 :: t4 :: t5 :: tail } : PS) =
      (.expr t4 (.inf t3 t3.lit (.int t2 va) (.int t4 vb)), { toks := t5 :: tail }) :=
  have c4 : NoIll (t4 :: t5 :: tail) := .of_ty h4 (.of_ty h5 hclean)
  (StmtAt.expr_of_ty h1 h2 h5 (.cons (h3 ▸ hop.ne_illegal) c4) hclean
    (ParsesAt.lit_op_lit hop h3 h5 (atomExpr_int h2 hva) (atomExpr_int h4 hvb) c4)).on (by omega) rfl

theorem lex_neg (s : Lx) (w : Byte) (g1 g3 d g2 tl : Bytes) (hh : s.isHTML = true) (hb : s.braces = 0) (hw : isWs w = true)
    (hg1 : allWs g1) (hg2 : allWs g2) (hg3 : allWs g3) (hd : isDigits d) (hr : s.rest = negSrc w g1 g3 d g2 ++ tl) :
    ∃ toks s4, Run s toks s4 ∧ toks.map key = negKeys d ∧ s4.rest = tl ∧ s4.prev = 125 ∧
      mode s4 = (true, s.isDirective, s.parens, 0, s.panicked) :=
  (neg_block w g1 g3 d g2 hw hg1 hg2 hg3 hd _).lex rfl hh hb hr

theorem parse_neg_expr (k : Nat) (t2 t3 t4 : Token) (tail : List Token) (v : Int64) (h2 : t2.ty = .SUB) (h3 : t3.ty = .INT) (h4 : t4.ty = .RBRACES)
    (hv : parseInt64 t3.lit = some v) (hclean : ∀ x ∈ tail, x.ty ≠ .ILLEGAL) :
    parseExpression (k + 3) LOWEST ({ toks := t2 :: t3 :: t4 :: tail } : PS) = (.pre t2 t2.lit (.int t3 v), { toks := t3 :: t4 :: tail }) :=
  (ParsesAt.neg_int h2 h3 h4 hv (.of_ty h4 hclean)).on (by omega) rfl

end Tw
