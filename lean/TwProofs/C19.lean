/-
  TwProofs.C19 — token positions are exact, ordered and tile the source.

  Model: `TwModel.Lexer` (transcription of lexer/lexer.go).  Statement-level definitions:
  `lineOf` / `colOf` / `posOf` (the position function), `Spans`, `Covers`, `Tiled`, `slice`,
  `FullTiled` and `Gap` (TwProofs/Lemmas/LexPos.lean, LexSpan.lean).
  Main statements: `token_list_is_fully_tiled` (order, exact positions, literals, what lies
  between tokens), `contains_iff_covered` (a cursor is in the range of the one token covering
  it), and for strings, whose literal is not the covered text, `string_token_is_the_quoted_text`
  and `unterminated_string_runs_to_the_end`.
-/
import TwProofs.Lemmas.LexStr
import TwProofs.Lemmas.LexSpan

namespace Tw.C19
open Tw Tw.Lx

/-- `readChar` keeps line / column equal to the position function, and remembers the position
    of the byte it leaves -/
theorem readChar_position (s : Lx) (h : PosInv s) :
    PosInv (readChar s) ∧
    (s.rest ≠ [] → (readChar s).prevLine = lineOf s.pre ∧ (readChar s).prevCol = colOf s.pre) :=
  posInv_readChar s h

/-- every token returned by a `NextToken` body (after `skipWhitespace`) covers `n ≥ 1` of the
    remaining bytes; its start is the position of the first, its end the position of the last of
    them; the state it leaves agrees with the position function again.  For every token kind:
    text, braces, directives, strings (also unterminated ones, which run to the end), numbers,
    identifiers, operators, ILLEGAL -/
theorem token_span (s : Lx) (hinv : PosInv s) (hne : s.rest ≠ []) (t : Token) (h : (stepAt s).1 = .tok t) :
    ∃ n, Spans s t (stepAt s).2 n :=
  (stepAt_covers hinv hne (Prod.ext h rfl)).imp fun _ h => h.1

/-- the token list of a whole input: source order, no overlap, exact positions, and the EOF
    token at the position just past the last byte -/
theorem tokens_tile_source (inp : Bytes) (r : LexResult) (h : tokenize inp = some r) : Tiled inp 0 r.toks :=
  tokenize_tiled inp r h

/-- the ILLEGAL branch of `directiveToken` (which would emit a token that does not start where
    the directive starts) is unreachable -/
theorem directive_always_found (s : Lx) (h : (isDirectiveToken s).1 = true) : (directiveDesc s).ty ≠ .ILLEGAL := by
  rw [directiveDesc_eq s h]
  exact dirScan_ne_illegal s h

def posLt (p q : Nat × Nat) : Prop := p.1 < q.1 ∨ (p.1 = q.1 ∧ p.2 < q.2)

theorem lineOf_take_mono (inp : Bytes) (i j : Nat) (h : i ≤ j) : lineOf (inp.take i).reverse ≤ lineOf (inp.take j).reverse := by
  unfold lineOf
  rw [List.count_reverse, List.count_reverse]
  obtain ⟨k, rfl⟩ : ∃ k, j = i + k := ⟨j - i, by omega⟩
  rw [List.take_add]
  simp [List.count_append]

/-- the position function is strictly increasing in the offset: a later byte has a later
    (line, column) -/
theorem posOf_strict_mono (inp : Bytes) (i : Nat) (h : i + 1 ≤ inp.length) : posLt (posOf inp i) (posOf inp (i + 1)) := by
  unfold posLt posOf
  have hsplit : inp.take (i + 1) = inp.take i ++ [inp[i]'(by omega)] := by
    rw [List.take_add_one]; simp [List.getElem?_eq_getElem (by omega : i < inp.length)]
  rw [hsplit]
  simp only [List.reverse_append, List.reverse_cons, List.reverse_nil, List.nil_append, List.singleton_append]
  by_cases hlf : inp[i]'(by omega) = 10
  · left; rw [hlf]; simp
  · right
    exact ⟨(lineOf_cons_ne _ _ hlf).symm, by rw [colOf_cons_ne _ _ hlf]; omega⟩

theorem posLt_trans {p q r : Nat × Nat} (h1 : posLt p q) (h2 : posLt q r) : posLt p r := by
  unfold posLt at *
  omega

theorem posLt_irrefl (p : Nat × Nat) : ¬ posLt p p := by unfold posLt; omega

theorem posOf_lt (inp : Bytes) (i j : Nat) (hij : i < j) (hj : j ≤ inp.length) : posLt (posOf inp i) (posOf inp j) := by
  obtain ⟨k, rfl⟩ : ∃ k, j = i + 1 + k := ⟨j - i - 1, by omega⟩
  induction k with
  | zero => exact posOf_strict_mono inp i hj
  | succ k ih =>
    exact posLt_trans (ih (by omega) (by omega)) (posOf_strict_mono inp (i + 1 + k) (by omega))

/-- `Position.Contains` is "not before the start and not after the end" in the lexicographic
    order of (line, column) -/
theorem contains_iff_between (p : Pos) (l c : Nat) :
    p.contains l c = true ↔ ¬ posLt (l, c) (p.startLine, p.startCol) ∧ ¬ posLt (p.endLine, p.endCol) (l, c) := by
  unfold Pos.contains posLt
  by_cases h1 : l < p.startLine
  · simp [h1]
  · by_cases h2 : l > p.endLine
    · simp [h2]
    · simp only [h1, h2, decide_false, Bool.or_self, Bool.false_eq_true, if_false]
      by_cases h3 : l = p.startLine
      · by_cases h4 : c < p.startCol
        · simp [h3, h4]
        · by_cases h5 : l = p.endLine
          · by_cases h6 : c > p.endCol
            · simp [h3, h4, ← h5, h6]
            · simp [h3, h4, ← h5, h6]
          · simp [h3, h4]; omega
      · by_cases h5 : l = p.endLine
        · by_cases h6 : c > p.endCol
          · simp [h5, h6]
          · simp [h5, h6]; omega
        · simp [h3, h5]; omega

/-- **a cursor lies in a token's range exactly when the token covers that byte**: for a token
    that covers the bytes `[a, a + n)`, `Position.Contains` accepts the position of byte `i` iff
    `a ≤ i < a + n`.  With `tokens_tile_source` (disjoint ranges in source order) a cursor on a
    byte is inside at most one token, the one covering the byte. -/
theorem contains_iff_covered (inp : Bytes) (t : Token) (a n : Nat) (hc : Covers inp t a n) (i : Nat) (hi : i < inp.length) :
    t.pos.contains (posOf inp i).1 (posOf inp i).2 = true ↔ a ≤ i ∧ i < a + n := by
  rw [contains_iff_between, hc.start, hc.stop]
  have hn := hc.n_pos
  have hle := hc.le
  constructor
  · intro ⟨h1, h2⟩
    constructor
    · apply Classical.byContradiction; intro hlt
      exact h1 (posOf_lt inp i a (by omega) (by omega))
    · apply Classical.byContradiction; intro hge
      exact h2 (posOf_lt inp (a + n - 1) i (by omega) (by omega))
  · intro ⟨h1, h2⟩
    constructor
    · intro hlt
      rcases Nat.lt_or_ge a i with h | h
      · exact posLt_irrefl _ (posLt_trans hlt (posOf_lt inp a i h (by omega)))
      · have : i = a := by omega
        rw [this] at hlt; exact posLt_irrefl _ hlt
    · intro hlt
      rcases Nat.lt_or_ge i (a + n - 1) with h | h
      · exact posLt_irrefl _ (posLt_trans hlt (posOf_lt inp i (a + n - 1) h (by omega)))
      · have : i = a + n - 1 := by omega
        rw [this] at hlt; exact posLt_irrefl _ hlt

/-- **the whole statement about the token list of an input** (`FullTiled`): the tokens come in
    source order without overlap; each covers `[a', a' + n)` with its start the position of byte
    `a'` and its end the position of byte `a' + n - 1`; its literal — unless it is a string (quotes
    and escapes removed) or a text token (escaping backslashes removed) — is exactly these bytes;
    between two tokens, and before the closing EOF, lies a `Gap`: white space and
    `{{-- … --}}` pieces, possibly ended by `{{--` and any bytes (the shape of an unterminated
    comment, which `Gap` admits in every gap, not only before EOF); EOF sits at the position just
    past the last byte. -/
theorem token_list_is_fully_tiled (inp : Bytes) (r : LexResult) (h : tokenize inp = some r) : FullTiled inp 0 r.toks :=
  tokenize_fullTiled inp r h

/-- one token: its literal is the text it covers (every token kind but strings and text) -/
theorem token_literal_is_covered_text (s : Lx) (hne : s.rest ≠ []) (t : Token) (h : (stepAt s).1 = .tok t)
    (hs : t.ty ≠ .STR) (hh : t.ty ≠ .HTML) : ∃ n, t.lit = s.rest.take n ∧ (stepAt s).2.rest = s.rest.drop n := by
  rcases stepAt_tok hne (Prod.ext h rfl : stepAt s = (.tok t, (stepAt s).2)) with ⟨_, _, hc, _⟩ | ⟨d, hd, ht, hsame⟩
  · cases hc
  · cases ht
    rw [TokDesc.emit_ty] at hs hh
    exact ⟨d.n, by rw [TokDesc.emit_lit]; exact hd.lit hs hh, by rw [hsame.rest, TokDesc.emit_rest, hd.same.rest]⟩

/-- **string tokens**: in code, at a quote, a string that is terminated before the end of the
    input becomes one STR token that covers exactly the opening quote, the text and the closing
    quote (`n` bytes of the input), and whose literal is the text with every escaped quote `\q`
    replaced by `q` — the same quote character on both ends, single or double.  `hterm` says
    "terminated": `strSpan` counts a closing quote whether or not there is one, so its count fits
    in the input exactly when the quote is there -/
theorem string_token_is_the_quoted_text (s : Lx) (hh : s.isHTML = false) (q : Byte) (after : Bytes)
    (hq : q = 34 ∨ q = 39) (hr : s.rest = q :: after) (hterm : (strSpan s.rest).1 ≤ s.rest.length) :
    ∃ t n raw, stepAt s = (.tok t, (stepAt s).2) ∧ t.ty = .STR ∧ s.rest.take n = q :: (raw ++ [q]) ∧
      t.lit = replaceAll raw [92, q] [q] ∧ (stepAt s).2.rest = s.rest.drop n := by
  have hstep := stepAt_string s hh q after hq hr
  refine ⟨(strDesc s).emit.1, (strDesc s).n, (strSpan s.rest).2, ?_, ?_, ?_, ?_, ?_⟩
  · rw [hstep]
  · rw [TokDesc.emit_ty]; rfl
  · show s.rest.take (strSpan s.rest).1 = _
    rw [hr] at hterm ⊢
    exact strSpan_shape q after hterm
  · rw [TokDesc.emit_lit]
    show replaceAll (strSpan s.rest).2 [92, s.char] [s.char] = _
    rw [Lx.char_of_rest hr]
  · rw [hstep, TokDesc.emit_rest]; rfl

example : (match tokenize (b "{{ 'it\\'s' }}") with
    | some r => r.toks.map (fun t => (t.ty, t.lit)) == [(.LBRACES, b "{{"), (.STR, b "it's"), (.RBRACES, b "}}"), (.EOF, [])]
    | none => false) = true := by decide +kernel

/-- **an unterminated string**: in code, at a quote with no closing quote before the end of the
    input, the lexer makes one STR token of everything that is left — it covers the rest of the
    input to its last byte, its literal is the text after the opening quote (escaped quotes
    unescaped), and the lexer is at the end of the input afterwards (`hopen`: the count of
    `strSpan`, which includes a closing quote, exceeds what is left) -/
theorem unterminated_string_runs_to_the_end (s : Lx) (hh : s.isHTML = false) (q : Byte) (after : Bytes)
    (hq : q = 34 ∨ q = 39) (hr : s.rest = q :: after) (hopen : s.rest.length < (strSpan s.rest).1) :
    ∃ t n, stepAt s = (.tok t, (stepAt s).2) ∧ t.ty = .STR ∧ s.rest.take n = s.rest ∧
      t.lit = replaceAll after [92, q] [q] ∧ (stepAt s).2.rest = [] := by
  have hstep := stepAt_string s hh q after hq hr
  obtain ⟨h1, h2⟩ := strSpan_unterminated q after (hr ▸ hopen)
  refine ⟨(strDesc s).emit.1, (strDesc s).n, ?_, ?_, ?_, ?_, ?_⟩
  · rw [hstep]
  · rw [TokDesc.emit_ty]; rfl
  · show s.rest.take (strSpan s.rest).1 = _
    rw [hr]; exact h1
  · rw [TokDesc.emit_lit]
    show replaceAll (strSpan s.rest).2 [92, s.char] [s.char] = _
    rw [Lx.char_of_rest hr, hr, h2]
  · rw [hstep, TokDesc.emit_rest]
    show s.rest.drop (strSpan s.rest).1 = []
    exact List.drop_eq_nil_of_le (Nat.le_of_lt hopen)

example : (match tokenize (b "{{ 'it\\'s }}") with
    | some r => r.toks.map (fun t => (t.ty, t.lit)) == [(.LBRACES, b "{{"), (.STR, b "it's }}"), (.EOF, [])]
    | none => false) = true := by decide +kernel


/-! non-vacuity: a concrete input with multi-line text, a string with a newline, a comment -/

example : Gap (b " \n\t{{-- a --}} {{-- b") := by
  have h1 : Gap (b "{{-- b") := Gap.opened (b " b")
  have h2 : Gap (b " {{-- b") := Gap.ws 32 _ (by decide +kernel) h1
  have h3 := Gap.comment (b " a ") _ h2
  exact Gap.ws 32 _ (by decide +kernel) (Gap.ws 10 _ (by decide +kernel) (Gap.ws 9 _ (by decide +kernel) h3))

example : (tokenize (b "a\n{{ \"x\ny\" }}{{-- c --}}z")).isSome = true := by decide +kernel

example : ((tokenize (b "ab\n{{ x }}")).map fun r => r.toks.map fun t => (t.ty, t.pos.startLine, t.pos.startCol, t.pos.endLine, t.pos.endCol)) =
    some [(.HTML, 0, 0, 0, 2), (.LBRACES, 1, 0, 1, 1), (.IDENT, 1, 3, 1, 3), (.RBRACES, 1, 5, 1, 6), (.EOF, 1, 7, 1, 7)] := by
  decide +kernel

end Tw.C19
