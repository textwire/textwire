/-
  TwProofs.Lemmas.EvalStep — one-step equations of the evaluator.  Expressions: at fuel `f + 1`
  a compound node is the `Res.bind` of its operands at fuel `f` and an operator helper.
  Statements: at fuel `f + 1` each function is its (non-recursive) body applied to the functions
  at fuel `f`.
-/
import TwModel

namespace Tw

theorem Res.bind_assoc {α β γ} (r : Res α) (f : α → Res β) (g : β → Res γ) :
    (r.bind f).bind g = r.bind fun a => (f a).bind g := by
  cases r <;> rfl

theorem Res.bind_eq_ok {α β} {r : Res α} {g : α → Res β} {y : β} (h : r.bind g = .ok y) : ∃ a, r = .ok a ∧ g a = .ok y := by
  cases r with
  | ok a => exact ⟨a, rfl, h⟩
  | _ => cases h

theorem evalExpr_ident (f : Nat) (c : Ctx) (env : Env) (t : Token) (name : Bytes) :
    evalExpr (f + 1) c env (.ident t name) =
      match env.get name with
      | some v => .ok v
      | none => .err "ErrIdentifierNotFound" t.errorLine [name] := rfl

/-! The model propagates `err` / `panic` / `oof` by a `match` on the operand's result; each proof
    shows that match (by unfolding) and compares it with `Res.bind` outcome by outcome. -/

theorem evalExpr_arr (f : Nat) (c : Ctx) (env : Env) (t : Token) (elems : List Expr) :
    evalExpr (f + 1) c env (.arr t elems) = (evalExprs f c env elems).bind fun vs => .ok (.arr vs) := by
  show (match evalExprs f c env elems with
    | .ok vs => _ | .err a l as => Res.err a l as | .panic w => Res.panic w | .oof => Res.oof) = _
  cases evalExprs f c env elems <;> rfl

theorem evalExpr_obj (f : Nat) (c : Ctx) (env : Env) (t : Token) (pairs : List (Bytes × Expr)) :
    evalExpr (f + 1) c env (.obj t pairs) = (evalPairs f c env (sortByKey pairs)).bind fun kvs => .ok (.obj kvs) := by
  show (match evalPairs f c env (sortByKey pairs) with
    | .ok kvs => _ | .err a l as => Res.err a l as | .panic w => Res.panic w | .oof => Res.oof) = _
  cases evalPairs f c env (sortByKey pairs) <;> rfl

theorem evalExpr_pre (f : Nat) (c : Ctx) (env : Env) (t : Token) (op : Bytes) (r : Expr) :
    evalExpr (f + 1) c env (.pre t op r) = (evalExpr f c env r).bind fun v => prefixOp op v t.errorLine := by
  show (match evalExpr f c env r with | .ok v => _ | other => other) = _
  cases evalExpr f c env r <;> rfl

theorem evalExpr_post (f : Nat) (c : Ctx) (env : Env) (t : Token) (op : Bytes) (l : Expr) :
    evalExpr (f + 1) c env (.post t op l) = (evalExpr f c env l).bind fun v => postfixOp op v t.errorLine := by
  show (match evalExpr f c env l with | .ok v => _ | other => other) = _
  cases evalExpr f c env l <;> rfl

theorem evalExpr_dot_match (f : Nat) (c : Ctx) (env : Env) (t : Token) (l : Expr) (key : Bytes) :
    evalExpr (f + 1) c env (.dot t l key) =
      match evalExpr f c env l with
      | .ok (.obj kvs) => objIndex kvs key t.errorLine
      | .ok lv => .err "ErrDotOperatorNotSupported" t.errorLine [lv.typeName]
      | other => other := rfl

theorem evalExpr_dot (f : Nat) (c : Ctx) (env : Env) (t : Token) (l : Expr) (key : Bytes) :
    evalExpr (f + 1) c env (.dot t l key) =
      (evalExpr f c env l).bind fun lv =>
        match lv with
        | .obj kvs => objIndex kvs key t.errorLine
        | lv => .err "ErrDotOperatorNotSupported" t.errorLine [lv.typeName] := by
  rw [evalExpr_dot_match]
  cases evalExpr f c env l with
  | ok lv => cases lv <;> rfl
  | _ => rfl

theorem evalExpr_tern_match (f : Nat) (c : Ctx) (env : Env) (t : Token) (cnd a bb : Expr) :
    evalExpr (f + 1) c env (.tern t cnd a bb) =
      match evalExpr f c env cnd with
      | .ok v => if isTruthy v then evalExpr f c env a else evalExpr f c env bb
      | other => other := rfl

theorem evalExpr_tern (f : Nat) (c : Ctx) (env : Env) (t : Token) (cnd a bb : Expr) :
    evalExpr (f + 1) c env (.tern t cnd a bb) =
      (evalExpr f c env cnd).bind fun v => if isTruthy v then evalExpr f c env a else evalExpr f c env bb := by
  rw [evalExpr_tern_match]
  cases evalExpr f c env cnd <;> rfl

theorem evalExpr_inf (f : Nat) (c : Ctx) (env : Env) (t : Token) (op : Bytes) (l r : Expr) :
    evalExpr (f + 1) c env (.inf t op l r) =
      (evalExpr f c env l).bind fun lv => (evalExpr f c env r).bind fun rv => infixOp op lv rv l.line := by
  show (match evalExpr f c env l with
    | .ok lv => (match evalExpr f c env r with | .ok rv => _ | other => other)
    | other => other) = _
  cases evalExpr f c env l with
  | ok lv => cases evalExpr f c env r <;> rfl
  | _ => rfl

theorem evalExpr_index (f : Nat) (c : Ctx) (env : Env) (t : Token) (l i : Expr) :
    evalExpr (f + 1) c env (.index t l i) =
      (evalExpr f c env l).bind fun lv => (evalExpr f c env i).bind fun iv =>
        match lv, iv with
        | .arr xs, .int n => .ok (arrIndex xs n)
        | .obj kvs, .str k => objIndex kvs k i.line
        | _, _ => .err "ErrIndexNotSupported" t.errorLine [lv.typeName] := by
  show (match evalExpr f c env l with
    | .ok lv => (match evalExpr f c env i with | .ok iv => _ | other => other)
    | other => other) = _
  cases evalExpr f c env l with
  | ok lv => cases evalExpr f c env i <;> rfl
  | _ => rfl

theorem evalExpr_call (f : Nat) (c : Ctx) (env : Env) (t : Token) (recv : Expr) (fn : Bytes) (args : List Expr) :
    evalExpr (f + 1) c env (.call t recv fn args) =
      (evalExpr f c env recv).bind fun rv =>
        if !hasBuiltinTable rv.type then .err "ErrNoFuncForThisType" t.errorLine [fn, rv.typeName]
        else
          (evalExprs f c env args).bind fun avs =>
            match callBuiltin rv fn avs with
            | some (.ok v) => .ok v
            | some (.error (code, eargs)) => .err code t.errorLine eargs
            | none =>
              match lookupCustom c rv.type fn with
              | some fid => .ok (callCustom fid rv avs)
              | none => .err "ErrNoFuncForThisType" t.errorLine [fn, rv.typeName] := by
  show (match evalExpr f c env recv with
    | .ok rv =>
      if !hasBuiltinTable rv.type then _
      else (match evalExprs f c env args with
        | .ok avs => _ | .err a l as => Res.err a l as | .panic w => Res.panic w | .oof => Res.oof)
    | other => other) = _
  cases evalExpr f c env recv with
  | ok rv => cases evalExprs f c env args <;> rfl
  | _ => rfl

theorem evalExprs_cons (f : Nat) (c : Ctx) (env : Env) (e : Expr) (r : List Expr) :
    evalExprs (f + 1) c env (e :: r) =
      (evalExpr f c env e).bind fun v => (evalExprs f c env r).bind fun vs => .ok (v :: vs) := by
  show (match evalExpr f c env e with
    | .ok v => (match evalExprs f c env r with | .ok vs => _ | other => other)
    | .err a l as => Res.err a l as | .panic w => Res.panic w | .oof => Res.oof) = _
  cases evalExpr f c env e with
  | ok v => cases evalExprs f c env r <;> rfl
  | _ => rfl

theorem evalPairs_cons (f : Nat) (c : Ctx) (env : Env) (k : Bytes) (e : Expr) (r : List (Bytes × Expr)) :
    evalPairs (f + 1) c env ((k, e) :: r) =
      (evalExpr f c env e).bind fun v => (evalPairs f c env r).bind fun kvs => .ok ((k, v) :: kvs) := by
  show (match evalExpr f c env e with
    | .ok v => (match evalPairs f c env r with | .ok kvs => _ | other => other)
    | .err a l as => Res.err a l as | .panic w => Res.panic w | .oof => Res.oof) = _
  cases evalExpr f c env e with
  | ok v => cases evalPairs f c env r <;> rfl
  | _ => rfl

theorem evalStmt_succ (f : Nat) (c : Ctx) (env : Env) (s : Stmt) :
    evalStmt (f + 1) c env s = stmtBody (calleesAt f) c env s := rfl
theorem evalElseIfs_succ (f : Nat) (c : Ctx) (env : Env) (alts : List (Expr × List Stmt)) (alt : Option (List Stmt)) :
    evalElseIfs (f + 1) c env alts alt = elseIfsBody (calleesAt f) c env alts alt := rfl
theorem evalBlock_succ (f : Nat) (c : Ctx) (env : Env) (ss : List Stmt) :
    evalBlock (f + 1) c env ss = blockBody (calleesAt f) c env ss := rfl
theorem evalProg_succ (f : Nat) (c : Ctx) (env : Env) (ss : List Stmt) (acc : Bytes) :
    evalProg (f + 1) c env ss acc = progBody (calleesAt f) c env ss acc := rfl
theorem forLoop_succ (f : Nat) (c : Ctx) (env : Env) (t : Token) (init : Option Stmt) (cnd : Option Expr)
    (post : Option Stmt) (body : List Stmt) (acc : Bytes) :
    forLoop (f + 1) c env t init cnd post body acc = forBody (calleesAt f) c env t init cnd post body acc := rfl
theorem eachLoop_succ (f : Nat) (c : Ctx) (env : Env) (t : Token) (var : Bytes) (body : List Stmt) (xs : List Val)
    (i n : Nat) (acc : Bytes) :
    eachLoop (f + 1) c env t var body xs i n acc = eachBody (calleesAt f) c env t var body xs i n acc := rfl

@[simp] theorem calleesAt_expr (f : Nat) : (calleesAt f).expr = evalExpr f := rfl
@[simp] theorem calleesAt_exprs (f : Nat) : (calleesAt f).exprs = evalExprs f := rfl
@[simp] theorem calleesAt_pairs (f : Nat) : (calleesAt f).pairs = evalPairs f := rfl
@[simp] theorem calleesAt_stmt (f : Nat) : (calleesAt f).stmt = evalStmt f := rfl
@[simp] theorem calleesAt_elseIfs (f : Nat) : (calleesAt f).elseIfs = evalElseIfs f := rfl
@[simp] theorem calleesAt_block (f : Nat) : (calleesAt f).block = evalBlock f := rfl
@[simp] theorem calleesAt_prog (f : Nat) : (calleesAt f).prog = evalProg f := rfl
@[simp] theorem calleesAt_forL (f : Nat) : (calleesAt f).forL = forLoop f := rfl
@[simp] theorem calleesAt_eachL (f : Nat) : (calleesAt f).eachL = eachLoop f := rfl

theorem stmtBody_dump (k : Callees) (c : Ctx) (env : Env) (t : Token) (args : List Expr) :
    stmtBody k c env (.dump t args) =
      (k.exprs c env args).bind fun vs => .ok ({ text := vs.flatMap fun v => dumpHtmlPre ++ v.dump 0 ++ dumpHtmlPost }, env) := by
  show (match k.exprs c env args with
    | .ok vs => _ | .err a l as => Res.err a l as | .panic w => Res.panic w | .oof => Res.oof) = _
  cases k.exprs c env args <;> rfl

theorem evalStmt_html (f : Nat) (c : Ctx) (env : Env) (t : Token) :
    evalStmt (f + 1) c env (.html t) = .ok ({ text := t.lit }, env) := rfl

theorem evalStmt_expr (f : Nat) (c : Ctx) (env : Env) (t : Token) (e : Expr) :
    evalStmt (f + 1) c env (.expr t e) = (evalExpr f c env e).bind fun v => .ok ({ text := v.toStr }, env) := rfl

theorem evalBlock_nil (f : Nat) (c : Ctx) (env : Env) : evalBlock (f + 1) c env [] = .ok ({}, env) := rfl
theorem evalProg_nil (f : Nat) (c : Ctx) (env : Env) (acc : Bytes) : evalProg (f + 1) c env [] acc = .ok (acc, env) := rfl

theorem evalProg_cons (f : Nat) (c : Ctx) (env : Env) (s : Stmt) (r : List Stmt) (acc : Bytes) :
    evalProg (f + 1) c env (s :: r) acc = (evalStmt f c env s).bind fun r1 => evalProg f c r1.2 r (acc ++ r1.1.text) := rfl

theorem evalBlock_cons (f : Nat) (c : Ctx) (env : Env) (s : Stmt) (r : List Stmt) :
    evalBlock (f + 1) c env (s :: r) = (evalStmt f c env s).bind fun r1 =>
      if r1.1.brk || r1.1.cont then .ok r1
      else (evalBlock f c r1.2 r).bind fun r2 =>
        .ok ({ text := r1.1.text ++ r2.1.text, brk := r2.1.brk, cont := r2.1.cont }, r2.2) := rfl

theorem evalStmt_ifS (f : Nat) (c : Ctx) (env : Env) (t : Token) (cnd : Expr) (cons : List Stmt)
    (alts : List (Expr × List Stmt)) (alt : Option (List Stmt)) :
    evalStmt (f + 1) c env (.ifS t cnd cons alts alt) =
      (evalExpr f c env cnd).bind fun v =>
        if isTruthy v then (evalBlock f c env.push cons).bind fun r => .ok (r.1, env)
        else evalElseIfs f c env alts alt := rfl

theorem evalStmt_each_non_array {f : Nat} {c : Ctx} {env : Env} {t : Token} {var : Bytes} {arrE : Expr} {body : List Stmt}
    {alt : Option (List Stmt)} {v : Val} (hl : evalExpr f c env.push arrE = .ok v) (hv : ∀ xs, v ≠ .arr xs) :
    evalStmt (f + 1) c env (.eachS t var arrE body alt) = .err "ErrEachNotArray" t.errorLine [v.typeName] := by
  rw [evalStmt_succ]
  simp only [stmtBody, calleesAt_expr]
  rw [hl, Res.bind_ok]
  cases v with
  | arr xs => exact absurd rfl (hv xs)
  | _ => rfl

theorem evalElseIfs_nil (f : Nat) (c : Ctx) (env : Env) (alt : Option (List Stmt)) :
    evalElseIfs (f + 1) c env [] alt =
      match alt with
      | some ab => (evalBlock f c env.push ab).bind fun r => .ok (r.1, env)
      | none => .ok ({}, env) := rfl

theorem evalElseIfs_cons (f : Nat) (c : Ctx) (env : Env) (ce : Expr) (body : List Stmt) (rest : List (Expr × List Stmt))
    (alt : Option (List Stmt)) :
    evalElseIfs (f + 1) c env ((ce, body) :: rest) alt =
      (evalExpr f c env ce).bind fun v =>
        if isTruthy v then (evalBlock f c env.push body).bind fun r => .ok (r.1, env)
        else evalElseIfs f c env rest alt := rfl

end Tw
