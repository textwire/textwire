/-
  TwProofs.Lemmas.EvalWalk — one walk over the evaluator.  The bodies of the evaluator are made of calls of the evaluator
  one fuel level down (on parts of their argument, or on a program the context holds: layout, insert, component), of
  `Res.bind`, and of leaves that are values, errors at a line of the argument or of the context, or (only at a `bad` node)
  a panic.  So a relation between results that holds of such leaves and is closed under `Res.bind` (`ResRel.Closed`)
  holds between every evaluation at fuel `n` and the same evaluation at fuel `n + 1` (`calleesAt_rel`).
  "More fuel, same answer", "never a panic" and "errors name a line" are three such relations.
-/
import TwProofs.Lemmas.EvalInv
import TwProofs.Lemmas.EvalStep
namespace Tw

/-- a relation between two results of one type, indexed by what the argument allows: `bf`, "it has no `bad`
    node", and `L`, its lines -/
abbrev ResRel := Prop → List Nat → {α : Type} → Res α → Res α → Prop

structure ResRel.Closed (R : ResRel) : Prop where
  oof {bf L α} (r' : Res α) : R bf L .oof r'
  pure {bf L α} (a : α) : R bf L (.ok a) (.ok a)
  leaf {bf L α} {line : Nat} {r : Res α} : ErrAt line r → line ∈ L → R bf L r r
  crash {bf L α} (w : String) : ¬ bf → R bf L (.panic w : Res α) (.panic w)
  bind {bf L α β} {r r' : Res α} {f f' : α → Res β} : R bf L r r' → (∀ a, r = .ok a → R bf L (f a) (f' a)) → R bf L (r.bind f) (r'.bind f')
  mono {bf bf' : Prop} {L L' α} {r r' : Res α} : (bf' → bf) → L ⊆ L' → R bf L r r' → R bf' L' r r'

structure KRel (R : ResRel) (k k' : Callees) : Prop where
  expr : ∀ c env e, R (Expr.badFree e = true) e.lines (k.expr c env e) (k'.expr c env e)
  exprs : ∀ c env es, R (Expr.badFreeList es = true) (Expr.linesL es) (k.exprs c env es) (k'.exprs c env es)
  pairs : ∀ c env ps, R (Expr.badFreePairs ps = true) (Expr.linesP ps) (k.pairs c env ps) (k'.pairs c env ps)
  stmt : ∀ c env s, R (Ctx.badFree c = true ∧ Stmt.badFree s = true) (s.lines ++ c.lines) (k.stmt c env s) (k'.stmt c env s)
  elseIfs : ∀ c env a b, R (Ctx.badFree c = true ∧ Stmt.badFreeAlts a = true ∧ Stmt.badFreeOpt b = true)
    (Stmt.linesA a ++ (Stmt.linesO b ++ c.lines)) (k.elseIfs c env a b) (k'.elseIfs c env a b)
  block : ∀ c env ss, R (Ctx.badFree c = true ∧ Stmt.badFreeList ss = true) (Stmt.linesL ss ++ c.lines) (k.block c env ss) (k'.block c env ss)
  prog : ∀ c env ss acc, R (Ctx.badFree c = true ∧ Stmt.badFreeList ss = true) (Stmt.linesL ss ++ c.lines)
    (k.prog c env ss acc) (k'.prog c env ss acc)
  forL : ∀ c env t i cn p b acc,
    R (Ctx.badFree c = true ∧ ForBadFree i cn p b)
      (t.errorLine :: (Stmt.linesOS i ++ (optL Expr.lines cn ++ (Stmt.linesOS p ++ (Stmt.linesL b ++ c.lines)))))
      (k.forL c env t i cn p b acc) (k'.forL c env t i cn p b acc)
  eachL : ∀ c env t v b xs i n acc, R (Ctx.badFree c = true ∧ Stmt.badFreeList b = true) (t.errorLine :: (Stmt.linesL b ++ c.lines))
    (k.eachL c env t v b xs i n acc) (k'.eachL c env t v b xs i n acc)

/-- `R.Closed` is taken only for `hR.ite` to resolve -/
theorem ResRel.Closed.ite {R : ResRel} (_ : R.Closed) {bf : Prop} {L : List Nat} {α} {p : Prop} [Decidable p] {x x' y y' : Res α}
    (hx : p → R bf L x x') (hy : ¬ p → R bf L y y') : R bf L (if p then x else y) (if p then x' else y') := by
  split
  · exact hx ‹_›
  · exact hy ‹_›

section
variable {R : ResRel} (hR : R.Closed) {k k' : Callees} (hk : KRel R k k') {c : Ctx} {bf : Prop} {L : List Nat}
include hR

theorem ResRel.Closed.err {α} (code : String) {line : Nat} (args : List Bytes) (h : line ∈ L) :
    R bf L (.err code line args : Res α) (.err code line args) := hR.leaf (.err _ _) h

theorem ResRel.Closed.map {α β} {r r' : Res α} {g : α → β} (h : R bf L r r') :
    R bf L (r.bind fun a => .ok (g a)) (r'.bind fun a => .ok (g a)) := hR.bind h fun _ _ => hR.pure _

include hk

theorem loopCond_rel (env : Env) (cnd : Option Expr) (hb : bf → optBF Expr.badFree cnd = true) (hl : optL Expr.lines cnd ⊆ L) :
    R bf L (loopCond k.expr c env cnd) (loopCond k'.expr c env cnd) := by
  cases cnd with
  | none => exact hR.pure _
  | some ce => exact hR.map (hR.mono hb hl (hk.expr c env ce))

theorem stmtBody_rel (env : Env) (s : Stmt) :
    R (Ctx.badFree c = true ∧ s.badFree = true) (s.lines ++ c.lines) (stmtBody k c env s) (stmtBody k' c env s) := by
  cases s with
  | bad => exact hR.crash _ (by simp [Stmt.badFree])
  | html t => exact hR.pure _
  | expr t e => exact hR.map (hR.mono (·.2) (by lines_mem) (hk.expr c env e))
  | assign t name e =>
    exact hR.bind (hR.mono (·.2) (by lines_mem) (hk.expr c env e)) fun _ _ =>
      hR.map (hR.leaf (setVar_errAt _ _ _ _) (by simp [Stmt.lines]))
  | ifS t cnd cons alts alt =>
    have hb (h : Ctx.badFree c = true ∧ (Stmt.ifS t cnd cons alts alt).badFree = true) := Stmt.badFree_ifS.mp h.2
    refine hR.bind (hR.mono (fun h => (hb h).1) (by lines_mem) (hk.expr c env cnd)) fun v _ => hR.ite (fun _ => ?_) fun _ => ?_
    · exact hR.map (hR.mono (fun h => ⟨h.1, (hb h).2.1⟩) (by lines_mem) (hk.block c _ cons))
    · exact hR.mono (fun h => ⟨h.1, (hb h).2.2⟩) (by lines_mem) (hk.elseIfs c env alts alt)
  | forS t init cnd post body alt =>
    have hb (h : Ctx.badFree c = true ∧ (Stmt.forS t init cnd post body alt).badFree = true) := Stmt.badFree_forS.mp h.2
    refine hR.bind ?_ fun env1 _ => hR.bind (loopCond_rel hR hk env1 cnd (fun h => (hb h).1.cond) (by lines_mem)) fun entry _ =>
      hR.ite (fun _ => ?_) fun _ => ?_
    · cases init with
      | none => exact hR.pure _
      | some i => exact hR.map (hR.mono (fun h => ⟨h.1, (hb h).1.init⟩) (by lines_mem) (hk.stmt c _ i))
    · exact hR.map (hR.mono (fun h => ⟨h.1, (hb h).1⟩) (by lines_mem) (hk.forL c env1 t init cnd post body _))
    · cases alt with
      | none => exact hR.pure _
      | some ab => exact hR.map (hR.mono (fun h => ⟨h.1, (hb h).2⟩) (by lines_mem) (hk.block c env1 ab))
  | eachS t var arrE body alt =>
    have hb (h : Ctx.badFree c = true ∧ (Stmt.eachS t var arrE body alt).badFree = true) := Stmt.badFree_eachS.mp h.2
    refine hR.bind (hR.mono (fun h => (hb h).1) (by lines_mem) (hk.expr c _ arrE)) fun av _ => ?_
    cases av with
    | arr xs =>
      refine hR.ite (fun _ => ?_) fun _ => ?_
      · cases alt with
        | none => exact hR.pure _
        | some ab => exact hR.map (hR.mono (fun h => ⟨h.1, (hb h).2.2⟩) (by lines_mem) (hk.block c _ ab))
      · exact hR.map (hR.mono (fun h => ⟨h.1, (hb h).2.1⟩) (by lines_mem) (hk.eachL c _ t var body xs _ _ _))
    | _ => exact hR.err _ _ (by simp [Stmt.lines])
  | use t name =>
    dsimp only [stmtBody]
    cases hl : c.layout with
    | none => exact hR.err _ _ (by simp [Stmt.lines])
    | some prog =>
      refine hR.ite (fun _ => hR.err _ _ (by simp [Stmt.lines])) fun _ =>
        hR.map (hR.mono (fun h => ⟨h.1, ?_⟩) (append_ctx_subset _ (ctx_layout_lines hl)) (hk.prog c env prog _))
      have := ((Ctx.badFree_iff c).mp h.1).1
      rwa [hl] at this
  | reserve t name rid =>
    dsimp only [stmtBody]
    cases hl : lookupNat c.inserts rid with
    | none => exact hR.pure _
    | some ins =>
      obtain ⟨p, hp, rfl⟩ := lookupNat_mem hl
      have hin := ctx_insert_lines hp
      have hins (h : Ctx.badFree c = true ∧ (Stmt.reserve t name rid).badFree = true) :
          optBF Expr.badFree p.2.arg = true ∧ Stmt.badFreeOpt p.2.block = true := by
        simpa [InsertDef.badFree] using ((Ctx.badFree_iff c).mp h.1).2.1 p hp
      dsimp only
      cases hb : p.2.block with
      | some blk =>
        exact hR.map (hR.mono (fun h => ⟨h.1, by have := (hins h).2; rwa [hb] at this⟩)
          (append_ctx_subset _ fun x hx => hin (by simp [InsertDef.lines, hb, Stmt.linesO, hx])) (hk.block c env blk))
      | none =>
        dsimp only
        cases ha : p.2.arg with
        | none => exact hR.err _ _ (List.mem_append_right _ (hin (by simp [InsertDef.lines])))
        | some ae =>
          exact hR.map (hR.mono (fun h => by have := (hins h).1; rwa [ha] at this)
            (fun x hx => List.mem_append_right _ (hin (by simp [InsertDef.lines, ha, optL, hx]))) (hk.expr c env ae))
  | insert t name arg block => exact hR.pure _
  | breakIf t cnd => exact hR.map (hR.mono (·.2) (by lines_mem) (hk.expr c env cnd))
  | continueIf t cnd => exact hR.map (hR.mono (·.2) (by lines_mem) (hk.expr c env cnd))
  | component t name arg cid =>
    dsimp only [stmtBody]
    cases hl : lookupNat c.comps cid with
    | none => exact hR.err _ _ (by simp [Stmt.lines])
    | some prog =>
      obtain ⟨p, hp, rfl⟩ := lookupNat_mem hl
      refine hR.bind ?_ fun kvs _ => hR.bind (hR.leaf (bindArgs_errAt _ _ _) (by simp [Stmt.lines])) fun env1 _ =>
        hR.map (hR.mono (fun h => ⟨h.1, ((Ctx.badFree_iff c).mp h.1).2.2 p hp⟩) (append_ctx_subset _ (ctx_comp_lines hp)) (hk.prog c env1 p.2 _))
      cases arg with
      | none => exact hR.pure _
      | some pairs =>
        exact hR.mono (fun h => Expr.badFreePairs_sort h.2)
          (fun x hx => List.mem_append_left _ (List.mem_cons_of_mem _ (Expr.linesP_sort pairs hx))) (hk.pairs c env _)
  | slot t name body =>
    cases body with
    | none => exact hR.pure _
    | some blk => exact hR.map (hR.mono id (by lines_mem) (hk.block c env blk))
  | dump t args =>
    rw [stmtBody_dump, stmtBody_dump]
    exact hR.map (hR.mono (·.2) (by lines_mem) (hk.exprs c env args))
  | brk t => exact hR.pure _
  | cont t => exact hR.pure _

theorem elseIfsBody_rel (env : Env) (alts : List (Expr × List Stmt)) (alt : Option (List Stmt)) :
    R (Ctx.badFree c = true ∧ Stmt.badFreeAlts alts = true ∧ Stmt.badFreeOpt alt = true)
      (Stmt.linesA alts ++ (Stmt.linesO alt ++ c.lines)) (elseIfsBody k c env alts alt) (elseIfsBody k' c env alts alt) := by
  cases alts with
  | nil =>
    cases alt with
    | none => exact hR.pure _
    | some ab => exact hR.map (hR.mono (fun h => ⟨h.1, h.2.2⟩) (by lines_mem) (hk.block c _ ab))
  | cons p rest =>
    obtain ⟨ce, body⟩ := p
    have hb (h : Ctx.badFree c = true ∧ Stmt.badFreeAlts ((ce, body) :: rest) = true ∧ Stmt.badFreeOpt alt = true) :=
      Stmt.badFreeAlts_cons.mp h.2.1
    refine hR.bind (hR.mono (fun h => (hb h).1) (by lines_mem) (hk.expr c env ce)) fun v _ => hR.ite (fun _ => ?_) fun _ => ?_
    · exact hR.map (hR.mono (fun h => ⟨h.1, (hb h).2.1⟩) (by lines_mem) (hk.block c _ body))
    · exact hR.mono (fun h => ⟨h.1, (hb h).2.2, h.2.2⟩) (by lines_mem) (hk.elseIfs c env rest alt)

theorem blockBody_rel (env : Env) (ss : List Stmt) :
    R (Ctx.badFree c = true ∧ Stmt.badFreeList ss = true) (Stmt.linesL ss ++ c.lines) (blockBody k c env ss) (blockBody k' c env ss) := by
  cases ss with
  | nil => exact hR.pure _
  | cons s r =>
    have hb (h : Ctx.badFree c = true ∧ Stmt.badFreeList (s :: r) = true) := Stmt.badFreeList_cons.mp h.2
    exact hR.bind (hR.mono (fun h => ⟨h.1, (hb h).1⟩) (by lines_mem) (hk.stmt c env s)) fun r1 _ => hR.ite (fun _ => hR.pure _) fun _ =>
      hR.map (hR.mono (fun h => ⟨h.1, (hb h).2⟩) (by lines_mem) (hk.block c _ r))

theorem progBody_rel (env : Env) (ss : List Stmt) (acc : Bytes) :
    R (Ctx.badFree c = true ∧ Stmt.badFreeList ss = true) (Stmt.linesL ss ++ c.lines) (progBody k c env ss acc) (progBody k' c env ss acc) := by
  cases ss with
  | nil => exact hR.pure _
  | cons s r =>
    have hb (h : Ctx.badFree c = true ∧ Stmt.badFreeList (s :: r) = true) := Stmt.badFreeList_cons.mp h.2
    exact hR.bind (hR.mono (fun h => ⟨h.1, (hb h).1⟩) (by lines_mem) (hk.stmt c env s)) fun r1 _ =>
      hR.mono (fun h => ⟨h.1, (hb h).2⟩) (by lines_mem) (hk.prog c _ r _)

theorem forBody_rel (env : Env) (t : Token) (init : Option Stmt) (cnd : Option Expr) (post : Option Stmt) (body : List Stmt) (acc : Bytes) :
    R (Ctx.badFree c = true ∧ ForBadFree init cnd post body)
      (t.errorLine :: (Stmt.linesOS init ++ (optL Expr.lines cnd ++ (Stmt.linesOS post ++ (Stmt.linesL body ++ c.lines)))))
      (forBody k c env t init cnd post body acc) (forBody k' c env t init cnd post body acc) := by
  have again (env2 : Env) (acc2 : Bytes) := hk.forL c env2 t init cnd post body acc2
  refine hR.bind (loopCond_rel hR hk env cnd (·.2.cond) (by lines_mem)) fun go _ => hR.ite (fun _ => hR.pure _) fun _ =>
    hR.bind (hR.mono (fun h => ⟨h.1, h.2.body⟩) (by lines_mem) (hk.block c env body)) fun r _ => hR.ite (fun _ => hR.pure _) fun _ => ?_
  cases post with
  | none => exact again _ _
  | some ps =>
    have hl : ps.lines ++ c.lines ⊆
        t.errorLine :: (Stmt.linesOS init ++ (optL Expr.lines cnd ++ (Stmt.linesOS (some ps) ++ (Stmt.linesL body ++ c.lines)))) := by
      lines_mem
    cases ps with
    | expr t2 pe =>
      refine hR.bind (hR.mono (·.2.post) (by lines_mem) (hk.expr c _ pe)) fun pv _ => ?_
      cases init with
      | none => exact again _ _
      | some i =>
        cases i with
        | assign t3 name e3 => exact hR.bind (hR.leaf (setVar_errAt _ _ _ _) List.mem_cons_self) fun _ _ => again _ _
        | _ => exact again _ _
    | _ => exact hR.bind (hR.mono (fun h => ⟨h.1, h.2.post⟩) hl (hk.stmt c _ _)) fun _ _ => again _ _

theorem eachBody_rel (env : Env) (t : Token) (var : Bytes) (body : List Stmt) (xs : List Val) (i n : Nat) (acc : Bytes) :
    R (Ctx.badFree c = true ∧ Stmt.badFreeList body = true) (t.errorLine :: (Stmt.linesL body ++ c.lines))
      (eachBody k c env t var body xs i n acc) (eachBody k' c env t var body xs i n acc) := by
  cases xs with
  | nil => exact hR.pure _
  | cons x rest =>
    exact hR.bind (hR.leaf (setVar_errAt _ _ _ _) List.mem_cons_self) fun env1 _ =>
      hR.bind (hR.mono id (by lines_mem) (hk.block c _ body)) fun r _ => hR.ite (fun _ => hR.pure _) fun _ => hk.eachL c _ t var body rest _ n _

end

theorem evalExpr_ok_not_bad {f : Nat} {c : Ctx} {env : Env} {e : Expr} {v : Val} (h : evalExpr f c env e = .ok v) : e.isBad = false := by
  cases e <;> first | rfl | (cases f <;> cases h)

section
variable {R : ResRel} (hR : R.Closed) {n : Nat} (hk : KRel R (calleesAt n) (calleesAt (n + 1)))
include hR hk

theorem evalExpr_rel (c : Ctx) (env : Env) (e : Expr) :
    R (e.badFree = true) e.lines (evalExpr (n + 1) c env e) (evalExpr (n + 1 + 1) c env e) := by
  cases e with
  | bad => exact hR.crash _ (by simp [Expr.badFree])
  | ident t name =>
    rw [evalExpr_ident, evalExpr_ident]
    refine hR.leaf (line := t.errorLine) ?_ List.mem_cons_self
    cases env.get name <;> constructor
  | arr t elems =>
    rw [evalExpr_arr, evalExpr_arr]
    exact hR.map (hR.mono id (List.subset_cons_self _ _) (hk.exprs c env elems))
  | obj t pairs =>
    rw [evalExpr_obj, evalExpr_obj]
    exact hR.map (hR.mono Expr.badFreePairs_sort (List.subset_cons_of_subset _ (Expr.linesP_sort pairs)) (hk.pairs c env _))
  | pre t op r =>
    rw [evalExpr_pre, evalExpr_pre]
    exact hR.bind (hR.mono id (List.subset_cons_self _ _) (hk.expr c env r)) fun _ _ => hR.leaf (prefixOp_errAt _ _ _) List.mem_cons_self
  | post t op l =>
    rw [evalExpr_post, evalExpr_post]
    exact hR.bind (hR.mono id (List.subset_cons_self _ _) (hk.expr c env l)) fun _ _ => hR.leaf (postfixOp_errAt _ _ _) List.mem_cons_self
  | dot t l key =>
    rw [evalExpr_dot, evalExpr_dot]
    refine hR.bind (hR.mono id (List.subset_cons_self _ _) (hk.expr c env l)) fun lv _ => hR.leaf (line := t.errorLine) ?_ List.mem_cons_self
    split
    · exact objIndex_errAt _ _ _
    · exact .err _ _
  | tern t cnd a bb =>
    have hb := Expr.badFree_tern (t := t) (c := cnd) (a := a) (bb := bb)
    rw [evalExpr_tern, evalExpr_tern]
    refine hR.bind (hR.mono (fun h => (hb.mp h).1) (List.subset_cons_of_subset _ (List.subset_append_left _ _)) (hk.expr c env cnd))
      fun v _ => hR.ite (fun _ => ?_) fun _ => ?_
    · exact hR.mono (fun h => (hb.mp h).2.1)
        (List.subset_cons_of_subset _ (List.subset_append_of_subset_right _ (List.subset_append_left _ _))) (hk.expr c env a)
    · exact hR.mono (fun h => (hb.mp h).2.2)
        (List.subset_cons_of_subset _ (List.subset_append_of_subset_right _ (List.subset_append_right _ _))) (hk.expr c env bb)
  | inf t op l r =>
    have hb := Expr.badFree_inf (t := t) (op := op) (l := l) (r := r)
    rw [evalExpr_inf, evalExpr_inf]
    -- the operator's errors carry `l.line`.  `l` has produced a value, so it is no `bad` node: of that, `line` is the
    -- line of the EOF token and `lines` is empty
    exact hR.bind (hR.mono (fun h => (hb.mp h).1) (List.subset_cons_of_subset _ (List.subset_append_left _ _)) (hk.expr c env l)) fun _ hl =>
      hR.bind (hR.mono (fun h => (hb.mp h).2) (List.subset_cons_of_subset _ (List.subset_append_right _ _)) (hk.expr c env r)) fun _ _ =>
        hR.leaf (infixOp_errAt _ _ _ _) (List.mem_cons_of_mem _ (List.mem_append_left _ (l.line_mem (evalExpr_ok_not_bad hl))))
  | index t l i =>
    have hb := Expr.badFree_index (t := t) (l := l) (i := i)
    rw [evalExpr_index, evalExpr_index]
    refine hR.bind (hR.mono (fun h => (hb.mp h).1) (List.subset_cons_of_subset _ (List.subset_append_left _ _)) (hk.expr c env l)) fun lv _ =>
      hR.bind (hR.mono (fun h => (hb.mp h).2) (List.subset_cons_of_subset _ (List.subset_append_right _ _)) (hk.expr c env i)) fun iv hi => ?_
    split
    · exact hR.pure _
    · -- `i.line`, as in `inf`
      exact hR.leaf (objIndex_errAt _ _ _) (List.mem_cons_of_mem _ (List.mem_append_right _ (i.line_mem (evalExpr_ok_not_bad hi))))
    · exact hR.err _ _ List.mem_cons_self
  | call t recv fn args =>
    have hb := Expr.badFree_call (t := t) (r := recv) (fn := fn) (args := args)
    rw [evalExpr_call, evalExpr_call]
    refine hR.bind (hR.mono (fun h => (hb.mp h).1) (List.subset_cons_of_subset _ (List.subset_append_left _ _)) (hk.expr c env recv)) fun rv _ =>
      hR.ite (fun _ => hR.err _ _ List.mem_cons_self) fun _ =>
        hR.bind (hR.mono (fun h => (hb.mp h).2) (List.subset_cons_of_subset _ (List.subset_append_right _ _)) (hk.exprs c env args)) fun avs _ =>
          hR.leaf (line := t.errorLine) ?_ List.mem_cons_self
    split
    · exact .ok _
    · exact .err _ _
    · split <;> constructor
  | _ => exact hR.pure _

theorem evalExprs_rel (c : Ctx) (env : Env) (es : List Expr) :
    R (Expr.badFreeList es = true) (Expr.linesL es) (evalExprs (n + 1) c env es) (evalExprs (n + 1 + 1) c env es) := by
  cases es with
  | nil => exact hR.pure _
  | cons e r =>
    have hb := Expr.badFreeList_cons (e := e) (r := r)
    rw [evalExprs_cons, evalExprs_cons]
    exact hR.bind (hR.mono (fun h => (hb.mp h).1) (List.subset_append_left _ _) (hk.expr c env e)) fun _ _ =>
      hR.map (hR.mono (fun h => (hb.mp h).2) (List.subset_append_right _ _) (hk.exprs c env r))

theorem evalPairs_rel (c : Ctx) (env : Env) (ps : List (Bytes × Expr)) :
    R (Expr.badFreePairs ps = true) (Expr.linesP ps) (evalPairs (n + 1) c env ps) (evalPairs (n + 1 + 1) c env ps) := by
  cases ps with
  | nil => exact hR.pure _
  | cons p r =>
    obtain ⟨key, e⟩ := p
    have hb := Expr.badFreePairs_cons (k := key) (e := e) (r := r)
    rw [evalPairs_cons, evalPairs_cons]
    exact hR.bind (hR.mono (fun h => (hb.mp h).1) (List.subset_append_left _ _) (hk.expr c env e)) fun _ _ =>
      hR.map (hR.mono (fun h => (hb.mp h).2) (List.subset_append_right _ _) (hk.pairs c env r))

end


theorem calleesAt_rel {R : ResRel} (hR : R.Closed) : ∀ n : Nat, KRel R (calleesAt n) (calleesAt (n + 1)) := by
  intro n
  induction n with
  | zero =>
    exact ⟨fun _ _ _ => hR.oof _, fun _ _ _ => hR.oof _, fun _ _ _ => hR.oof _, fun _ _ _ => hR.oof _, fun _ _ _ _ => hR.oof _,
      fun _ _ _ => hR.oof _, fun _ _ _ _ => hR.oof _, fun _ _ _ _ _ _ _ _ => hR.oof _, fun _ _ _ _ _ _ _ _ _ => hR.oof _⟩
  | succ n ih =>
    exact ⟨evalExpr_rel hR ih, evalExprs_rel hR ih, evalPairs_rel hR ih,
      fun c env s => stmtBody_rel hR ih env s,
      fun c env a b => elseIfsBody_rel hR ih env a b,
      fun c env ss => blockBody_rel hR ih env ss,
      fun c env ss acc => progBody_rel hR ih env ss acc,
      fun c env t i cn p b acc => forBody_rel hR ih env t i cn p b acc,
      fun c env t v b xs i n acc => eachBody_rel hR ih env t v b xs i n acc⟩

theorem stable_closed : ResRel.Closed fun _ _ _ r r' => Stable r r' where
  oof _ := Or.inl rfl
  pure _ := .rfl' _
  leaf _ _ := .rfl' _
  crash _ _ := .rfl' _
  bind := Stable.bind
  mono _ _ h := h

theorem np_closed : ResRel.Closed fun bf _ _ r _ => bf → NP r where
  oof _ _ := NP.oof
  pure _ _ := NP.ok _
  leaf h _ _ := h.np
  crash _ h hb := absurd hb h
  bind h hf hb := (h hb).bind fun a ha => hf a ha hb
  mono hb _ h hb' := h (hb hb')

theorem el_closed : ResRel.Closed fun _ L _ r _ => EL r L where
  oof _ := EL.oof _
  pure _ := EL.ok _ _
  leaf h hl := h.el.single hl
  crash _ _ := EL.panic _ _
  bind := EL.bind
  mono _ hl h := h.mono hl

theorem calleesAt_el : ∀ n : Nat, KEL (calleesAt n) := fun n =>
  have h := calleesAt_rel el_closed n
  ⟨h.expr, h.exprs, h.pairs, h.stmt, h.elseIfs, h.block, h.prog, h.forL, h.eachL⟩

theorem evalProg_ne_panic {fuel : Nat} {c : Ctx} {env : Env} {ss : List Stmt} {acc : Bytes} (hc : Ctx.badFree c = true)
    (hs : Stmt.badFreeList ss = true) (why : String) : evalProg fuel c env ss acc ≠ .panic why :=
  ((calleesAt_rel np_closed fuel).prog c env ss acc ⟨hc, hs⟩).ne_panic why

theorem evalExpr_mono (fuel k : Nat) (c : Ctx) (env : Env) (e : Expr) (h : evalExpr fuel c env e ≠ .oof) :
    evalExpr (fuel + k) c env e = evalExpr fuel c env e :=
  Stable.iter (g := fun n => evalExpr n c env e) (fun n => (calleesAt_rel stable_closed n).expr c env e) fuel k h

theorem evalProg_mono (fuel k : Nat) (c : Ctx) (env : Env) (ss : List Stmt) (acc : Bytes)
    (h : evalProg fuel c env ss acc ≠ .oof) : evalProg (fuel + k) c env ss acc = evalProg fuel c env ss acc :=
  Stable.iter (g := fun n => evalProg n c env ss acc) (fun n => (calleesAt_rel stable_closed n).prog c env ss acc) fuel k h

theorem evalExpr_lift {f : Nat} {c : Ctx} {env : Env} {e : Expr} {v : Val} (h : evalExpr f c env e = .ok v) (k : Nat) :
    evalExpr (f + k) c env e = .ok v :=
  Stable.iter_ok (g := fun n => evalExpr n c env e) (fun n => (calleesAt_rel stable_closed n).expr c env e) h k

theorem evalBlock_lift {f : Nat} {c : Ctx} {env : Env} {ss : List Stmt} {r : Out × Env} (h : evalBlock f c env ss = .ok r) (k : Nat) :
    evalBlock (f + k) c env ss = .ok r :=
  Stable.iter_ok (g := fun n => evalBlock n c env ss) (fun n => (calleesAt_rel stable_closed n).block c env ss) h k

theorem evalStmt_lift {f : Nat} {c : Ctx} {env : Env} {s : Stmt} {r : Out × Env} (h : evalStmt f c env s = .ok r) (k : Nat) :
    evalStmt (f + k) c env s = .ok r :=
  Stable.iter_ok (g := fun n => evalStmt n c env s) (fun n => (calleesAt_rel stable_closed n).stmt c env s) h k

/-- the expression part of `calleesAt_el`, as C13 `expression_errors_name_a_token_of_the_expression` quotes it -/
theorem el_expr : ∀ fuel : Nat,
    (∀ c env e, EL (evalExpr fuel c env e) e.lines) ∧
    (∀ c env es, EL (evalExprs fuel c env es) (Expr.linesL es)) ∧
    (∀ c env ps, EL (evalPairs fuel c env ps) (Expr.linesP ps)) :=
  fun fuel => ⟨(calleesAt_el fuel).expr, (calleesAt_el fuel).exprs, (calleesAt_el fuel).pairs⟩

end Tw
