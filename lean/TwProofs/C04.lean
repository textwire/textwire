/-
  TwProofs.C04 — variables are block scoped and type stable; `loop` is reserved.

  The environment of the model is a list of scopes (innermost first), a transcription of
  `object.Env`.  The theorems: what `Set` refuses (the reserved name, a change of type — looked
  up through all visible scopes), what it does (writes the innermost scope only), that lookups
  see through nested scopes, and that every scoped construct (`@if`, `@for`, `@each`,
  `@component`) hands back exactly the environment it was given, so nothing bound or assigned
  inside is visible after it.  And from the source bytes, lexer and parser included:
  `scoped_template_renders_from_source`, `nested_assignment_does_not_leak_from_source`,
  `loop_variable_is_gone_after_the_loop_from_source`, the three about `{{ n = … }}`.
-/
import TwModel
import TwProofs.Lemmas.EvalStep
import TwProofs.Lemmas.TextEach
import TwProofs.Lemmas.ScopeEval
import TwProofs.Lemmas.TextAssign

namespace Tw.C04
open Tw

/-- the name `loop` can never be assigned, whatever the environment and the value -/
theorem loop_is_reserved (env : Env) (v : Val) : env.set (b "loop") v = .error ("ErrLoopVariableIsReserved", []) := by
  simp [Env.set]

/-- nor supplied as data (stated for the data map whose one entry is `loop`) -/
theorem loop_not_accepted_as_data (g : GoVal) (v : Val) (h : nativeToObject g = some v) :
    envFromMap [(b "loop", g)] = .error (.setErr "ErrLoopVariableIsReserved" []) := by
  simp [envFromMap, sortByKey, insertByKey, envFromMap.go, h, Env.set]

/-- assignment statements and loop variables go through `Set` (`setVar`), so they fail the same way -/
theorem assign_loop_fails (f : Nat) (c : Ctx) (env : Env) (t : Token) (e : Expr) (v : Val)
    (he : evalExpr f c env e = .ok v) :
    evalStmt (f + 1) c env (.assign t (b "loop") e) = .err "ErrLoopVariableIsReserved" t.errorLine [] := by
  rw [evalStmt_assign f c env t _ e v he]
  simp [setVar, loop_is_reserved]

/-- a visible name (in any enclosing scope) is never re-bound with a value of another type -/
theorem type_change_is_refused (env : Env) (k : Bytes) (old v : Val) (hk : k ≠ b "loop")
    (hget : env.get k = some old) (hty : old.type ≠ v.type) :
    env.set k v = .error ("ErrVariableTypeMismatch", [k, old.typeName, v.typeName]) := by
  have h1 : (k == b "loop") = false := by simpa using hk
  have h2 : (old.type != v.type) = true := by simpa using hty
  simp [Env.set, h1, hget, h2]

/-- … and a re-assignment with the same type, or a new name, writes the innermost scope only -/
theorem set_writes_innermost (s : List (Bytes × Val)) (outer : Env) (k : Bytes) (v : Val) (env' : Env)
    (h : Env.set (s :: outer) k v = .ok env') : env' = mapSet s k v :: outer :=
  Env.set_ok_eq h

theorem get_after_set (env : Env) (k : Bytes) (v : Val) (env' : Env) (h : env.set k v = .ok env') :
    env'.get k = some v :=
  Env.set_ok_eq h ▸ get_setTop_same env k v

theorem get_other_after_set (s : List (Bytes × Val)) (outer : Env) (k k2 : Bytes) (v : Val) (env' : Env)
    (h : Env.set (s :: outer) k v = .ok env') (hne : k2 ≠ k) : env'.get k2 = Env.get (s :: outer) k2 :=
  Env.set_ok_eq h ▸ get_setTop_other _ k k2 v hne

/-- the statement form: re-assigning a visible name with another type fails the render -/
theorem assign_type_mismatch (f : Nat) (c : Ctx) (env : Env) (t : Token) (name : Bytes) (e : Expr) (old v : Val)
    (hk : name ≠ b "loop") (he : evalExpr f c env e = .ok v) (hget : env.get name = some old) (hty : old.type ≠ v.type) :
    evalStmt (f + 1) c env (.assign t name e) =
      .err "ErrVariableTypeMismatch" t.errorLine [name, old.typeName, v.typeName] := by
  rw [evalStmt_assign f c env t name e v he]
  simp [setVar, type_change_is_refused env name old v hk hget hty]

/-- a nested block sees everything the enclosing blocks see -/
theorem nested_block_sees_outer (env : Env) (k : Bytes) : env.push.get k = env.get k := get_push env k

/-- an assignment inside a nested block leaves the enclosing scopes untouched -/
theorem nested_assignment_is_local (env : Env) (k : Bytes) (v : Val) (env' : Env) (h : env.push.set k v = .ok env') :
    env' = [(k, v)] :: env :=
  Env.set_ok_eq h

def Hands (env : Env) (r : Res (Out × Env)) : Prop := ∀ o e', r = .ok (o, e') → e' = env

theorem Hands.ok {env : Env} (o : Out) : Hands env (.ok (o, env)) := fun _ _ h => by cases h; rfl

theorem Hands.bind {env : Env} {α} {r : Res α} {g : α → Res (Out × Env)} (h : ∀ a, Hands env (g a)) : Hands env (r.bind g) := by
  cases r with
  | ok a => exact h a
  | _ => exact fun _ _ h => by cases h

theorem Hands.ite {env : Env} {p : Prop} [Decidable p] {x y : Res (Out × Env)} (hx : Hands env x) (hy : Hands env y) :
    Hands env (if p then x else y) := by
  split <;> assumption

/-- whatever happens inside an `@if`, `@for`,
    `@each` or `@component` (assignments, loop variables, `loop`, component arguments), the
    environment after the construct is the one before it -/
theorem scoped_constructs_restore_env (f : Nat) (c : Ctx) (env env' : Env) (s : Stmt) (o : Out)
    (hs : (match s with | .ifS .. | .forS .. | .eachS .. | .component .. => true | _ => false) = true)
    (h : evalStmt (f + 1) c env s = .ok (o, env')) : env' = env := by
  -- every branch of the four constructs ends in `.ok (…, env)`, behind binds
  have back {α} (r : Res α) (g : α → Out) : Hands env (r.bind fun a => .ok (g a, env)) := .bind fun _ => .ok _
  have alt_back (alt : Option (List Stmt)) (e1 : Env) (k : Nat) :
      Hands env (match alt with | some ab => (evalBlock k c e1 ab).bind fun r => .ok (r.1, env) | none => .ok ({}, env)) := by
    cases alt with
    | none => exact .ok _
    | some ab => exact back _ _
  have elseIfs : ∀ (alts : List (Expr × List Stmt)) (alt : Option (List Stmt)) (g : Nat), Hands env (evalElseIfs g c env alts alt) := by
    intro alts alt g
    induction alts generalizing g with
    | nil =>
      cases g with
      | zero => exact fun _ _ h => by simp [evalElseIfs] at h
      | succ g => rw [evalElseIfs_nil]; exact alt_back alt _ g
    | cons p rest ih =>
      cases g with
      | zero => exact fun _ _ h => by simp [evalElseIfs] at h
      | succ g => rw [evalElseIfs_cons]; exact .bind fun v => .ite (back _ _) (ih g)
  rw [evalStmt_succ] at h
  refine (?_ : Hands env (stmtBody (calleesAt f) c env s)) o env' h
  cases s with
  | ifS t cnd cons alts alt => exact .bind fun v => .ite (back _ _) (elseIfs alts alt f)
  | forS t init cnd post body alt => exact .bind fun env1 => .bind fun entry => .ite (back _ _) (alt_back alt env1 f)
  | eachS t var arrE body alt =>
    refine .bind fun av => ?_
    cases av with
    | arr xs => exact .ite (alt_back alt _ f) (back _ _)
    | _ => exact fun _ _ h => by cases h
  | component t name arg cid =>
    simp only [stmtBody]
    split
    · exact fun _ _ h => by cases h
    · exact .bind fun kvs => .bind fun e1 => back _ _
  | _ => simp at hs

/-- the loop variable is bound with `Set`: an element whose type differs from a visible variable
    of that name fails the render (it never retypes the variable) -/
theorem each_variable_type_mismatch (env : Env) (var : Bytes) (old x : Val) (line : Nat) (hk : var ≠ b "loop")
    (hget : env.get var = some old) (hty : old.type ≠ x.type) :
    setVar env var x line = .err "ErrVariableTypeMismatch" line [var, old.typeName, x.typeName] := by
  simp [setVar, type_change_is_refused env var old x hk hget hty]

example : (match evaluateStringPure [] (b "{{ x = 1 }}@if(true){{ x = 2 }}{{ y = 5 }}{{ x }}@end{{ x }}") [] with
    | .ok out => out == b "21" | _ => false) = true := by decide +kernel

example : (match evaluateStringPure [] (b "{{ x = 1 }}@if(true){{ x = \"s\" }}@end") [] with
    | .fail f => f.msg == formatMsg "ErrVariableTypeMismatch" [b "x", b "INTEGER", b "STRING"] | _ => false) = true := by
  decide +kernel

example : (match evaluateStringPure [] (b "@each(v in [1])x@end{{ v }}") [] with
    | .fail f => f.msg == formatMsg "ErrIdentifierNotFound" [b "v"] | _ => false) = true := by decide +kernel

theorem passTexts_var (env : Env) (x : Bytes) (hx : (x == b "loop") = false) (n : Nat) : ∀ (vs : List Val) (i : Nat),
    passTexts env x [.hole x] n vs i = vs.flatMap Val.toStr
  | [], _ => rfl
  | v :: r, i => by
    have hg : (passEnv env x v i n).get x = some v := by
      simp [passEnv, Env.get, mapGet]
    simp only [passTexts, fill, hg, Option.map_some, Option.getD_some, List.append_nil, List.flatMap_cons]
    rw [passTexts_var env x hx n r (i + 1)]

/-- the template
    `@each(x in xs){{ x }}@end{{ x }}` — for every identifier `x` other than `loop`, every
    identifier `xs`, every array of elements of one type bound to `xs` and every value of that type
    bound to `x` outside — renders the elements and then the OUTER value of `x`: inside the loop
    `x` is the element (it shadows the outer binding), after `@end` the outer binding is back, not
    the last element. -/
theorem loop_variable_is_gone_after_the_loop_from_source (custom : List ((VType × Bytes) × Nat)) (x xs : Bytes)
    (hx : isName x) (hxs : isName xs) (hxl : (x == b "loop") = false)
    (data : List (Bytes × GoVal)) (env : Env) (henv : envFromMap data = .ok env)
    (vs : List Val) (ty : VType) (outer : Val) (harr : env.get xs = some (.arr vs)) (hty : ∀ v ∈ vs, v.type = ty)
    (hout : env.get x = some outer) (houtty : outer.type = ty) (hsize : vs.length + 12 ≤ evalFuel) :
    evaluateStringPure custom (b "@each(" ++ x ++ b " in " ++ xs ++ b "){{" ++ x ++ b "}}@end{{" ++ x ++ b "}}") data =
      .ok (vs.flatMap Val.toStr ++ outer.toStr) := by
  have hok : XItemsOK [.each [] x [32] [32] xs [] [.print [] x []], .print [] x []] := by
    refine ⟨allWs_nil, by decide, by decide, by decide, by decide, allWs_nil, hx, hxs, ⟨allWs_nil, allWs_nil, hx, trivial⟩,
      allWs_nil, allWs_nil, hx, trivial⟩
  have harr' : arrOf env xs = vs := by simp [arrOf, harr]
  have hb : xbound env (xspec [.each [] x [32] [32] xs [] [.print [] x []], .print [] x []]) := by
    refine ⟨⟨vs, ty, harr, hty, fun old ho => ?_⟩, hxl, ⟨Or.inl rfl, trivial⟩, by simp [hout], trivial⟩
    rw [hout] at ho
    cases ho
    exact houtty
  have h := xitems_render custom [.each [] x [32] [32] xs [] [.print [] x []], .print [] x []] hok data env henv hb (by
    simp [xneed, xspec, bpieces, harr']
    omega)
  have hsrc : xitemsSrc [.each [] x [32] [32] xs [] [.print [] x []], .print [] x []] =
      b "@each(" ++ x ++ b " in " ++ xs ++ b "){{" ++ x ++ b "}}@end{{" ++ x ++ b "}}" := by
    have e1 : b "@each(" = kwEach ++ [40] := by decide
    have e2 : b " in " = [32] ++ kwIn ++ [32] := by decide
    have e3 : b "){{" = [41, 123, 123] := by decide
    have e4 : b "}}@end{{" = [125, 125] ++ kwEnd ++ [123, 123] := by decide
    have e5 : b "}}" = [125, 125] := by decide
    rw [e1, e2, e3, e4, e5]
    simp [xitemsSrc, XItem.src, bodySrc, BItem.src, List.append_assoc]
  have hren : xrender env (xspec [.each [] x [32] [32] xs [] [.print [] x []], .print [] x []]) = vs.flatMap Val.toStr ++ outer.toStr := by
    simp only [xspec, xrender, bpieces, harr', hout, Option.map_some, Option.getD_some, List.append_nil]
    rw [passTexts_var env x hxl]
  rw [hsrc, hren] at h
  exact h

example : evaluateStringPure [] (b "@each(v in xs){{v}}@end{{v}}") [(b "v", .str (b "outer")), (b "xs", .slice [.str (b "a"), .str (b "b")])] =
    .ok (b "abouter") := by
  have := loop_variable_is_gone_after_the_loop_from_source [] (b "v") (b "xs") (by decide) (by decide) (by decide)
    [(b "v", .str (b "outer")), (b "xs", .slice [.str (b "a"), .str (b "b")])]
    [[(b "v", .str (b "outer")), (b "xs", .arr [.str (b "a"), .str (b "b")])]] (by rfl)
    [.str (b "a"), .str (b "b")] .STRING (.str (b "outer")) (by rfl) (by decide) (by rfl) rfl (by decide)
  have hs : b "@each(" ++ b "v" ++ b " in " ++ b "xs" ++ b "){{" ++ b "v" ++ b "}}@end{{" ++ b "v" ++ b "}}" = b "@each(v in xs){{v}}@end{{v}}" := by decide
  have ho : [Val.str (b "a"), Val.str (b "b")].flatMap Val.toStr ++ (Val.str (b "outer")).toStr = b "abouter" := by decide
  rw [hs, ho] at this
  exact this

/-- for every template of text runs, `{{ name }}`,
    `{{ name = "text" }}` and `@if(name) body @end` blocks whose bodies are plain text, prints and
    assignments (any white space inside the braces and parentheses), and every data map, the render is
    `(seval env items).1`: a print shows the value visible where it stands — the innermost binding,
    also one made earlier in the same block or outside it —, an assignment writes the escaped
    literal into the innermost scope, and an `@if` block evaluates its body in a NEW scope: whatever
    it assigns, the environment of what follows `@end` is the one before `@if` (`seval_ifb_env`). -/
theorem scoped_template_renders_from_source (custom : List ((VType × Bytes) × Nat)) (items : List SItem) (hok : SItemsOK items)
    (data : List (Bytes × GoVal)) (env : Env) (henv : envFromMap data = .ok env) (hb : sbound env items)
    (hsize : sneed items ≤ evalFuel) :
    evaluateStringPure custom (scopeSrc items) data = .ok (seval env items).1 := by
  obtain ⟨prog, hp, hm⟩ := parse_sitems items hok
  exact source_renders hp henv (evalProg_sitems _ prog.stmts items hm env evalFuel [] hb hsize)

/-- the template
    `{{x="a"}}@if(c){{x="b"}}{{x}}@end{{x}}` — for every identifier `x` other than `loop` that the
    data does not bind to a non-string, and every bound identifier `c` different from `x` — renders `b`
    (inside the block, when `c` is truthy) and then `a`: after `@end` the enclosing block sees its own
    value of `x` again, whether the nested block ran or not -/
theorem nested_assignment_does_not_leak_from_source (custom : List ((VType × Bytes) × Nat)) (x c : Bytes) (hx : isName x) (hc : isName c)
    (hxl : (x == b "loop") = false) (hxc : (x == c) = false)
    (data : List (Bytes × GoVal)) (s : List (Bytes × Val)) (o : Env) (henv : envFromMap data = .ok (s :: o))
    (hty : ∀ old, Env.get (s :: o) x = some old → old.type = .STRING) (cv : Val) (hcv : Env.get (s :: o) c = some cv) :
    evaluateStringPure custom (scopeSrc [.assign [] x [] [] 34 (b "a") [], .ifb [] c [] [.assign [] x [] [] 34 (b "b") [], .print [] x []], .print [] x []]) data =
      .ok ((if isTruthy cv then b "b" else []) ++ b "a") := by
  have hok : SItemsOK [.assign [] x [] [] 34 (b "a") [], .ifb [] c [] [.assign [] x [] [] 34 (b "b") [], .print [] x []], .print [] x []] :=
    ⟨allWs_nil, allWs_nil, allWs_nil, allWs_nil, hx, Or.inl rfl, by decide, allWs_nil, allWs_nil, hc,
      ⟨allWs_nil, allWs_nil, allWs_nil, allWs_nil, hx, Or.inl rfl, by decide, allWs_nil, allWs_nil, hx, trivial⟩,
      allWs_nil, allWs_nil, hx, trivial⟩
  have hne : c ≠ x := by intro e; rw [e] at hxc; simp at hxc
  have hgx := get_setTop_same (s :: o) x (.str (literalValue (b "a")))
  have hgc := (get_setTop_other (s :: o) x c (.str (literalValue (b "a"))) hne).trans hcv
  have hin := get_setTop_same (Env.push (setTop (s :: o) x (.str (literalValue (b "a"))))) x (.str (literalValue (b "b")))
  have hb : sbound (s :: o) [.assign [] x [] [] 34 (b "a") [], .ifb [] c [] [.assign [] x [] [] 34 (b "b") [], .print [] x []], .print [] x []] := by
    refine ⟨hxl, hty, ?_, fun _ => ⟨hxl, fun old ho => ?_, ?_, trivial⟩, ?_, trivial⟩
    · show (Env.get (setTop (s :: o) x _) c).isSome = true
      rw [hgc]; rfl
    · rw [get_push, hgx] at ho; cases ho; rfl
    · show (Env.get (setTop (Env.push (setTop (s :: o) x _)) x _) x).isSome = true
      rw [hin]; rfl
    · show (Env.get (setTop (s :: o) x _) x).isSome = true
      rw [hgx]; rfl
  rw [scoped_template_renders_from_source custom _ hok data (s :: o) henv hb (by simp [sneed, evalFuel])]
  simp only [seval, aeval, truthyOf, hgc, hgx, hin, Option.map_some, Option.getD_some, List.append_nil, Val.toStr]
  have ea : literalValue (b "a") = b "a" := by decide
  have eb : literalValue (b "b") = b "b" := by decide
  rw [ea, eb]

example : evaluateStringPure [] (b "{{x=\"a\"}}@if(c){{x=\"b\"}}{{x}}@end{{x}}") [(b "c", .bool true)] = .ok (b "ba") := by
  have := nested_assignment_does_not_leak_from_source [] (b "x") (b "c") (by decide) (by decide) (by decide) (by decide)
    [(b "c", .bool true)] [(b "c", .bool true)] [] (by rfl) (fun old h => by
      have : Env.get [[(b "c", Val.bool true)]] (b "x") = none := by decide
      rw [this] at h; cases h) (.bool true) (by rfl)
  have hs : scopeSrc [.assign [] (b "x") [] [] 34 (b "a") [], .ifb [] (b "c") [] [.assign [] (b "x") [] [] 34 (b "b") [], .print [] (b "x") []], .print [] (b "x") []] =
      b "{{x=\"a\"}}@if(c){{x=\"b\"}}{{x}}@end{{x}}" := by decide
  rw [hs] at this
  exact this

/-- **an assignment cannot change the type of a variable, from the source bytes on**: `{{ k = d }}` — a
    name other than `loop`, a decimal number, any white space around every token — fails with the
    type-mismatch error that names the variable, the type it has and `INTEGER`, whenever `k` is bound
    (in the data, say) to a value of another type. -/
theorem assignment_of_another_type_is_refused_from_source (custom : List ((VType × Bytes) × Nat)) (data : List (Bytes × GoVal)) (env : Env)
    (h : envFromMap data = .ok env) (k : Bytes) (hk : isName k) (hloop : (k == b "loop") = false) (old : Val) (hget : env.get k = some old)
    (hty : (old.type != VType.INTEGER) = true) (d : Bytes) (hd : isDigits d) (hb : digitsToNat d < 2 ^ 63)
    (g1 g2 g3 g4 : Bytes) (hg1 : allWs g1) (hg2 : allWs g2) (hg3 : allWs g3) (hg4 : allWs g4) :
    ∃ line, evaluateStringPure custom (assignIntSrc g1 k g2 g3 d g4) data =
      .fail (failOf "ErrVariableTypeMismatch" line [k, old.typeName, b "INTEGER"] []) := by
  obtain ⟨prog, t2, t4, hp, hs⟩ := parse_assign_int_source g1 k g2 g3 d g4 hg1 hg2 hg3 hg4 hk hd (by omega)
  refine ⟨t2.errorLine, ?_⟩
  rw [evaluate_parsed custom hp h, hs, show evalFuel = (evalFuel - 3) + 3 from by decide,
    evalProg_assign_fails _ _ env t2 k _ (.int (Int64.ofNat (digitsToNat d))) [] [] _ _ (by simp [evalExpr])
      (type_change_is_refused env k old _ (by simpa using hloop) hget (by simpa [Val.type] using hty))]
  rfl

/-- … and an assignment of the same type, or to a name that is not bound yet, is accepted and prints nothing -/
theorem assignment_of_the_same_type_is_accepted_from_source (custom : List ((VType × Bytes) × Nat)) (data : List (Bytes × GoVal)) (env : Env)
    (h : envFromMap data = .ok env) (k : Bytes) (hk : isName k) (hloop : (k == b "loop") = false)
    (hget : env.get k = none ∨ ∃ i, env.get k = some (.int i)) (d : Bytes) (hd : isDigits d) (hb : digitsToNat d < 2 ^ 63)
    (g1 g2 g3 g4 : Bytes) (hg1 : allWs g1) (hg2 : allWs g2) (hg3 : allWs g3) (hg4 : allWs g4) :
    evaluateStringPure custom (assignIntSrc g1 k g2 g3 d g4) data = .ok [] := by
  obtain ⟨prog, t2, t4, hp, hs⟩ := parse_assign_int_source g1 k g2 g3 d g4 hg1 hg2 hg3 hg4 hk hd (by omega)
  have hset := Env.set_eq_ok (env := env) (v := .int (Int64.ofNat (digitsToNat d))) hloop fun old ho => by
    rcases hget with hn | ⟨i, hi⟩
    · rw [hn] at ho; cases ho
    · rw [hi] at ho; cases ho; rfl
  rw [evaluate_parsed custom hp h, hs, show evalFuel = (evalFuel - 3) + 3 from by decide,
    evalProg_assign _ _ env _ t2 k _ _ [] [] (by simp [evalExpr]) hset, evalProg_nil]
  rfl

example : ∃ line, evaluateStringPure [] (b "{{ name = 5 }}") [(b "name", .str (b "Ann"))] =
    .fail (failOf "ErrVariableTypeMismatch" line [b "name", b "STRING", b "INTEGER"] []) :=
  assignment_of_another_type_is_refused_from_source [] [(b "name", .str (b "Ann"))] [[(b "name", .str (b "Ann"))]] (by rfl) (b "name") (by decide)
    (by decide) (.str (b "Ann")) (by rfl) (by decide) (b "5") (by decide) (by decide) [32] [32] [32] [32] (by decide) (by decide) (by decide) (by decide)

/-- **the right-hand side of an assignment is a complete expression, and the assigned value is what a
    later print shows, from the source bytes on** (C01's clause on assignments, C04's on visibility):
    `{{ n = a op b }}{{ n }}` — a name that is not bound yet and is not `loop`, two integer literals, any
    of the five arithmetic operators, any white space — renders the value of `a op b`: the assignment
    takes the whole expression, prints nothing itself, and the print after it sees the new binding. -/
theorem assigned_expression_is_visible_from_source (custom : List ((VType × Bytes) × Nat)) (data : List (Bytes × GoVal)) (env : Env)
    (h : envFromMap data = .ok env) (n : Bytes) (hn : isName n) (hloop : (n == b "loop") = false) (hget : env.get n = none)
    (a b' : Bytes) (ha : isDigits a) (hbd : isDigits b') (hba : digitsToNat a < 2 ^ 63) (hbb : digitsToNat b' < 2 ^ 63)
    (c : Byte) (ty : TT) (pr : Nat) (hop : ArithOp c ty pr)
    (g1 g2 g3 g4 g5 g6 h1 h2 : Bytes) (hg1 : allWs g1) (hg2 : allWs g2) (hg3 : allWs g3) (hg4 : allWs g4) (hg5 : allWs g5) (hg6 : allWs g6)
    (hh1 : allWs h1) (hh2 : allWs h2) (v : Val)
    (hv : ∀ line, intInfix [c] (Int64.ofNat (digitsToNat a)) (Int64.ofNat (digitsToNat b')) line = .ok v) :
    evaluateStringPure custom (assignExprSrc g1 n g2 g3 a g4 c g5 b' g6 ++ ([123, 123] ++ h1 ++ n ++ h2 ++ [125, 125])) data = .ok v.toStr := by
  obtain ⟨prog, t2, t4, t5, t6, t9, hp, hs⟩ := parse_assignExpr_source g1 n g2 g3 a g4 c ty pr g5 b' g6 h1 h2 hg1 hg2 hg3 hg4 hg5 hg6 hh1 hh2
    hn ha hbd hop (by omega) (by omega)
  have hs' := Env.set_eq_ok (env := env) (v := v) hloop fun old ho => by rw [hget] at ho; cases ho
  have hget' := get_setTop_same env n v
  rw [evaluate_parsed custom hp h, hs, show evalFuel = (evalFuel - 4 + 1) + 3 from by decide,
    evalProg_assign _ _ env _ t2 n _ v _ [] (by
      simp only [evalExpr, infixOp, Val.type, hv, show (VType.INTEGER != VType.INTEGER) = false from by decide, Bool.false_eq_true, if_false]) hs',
    evalProg_cons, Renders.ident _ t9 t9 hget' _ (Nat.le_add_left 2 _), Res.bind_ok, evalProg_nil]
  simp [resToOut]

example : evaluateStringPure [] (b "{{ x = 2 * 21 }}{{ x }}") [] = .ok (b "42") := by
  have := assigned_expression_is_visible_from_source [] [] [[]] (by rfl) (b "x") (by decide) (by decide) (by rfl)
    (b "2") (b "21") (by decide) (by decide) (by decide) (by decide) 42 .MUL PRODUCT (Or.inl ⟨Or.inl ⟨rfl, rfl⟩, rfl⟩)
    [32] [32] [32] [32] [32] [32] [32] [32] (by decide) (by decide) (by decide) (by decide) (by decide) (by decide) (by decide) (by decide)
    (.int 42) (fun _ => by rfl)
  have hs : assignExprSrc [32] (b "x") [32] [32] (b "2") [32] 42 [32] (b "21") [32] ++ ([123, 123] ++ [32] ++ b "x" ++ [32] ++ [125, 125]) =
      b "{{ x = 2 * 21 }}{{ x }}" := by decide
  rw [hs] at this
  rw [this]; rfl

end Tw.C04
