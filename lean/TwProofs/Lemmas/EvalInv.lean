/-
  TwProofs.Lemmas.EvalInv — what the walk of the evaluator (EvalWalk) is about.  Three relations between results:
  `Stable` (more fuel, same answer: a result that is not "out of fuel" is the same for every larger fuel),
  `NP` (no `panic` outcome on programs without `bad` (Go nil) nodes: every unchecked Go operation of /repo
  is guarded, C09) and `EL` (every error carries the line of a token of the tree, or of what the loader
  attached to the page — the layout, the inserts, the component files: the lines are never invented, defaulted
  or taken from elsewhere, C13); and the two measures of a tree they are indexed by, `badFree` and `lines`.
  First the one fact about the helpers of the evaluator (`intInfix`, …, `objIndex`, `setVar`, `bindArgs`) that `NP`
  and `EL` are both read off (`ErrAt.np`, `ErrAt.el`): they answer with a value or with an error at the line they
  were given (`ErrAt`).
-/
import TwProofs.Lemmas.Sort

namespace Tw

inductive ErrAt {α} (line : Nat) : Res α → Prop
  | ok (a : α) : ErrAt line (.ok a)
  | err (code : String) (args : List Bytes) : ErrAt line (.err code line args)

theorem ErrAt.ite {α} {line : Nat} {c : Prop} [Decidable c] {x y : Res α} (hx : ErrAt line x) (hy : ErrAt line y) :
    ErrAt line (if c then x else y) := by
  split <;> assumption

/- `intInfix`, `floatInfix`, `strInfix` and `postfixOp` are chains of `if` whose leaves are `.ok _` or `.err _ line _`:
   `ErrAt.ite` at every `if`, a constructor of `ErrAt` at every leaf. -/

theorem intInfix_errAt (op : Bytes) (l r : Int64) (line : Nat) : ErrAt line (intInfix op l r line) := by
  unfold intInfix
  repeat' first | apply ErrAt.ite | constructor

theorem floatInfix_errAt (op : Bytes) (l r : Float) (line : Nat) : ErrAt line (floatInfix op l r line) := by
  unfold floatInfix
  repeat' first | apply ErrAt.ite | constructor

theorem strInfix_errAt (op : Bytes) (l r : Bytes) (line : Nat) : ErrAt line (strInfix op l r line) := by
  unfold strInfix
  repeat' first | apply ErrAt.ite | constructor

theorem infixOp_errAt (op : Bytes) (l r : Val) (line : Nat) : ErrAt line (infixOp op l r line) := by
  unfold infixOp
  refine .ite (.err _ _) ?_
  split
  · exact intInfix_errAt _ _ _ _
  · exact floatInfix_errAt _ _ _ _
  · exact strInfix_errAt _ _ _ _
  · exact .err _ _

theorem prefixOp_errAt (op : Bytes) (r : Val) (line : Nat) : ErrAt line (prefixOp op r line) := by
  unfold prefixOp
  refine .ite ?_ (.ite ?_ (.err _ _)) <;> split <;> constructor

theorem postfixOp_errAt (op : Bytes) (l : Val) (line : Nat) : ErrAt line (postfixOp op l line) := by
  unfold postfixOp
  split <;> repeat' first | apply ErrAt.ite | constructor

theorem objIndex_errAt (kvs : List (Bytes × Val)) (idx : Bytes) (line : Nat) : ErrAt line (objIndex kvs idx line) := by
  unfold objIndex
  split
  · constructor
  · refine .ite (.err _ _) ?_
    split <;> constructor

theorem setVar_errAt (env : Env) (k : Bytes) (v : Val) (line : Nat) : ErrAt line (setVar env k v line) := by
  unfold setVar
  split <;> constructor

theorem bindArgs_errAt : ∀ (env : Env) (kvs : List (Bytes × Val)) (line : Nat), ErrAt line (bindArgs env kvs line)
  | _, [], _ => .ok _
  | env, (k, v) :: r, line => by
    unfold bindArgs
    split
    · exact bindArgs_errAt _ r line
    · exact .err _ _

def Stable {α} (r r' : Res α) : Prop := r = .oof ∨ r' = r

theorem Stable.rfl' {α} (r : Res α) : Stable r r := Or.inr rfl

theorem Stable.ok {α} (a : α) : Stable (Res.ok a) (Res.ok a) := Or.inr rfl

theorem Stable.bind {α β} {r r' : Res α} {f f' : α → Res β} (h : Stable r r') (hf : ∀ a, r = .ok a → Stable (f a) (f' a)) :
    Stable (r.bind f) (r'.bind f') := by
  rcases h with h | h
  · left; rw [h]; rfl
  · rw [h]
    cases r with
    | ok a => exact hf a rfl
    | err e l as => right; rfl
    | panic w => right; rfl
    | oof => left; rfl

theorem Stable.iter {α} {g : Nat → Res α} (h : ∀ n, Stable (g n) (g (n + 1))) (f k : Nat) (hf : g f ≠ .oof) :
    g (f + k) = g f := by
  induction k with
  | zero => rfl
  | succ k ih =>
    rcases h (f + k) with h2 | h2
    · rw [ih] at h2; exact absurd h2 hf
    · exact h2.trans ih

theorem Stable.iter_ok {α} {g : Nat → Res α} (h : ∀ n, Stable (g n) (g (n + 1))) {f : Nat} {a : α} (hf : g f = .ok a) (k : Nat) :
    g (f + k) = .ok a := by
  rw [Stable.iter h f k (by rw [hf]; simp), hf]

mutual
def Expr.badFree : Expr → Bool
  | .bad => false
  | .ident _ _ | .int _ _ | .float _ _ | .str _ _ | .nil _ | .bool _ _ => true
  | .arr _ es => Expr.badFreeList es
  | .obj _ ps => Expr.badFreePairs ps
  | .pre _ _ r => r.badFree
  | .inf _ _ l r => l.badFree && r.badFree
  | .post _ _ l => l.badFree
  | .tern _ c a b => c.badFree && a.badFree && b.badFree
  | .index _ l i => l.badFree && i.badFree
  | .dot _ l _ => l.badFree
  | .call _ r _ args => r.badFree && Expr.badFreeList args
def Expr.badFreeList : List Expr → Bool
  | [] => true
  | e :: r => e.badFree && Expr.badFreeList r
def Expr.badFreePairs : List (Bytes × Expr) → Bool
  | [] => true
  | (_, e) :: r => e.badFree && Expr.badFreePairs r
end

def optBF {α} (f : α → Bool) : Option α → Bool
  | none => true
  | some a => f a

mutual
def Stmt.badFree : Stmt → Bool
  | .bad => false
  | .html _ | .use _ _ | .reserve _ _ _ | .brk _ | .cont _ => true
  | .expr _ e => e.badFree
  | .assign _ _ e => e.badFree
  | .ifS _ c cons alts alt => c.badFree && Stmt.badFreeList cons && Stmt.badFreeAlts alts && Stmt.badFreeOpt alt
  | .forS _ init cnd post body alt =>
    Stmt.badFreeOptS init && optBF Expr.badFree cnd && Stmt.badFreeOptS post && Stmt.badFreeList body && Stmt.badFreeOpt alt
  | .eachS _ _ arr body alt => arr.badFree && Stmt.badFreeList body && Stmt.badFreeOpt alt
  | .insert _ _ arg block => optBF Expr.badFree arg && Stmt.badFreeOpt block
  | .breakIf _ c => c.badFree
  | .continueIf _ c => c.badFree
  | .component _ _ arg _ => optBF Expr.badFreePairs arg
  | .slot _ _ body => Stmt.badFreeOpt body
  | .dump _ args => Expr.badFreeList args
def Stmt.badFreeList : List Stmt → Bool
  | [] => true
  | s :: r => s.badFree && Stmt.badFreeList r
def Stmt.badFreeOpt : Option (List Stmt) → Bool
  | none => true
  | some ss => Stmt.badFreeList ss
def Stmt.badFreeOptS : Option Stmt → Bool
  | none => true
  | some s => s.badFree
def Stmt.badFreeAlts : List (Expr × List Stmt) → Bool
  | [] => true
  | (e, ss) :: r => e.badFree && Stmt.badFreeList ss && Stmt.badFreeAlts r
end

theorem Expr.badFree_inf {t : Token} {op : Bytes} {l r : Expr} :
    (Expr.inf t op l r).badFree = true ↔ l.badFree = true ∧ r.badFree = true := Bool.and_eq_true_iff
theorem Expr.badFree_index {t : Token} {l i : Expr} :
    (Expr.index t l i).badFree = true ↔ l.badFree = true ∧ i.badFree = true := Bool.and_eq_true_iff
theorem Expr.badFree_call {t : Token} {r : Expr} {fn : Bytes} {args : List Expr} :
    (Expr.call t r fn args).badFree = true ↔ r.badFree = true ∧ Expr.badFreeList args = true := Bool.and_eq_true_iff
theorem Expr.badFree_tern {t : Token} {c a bb : Expr} :
    (Expr.tern t c a bb).badFree = true ↔ c.badFree = true ∧ a.badFree = true ∧ bb.badFree = true := by
  simp only [Expr.badFree, Bool.and_eq_true, and_assoc]
theorem Expr.badFreeList_cons {e : Expr} {r : List Expr} :
    Expr.badFreeList (e :: r) = true ↔ e.badFree = true ∧ Expr.badFreeList r = true := Bool.and_eq_true_iff
theorem Expr.badFreePairs_cons {k : Bytes} {e : Expr} {r : List (Bytes × Expr)} :
    Expr.badFreePairs ((k, e) :: r) = true ↔ e.badFree = true ∧ Expr.badFreePairs r = true := Bool.and_eq_true_iff

theorem Stmt.badFree_ifS {t : Token} {c : Expr} {cons : List Stmt} {alts : List (Expr × List Stmt)} {alt : Option (List Stmt)} :
    (Stmt.ifS t c cons alts alt).badFree = true ↔
      c.badFree = true ∧ Stmt.badFreeList cons = true ∧ Stmt.badFreeAlts alts = true ∧ Stmt.badFreeOpt alt = true := by
  simp only [Stmt.badFree, Bool.and_eq_true, and_assoc]
theorem Stmt.badFree_eachS {t : Token} {var : Bytes} {arr : Expr} {body : List Stmt} {alt : Option (List Stmt)} :
    (Stmt.eachS t var arr body alt).badFree = true ↔ arr.badFree = true ∧ Stmt.badFreeList body = true ∧ Stmt.badFreeOpt alt = true := by
  simp only [Stmt.badFree, Bool.and_eq_true, and_assoc]
theorem Stmt.badFreeList_cons {s : Stmt} {r : List Stmt} :
    Stmt.badFreeList (s :: r) = true ↔ s.badFree = true ∧ Stmt.badFreeList r = true := Bool.and_eq_true_iff
theorem Stmt.badFreeAlts_cons {e : Expr} {ss : List Stmt} {r : List (Expr × List Stmt)} :
    Stmt.badFreeAlts ((e, ss) :: r) = true ↔ e.badFree = true ∧ Stmt.badFreeList ss = true ∧ Stmt.badFreeAlts r = true := by
  simp only [Stmt.badFreeAlts, Bool.and_eq_true, and_assoc]

structure ForBadFree (init : Option Stmt) (cnd : Option Expr) (post : Option Stmt) (body : List Stmt) : Prop where
  init : Stmt.badFreeOptS init = true
  cond : optBF Expr.badFree cnd = true
  post : Stmt.badFreeOptS post = true
  body : Stmt.badFreeList body = true

theorem Stmt.badFree_forS {t : Token} {init : Option Stmt} {cnd : Option Expr} {post : Option Stmt} {body : List Stmt}
    {alt : Option (List Stmt)} :
    (Stmt.forS t init cnd post body alt).badFree = true ↔ ForBadFree init cnd post body ∧ Stmt.badFreeOpt alt = true := by
  simp only [Stmt.badFree, Bool.and_eq_true]
  exact ⟨fun ⟨⟨⟨⟨a, b⟩, c⟩, d⟩, e⟩ => ⟨⟨a, b, c, d⟩, e⟩, fun ⟨⟨a, b, c, d⟩, e⟩ => ⟨⟨⟨⟨a, b⟩, c⟩, d⟩, e⟩⟩

def NP {α} (r : Res α) : Prop := r.isPanic = false

theorem NP.ok {α} (a : α) : NP (Res.ok a) := rfl
theorem NP.err {α} (e : String) (l : Nat) (as : List Bytes) : NP (Res.err e l as : Res α) := rfl
theorem NP.oof {α} : NP (Res.oof : Res α) := rfl
theorem NP.ne_panic {α} {r : Res α} (h : NP r) (why : String) : r ≠ .panic why := fun e => by rw [e] at h; cases h

theorem NP.bind {α β} {r : Res α} {f : α → Res β} (h : NP r) (hf : ∀ a, r = .ok a → NP (f a)) : NP (r.bind f) := by
  cases r with
  | ok a => exact hf a rfl
  | err e l as => rfl
  | panic w => cases h
  | oof => rfl

theorem ErrAt.np {α} {line : Nat} {r : Res α} (h : ErrAt line r) : NP r := by
  cases h <;> rfl

theorem Expr.badFreePairs_iff : ∀ ps : List (Bytes × Expr), Expr.badFreePairs ps = true ↔ ∀ p ∈ ps, p.2.badFree = true
  | [] => by simp [Expr.badFreePairs]
  | (k, e) :: r => by simp [Expr.badFreePairs, Expr.badFreePairs_iff r]

theorem Stmt.badFreeList_iff : ∀ ss : List Stmt, Stmt.badFreeList ss = true ↔ ∀ s ∈ ss, s.badFree = true
  | [] => by simp [Stmt.badFreeList]
  | s :: r => by simp [Stmt.badFreeList, Stmt.badFreeList_iff r]

theorem Expr.badFreePairs_sort {ps : List (Bytes × Expr)} (h : Expr.badFreePairs ps = true) :
    Expr.badFreePairs (sortByKey ps) = true :=
  (Expr.badFreePairs_iff _).mpr fun p hp => (Expr.badFreePairs_iff ps).mp h p ((sortByKey_perm ps).subset hp)

def InsertDef.badFree (i : InsertDef) : Bool := optBF Expr.badFree i.arg && Stmt.badFreeOpt i.block

def Ctx.badFree (c : Ctx) : Bool :=
  Stmt.badFreeOpt c.layout && c.inserts.all (fun p => p.2.badFree) && c.comps.all (fun p => Stmt.badFreeList p.2)

theorem Ctx.badFree_iff (c : Ctx) : Ctx.badFree c = true ↔
    Stmt.badFreeOpt c.layout = true ∧ (∀ x ∈ c.inserts, x.2.badFree = true) ∧ (∀ x ∈ c.comps, Stmt.badFreeList x.2 = true) := by
  simp [Ctx.badFree, Bool.and_assoc, List.all_eq_true]

mutual
/-- `Token.ErrorLine` of every token of the tree: `e.toks.map Token.errorLine` (`Expr.lines_eq`, ParseToks).  The evaluator's
    half of C13 (`EL`) needs the lines only; the parser's and the loader's halves follow the tokens themselves (`toks`). -/
def Expr.lines : Expr → List Nat
  | .bad => []
  | .ident t _ => [t.errorLine]
  | .int t _ => [t.errorLine]
  | .float t _ => [t.errorLine]
  | .str t _ => [t.errorLine]
  | .nil t => [t.errorLine]
  | .bool t _ => [t.errorLine]
  | .arr t es => t.errorLine :: Expr.linesL es
  | .obj t ps => t.errorLine :: Expr.linesP ps
  | .pre t _ r => t.errorLine :: r.lines
  | .inf t _ l r => t.errorLine :: (l.lines ++ r.lines)
  | .post t _ l => t.errorLine :: l.lines
  | .tern t c a bb => t.errorLine :: (c.lines ++ (a.lines ++ bb.lines))
  | .index t l i => t.errorLine :: (l.lines ++ i.lines)
  | .dot t l _ => t.errorLine :: l.lines
  | .call t r _ args => t.errorLine :: (r.lines ++ Expr.linesL args)
def Expr.linesL : List Expr → List Nat
  | [] => []
  | e :: r => e.lines ++ Expr.linesL r
def Expr.linesP : List (Bytes × Expr) → List Nat
  | [] => []
  | (_, e) :: r => e.lines ++ Expr.linesP r
end

theorem Expr.line_mem (e : Expr) (h : e.isBad = false) : e.line ∈ e.lines := by
  cases e <;> first | exact List.mem_cons_self | cases h

theorem Expr.mem_linesP (x : Nat) : ∀ ps : List (Bytes × Expr), x ∈ Expr.linesP ps ↔ ∃ p ∈ ps, x ∈ p.2.lines
  | [] => by simp [Expr.linesP]
  | (k, e) :: r => by simp [Expr.linesP, Expr.mem_linesP x r]

theorem Expr.linesP_sort (pairs : List (Bytes × Expr)) : Expr.linesP (sortByKey pairs) ⊆ Expr.linesP pairs := by
  intro x hx
  rw [Expr.mem_linesP] at hx ⊢
  obtain ⟨p, hp, hl⟩ := hx
  exact ⟨p, (sortByKey_perm pairs).subset hp, hl⟩

def EL {α} (r : Res α) (L : List Nat) : Prop := ∀ code line args, r = .err code line args → line ∈ L

theorem EL.mono {α} {r : Res α} {L M : List Nat} (h : EL r L) (hs : L ⊆ M) : EL r M :=
  fun c l a e => hs (h c l a e)

theorem EL.ok {α} (a : α) (L : List Nat) : EL (Res.ok a) L := fun _ _ _ h => by cases h
theorem EL.oof {α} (L : List Nat) : EL (Res.oof : Res α) L := fun _ _ _ h => by cases h
theorem EL.panic {α} (w : String) (L : List Nat) : EL (Res.panic w : Res α) L := fun _ _ _ h => by cases h
theorem EL.err {α} (c : String) (l : Nat) (a : List Bytes) (L : List Nat) (h : l ∈ L) : EL (Res.err c l a : Res α) L :=
  fun _ _ _ e => by cases e; exact h

theorem EL.bind {α β} {r : Res α} {f : α → Res β} {L : List Nat} (h : EL r L) (hf : ∀ a, r = .ok a → EL (f a) L) :
    EL (r.bind f) L := by
  cases r with
  | ok a => exact hf a rfl
  | err e l as => exact fun c ln a he => h c ln a (by cases he; rfl)
  | panic w => exact EL.panic _ _
  | oof => exact EL.oof _

theorem ErrAt.el {α} {line : Nat} {r : Res α} (h : ErrAt line r) : EL r [line] := by
  cases h
  · exact EL.ok _ _
  · exact EL.err _ _ _ _ List.mem_cons_self

theorem EL.single {α} {r : Res α} {x : Nat} {L : List Nat} (h : EL r [x]) (hx : x ∈ L) : EL r L :=
  h.mono (fun y hy => by simp at hy; rw [hy]; exact hx)

def optL {α} (f : α → List Nat) : Option α → List Nat
  | none => []
  | some a => f a

mutual
def Stmt.lines : Stmt → List Nat
  | .bad => []
  | .html t => [t.errorLine]
  | .expr t e => t.errorLine :: e.lines
  | .assign t _ e => t.errorLine :: e.lines
  | .ifS t c cons alts alt => t.errorLine :: (c.lines ++ (Stmt.linesL cons ++ (Stmt.linesA alts ++ Stmt.linesO alt)))
  | .forS t init cnd post body alt =>
    t.errorLine :: (Stmt.linesOS init ++ (optL Expr.lines cnd ++ (Stmt.linesOS post ++ (Stmt.linesL body ++ Stmt.linesO alt))))
  | .eachS t _ arr body alt => t.errorLine :: (arr.lines ++ (Stmt.linesL body ++ Stmt.linesO alt))
  | .use t _ => [t.errorLine]
  | .reserve t _ _ => [t.errorLine]
  | .insert t _ arg block => t.errorLine :: (optL Expr.lines arg ++ Stmt.linesO block)
  | .breakIf t c => t.errorLine :: c.lines
  | .continueIf t c => t.errorLine :: c.lines
  | .component t _ arg _ => t.errorLine :: optL Expr.linesP arg
  | .slot t _ body => t.errorLine :: Stmt.linesO body
  | .dump t args => t.errorLine :: Expr.linesL args
  | .brk t => [t.errorLine]
  | .cont t => [t.errorLine]
def Stmt.linesL : List Stmt → List Nat
  | [] => []
  | s :: r => s.lines ++ Stmt.linesL r
def Stmt.linesO : Option (List Stmt) → List Nat
  | none => []
  | some ss => Stmt.linesL ss
def Stmt.linesOS : Option Stmt → List Nat
  | none => []
  | some s => s.lines
def Stmt.linesA : List (Expr × List Stmt) → List Nat
  | [] => []
  | (e, ss) :: r => e.lines ++ (Stmt.linesL ss ++ Stmt.linesA r)
end

def InsertDef.lines (i : InsertDef) : List Nat := i.tok.errorLine :: (optL Expr.lines i.arg ++ Stmt.linesO i.block)

def Ctx.lines (c : Ctx) : List Nat :=
  Stmt.linesO c.layout ++ (c.inserts.flatMap (fun p => p.2.lines) ++ c.comps.flatMap (fun p => Stmt.linesL p.2))

/-- `KRel` (EvalWalk) at the relation of `el_closed`, written out field by field for C13 to quote -/
structure KEL (k : Callees) : Prop where
  expr : ∀ c env e, EL (k.expr c env e) e.lines
  exprs : ∀ c env es, EL (k.exprs c env es) (Expr.linesL es)
  pairs : ∀ c env ps, EL (k.pairs c env ps) (Expr.linesP ps)
  stmt : ∀ c env s, EL (k.stmt c env s) (s.lines ++ c.lines)
  elseIfs : ∀ c env a b, EL (k.elseIfs c env a b) (Stmt.linesA a ++ (Stmt.linesO b ++ c.lines))
  block : ∀ c env ss, EL (k.block c env ss) (Stmt.linesL ss ++ c.lines)
  prog : ∀ c env ss acc, EL (k.prog c env ss acc) (Stmt.linesL ss ++ c.lines)
  forL : ∀ c env t i cn p b acc, EL (k.forL c env t i cn p b acc)
    (t.errorLine :: (Stmt.linesOS i ++ (optL Expr.lines cn ++ (Stmt.linesOS p ++ (Stmt.linesL b ++ c.lines)))))
  eachL : ∀ c env t v b xs i n acc, EL (k.eachL c env t v b xs i n acc) (t.errorLine :: (Stmt.linesL b ++ c.lines))

/-- closes `L ⊆ M` between lists of lines: with the list functions unfolded, membership in `M` follows
    from membership in `L` by propositional reasoning -/
macro "lines_mem" : tactic =>
  `(tactic| (intro x hx
             simp only [Stmt.lines, Stmt.linesL, Stmt.linesO, Stmt.linesOS, Stmt.linesA, optL, List.mem_append, List.mem_cons,
               List.mem_singleton, List.not_mem_nil, or_false, false_or] at hx ⊢
             grind))

theorem lookupNat_mem {α} {m : List (Nat × α)} {k : Nat} {v : α} (h : lookupNat m k = some v) : ∃ p ∈ m, p.2 = v := by
  obtain ⟨p, hf, hp⟩ := Option.map_eq_some_iff.mp h
  exact ⟨p, List.mem_of_find?_eq_some hf, hp⟩

theorem ctx_layout_lines {c : Ctx} {prog : List Stmt} (h : c.layout = some prog) : Stmt.linesL prog ⊆ c.lines := by
  intro x hx
  unfold Ctx.lines
  rw [h]
  exact List.mem_append_left _ hx

theorem ctx_insert_lines {c : Ctx} {p : Nat × InsertDef} (hp : p ∈ c.inserts) : p.2.lines ⊆ c.lines := by
  intro x hx
  unfold Ctx.lines
  simp only [List.mem_append, List.mem_flatMap]
  exact Or.inr (Or.inl ⟨p, hp, hx⟩)

theorem ctx_comp_lines {c : Ctx} {p : Nat × List Stmt} (hp : p ∈ c.comps) : Stmt.linesL p.2 ⊆ c.lines := by
  intro x hx
  unfold Ctx.lines
  simp only [List.mem_append, List.mem_flatMap]
  exact Or.inr (Or.inr ⟨p, hp, hx⟩)

theorem append_ctx_subset {A C : List Nat} (L : List Nat) (h : A ⊆ C) : A ++ C ⊆ L ++ C :=
  List.append_subset.mpr ⟨fun _ hx => List.mem_append_right _ (h hx), List.subset_append_right _ _⟩

end Tw
