/-
  TwProofs.Lemmas.Basics — what the lexer, parser and library lemmas share: the case rule for `if`
  under a relation, and `isPrefixOf` against `++`.
-/
import TwModel.Basic

namespace Tw

theorem ite_rel {α β} {R : α → β → Prop} {c : Prop} [Decidable c] {a b : α} {a' b' : β}
    (h1 : c → R a a') (h2 : ¬ c → R b b') : R (if c then a else b) (if c then a' else b') := by
  split
  · exact h1 ‹c›
  · exact h2 ‹¬ c›

theorem eq_append_of_isPrefixOf : ∀ (sep s : Bytes), isPrefixOf sep s = true → s = sep ++ s.drop sep.length
  | [], s, _ => by simp
  | x :: xs, [], h => by simp [isPrefixOf] at h
  | x :: xs, y :: ys, h => by
    simp only [isPrefixOf, Bool.and_eq_true, beq_iff_eq] at h
    have := eq_append_of_isPrefixOf xs ys h.2
    simp only [List.cons_append, List.length_cons, List.drop_succ_cons]
    rw [h.1, ← this]

theorem isPrefixOf_append : ∀ s post : Bytes, isPrefixOf s (s ++ post) = true
  | [], _ => rfl
  | x :: xs, post => by simp [isPrefixOf, isPrefixOf_append xs post]

end Tw
