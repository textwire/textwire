/-
  TwProofs.Lemmas.SimpleBlock — blocks made of text and plain variable prints: what they render
  is their text with the holes filled from the environment (the loop bodies of C03, the component bodies of C07, the error page of C17).
-/
import TwModel
import TwProofs.Lemmas.Render
import TwProofs.Lemmas.Env
namespace Tw

def simpleBlock : List Stmt → Bool
  | [] => true
  | .html _ :: r => simpleBlock r
  | .expr _ (.ident _ _) :: r => simpleBlock r
  | _ => false

inductive Piece where
  | text (t : Bytes)
  | hole (name : Bytes)
  deriving DecidableEq

def piecesOf : List Stmt → List Piece
  | [] => []
  | .html t :: r => .text t.lit :: piecesOf r
  | .expr _ (.ident _ n) :: r => .hole n :: piecesOf r
  | _ :: r => piecesOf r

def holesBound (env : Env) : List Piece → Prop
  | [] => True
  | .text _ :: r => holesBound env r
  | .hole n :: r => (env.get n).isSome = true ∧ holesBound env r

instance (env : Env) : (ps : List Piece) → Decidable (holesBound env ps)
  | [] => isTrue trivial
  | .text _ :: r => by unfold holesBound; exact instDecidableHolesBound env r
  | .hole _ :: r => by
    have := instDecidableHolesBound env r
    unfold holesBound; exact inferInstance

def fill (env : Env) : List Piece → Bytes
  | [] => []
  | .text t :: r => t ++ fill env r
  | .hole n :: r => ((env.get n).map Val.toStr).getD [] ++ fill env r

theorem holesBound_append (env : Env) : ∀ (a c : List Piece), holesBound env (a ++ c) ↔ holesBound env a ∧ holesBound env c
  | [], c => by simp [holesBound]
  | .text _ :: r, c => by simp [holesBound, holesBound_append env r c]
  | .hole _ :: r, c => by simp [holesBound, holesBound_append env r c, and_assoc]

theorem fill_append (env : Env) : ∀ (a c : List Piece), fill env (a ++ c) = fill env a ++ fill env c
  | [], c => by simp [fill]
  | .text _ :: r, c => by simp [fill, fill_append env r c]
  | .hole _ :: r, c => by simp [fill, fill_append env r c]

theorem fill_push (env : Env) : ∀ ps : List Piece, fill env.push ps = fill env ps
  | [] => rfl
  | .text _ :: r => by simp [fill, fill_push env r]
  | .hole n :: r => by simp [fill, fill_push env r, get_push]

theorem holesBound_push (env : Env) : ∀ ps : List Piece, holesBound env ps → holesBound env.push ps
  | [], _ => trivial
  | .text _ :: r, h => holesBound_push env r h
  | .hole n :: r, h => ⟨by rw [get_push]; exact h.1, holesBound_push env r h.2⟩

theorem simpleBlock_cons {s : Stmt} {r : List Stmt} (h : simpleBlock (s :: r) = true) :
    ((∃ t, s = .html t) ∨ ∃ t t2 n, s = .expr t (.ident t2 n)) ∧ simpleBlock r = true := by
  cases s with
  | html t => exact ⟨Or.inl ⟨t, rfl⟩, h⟩
  | expr t e =>
    cases e with
    | ident t2 n => exact ⟨Or.inr ⟨t, t2, n, rfl⟩, h⟩
    | _ => cases h
  | _ => cases h

theorem simple_length : ∀ ss : List Stmt, simpleBlock ss = true → ss.length = (piecesOf ss).length
  | [], _ => rfl
  | s :: r, h => by
    obtain ⟨hsh, hs'⟩ := simpleBlock_cons h
    have ih := simple_length r hs'
    rcases hsh with ⟨t, rfl⟩ | ⟨t, t2, n, rfl⟩ <;> simp [piecesOf, ih]

/-- `{{ name }}` for a bound name, the output as `fill`, `wrender`, `xrender`, `aeval` and `seval` spell it -/
theorem Renders.ident_bound (c : Ctx) {env : Env} (t t2 : Token) {n : Bytes} (h : (env.get n).isSome = true) :
    Renders c env (.expr t (.ident t2 n)) (((env.get n).map Val.toStr).getD []) 2 := by
  obtain ⟨v, hv⟩ := Option.isSome_iff_exists.mp h
  rw [hv]
  exact Renders.ident c t t2 hv

/-- `ss.length + 3`: a print needs 2 (`Renders.ident`), each step through the list one unit, and the empty list is entered at 3 -/
theorem yieldsAll_simple (c : Ctx) (env : Env) : ∀ (ss : List Stmt), simpleBlock ss = true → holesBound env (piecesOf ss) →
    YieldsAll c env ss (fill env (piecesOf ss)) env (ss.length + 3)
  | [], _, _ => .nil env 2
  | s :: r, hs, hb => by
    obtain ⟨hsh, hs'⟩ := simpleBlock_cons hs
    rcases hsh with ⟨t, rfl⟩ | ⟨t, t2, n, rfl⟩
    · exact .cons (fun f hf => Renders.html c env t f (by omega)) (yieldsAll_simple c env r hs' hb) (by simp) (by simp)
    · exact .cons (Renders.ident_bound c t t2 hb.1) (yieldsAll_simple c env r hs' hb.2) (by simp) (by simp)

theorem evalProg_simple (c : Ctx) (env : Env) : ∀ (ss : List Stmt) (fuel : Nat) (acc : Bytes), simpleBlock ss = true →
    holesBound env (piecesOf ss) → ss.length + 3 ≤ fuel →
    evalProg fuel c env ss acc = .ok (acc ++ fill env (piecesOf ss), env) :=
  fun ss fuel acc hs hb hf => (yieldsAll_simple c env ss hs hb).evalProg fuel acc hf

end Tw
