/-
  TwProofs.Lemmas.TextPieces — the lexer in text mode, one `NextToken` body at a time: one text
  token, one comment, the end of the input; and what `readHTML` does on a run without syntax (C05).
-/
import TwProofs.Lemmas.LexProgress
import TwProofs.Lemmas.LexRun
namespace Tw
open Lx

/-- one text token, its literal `lit` possibly shorter than the bytes `cons` it covers (escaping
    backslashes removed) -/
theorem text_step (s : Lx) (cons bd lit : Bytes) (hh : s.isHTML = true) (hr : s.rest = cons ++ bd) (ha : cons ≠ [])
    (hnb : ¬ (s.char = 123 ∧ s.peek = 123)) (hnd : (isDirectiveToken s).1 = false)
    (hscan : htmlScan s.prev [] 0 false s.rest = (lit.reverse, cons.length, false)) :
    ∃ t s', nextStep s = (.tok t, s') ∧ key t = (.HTML, lit) ∧ s'.rest = bd ∧ s'.pre = cons.reverse ++ s.pre ∧ mode s' = mode s := by
  have hne : s.rest ≠ [] := by rw [hr]; simp [ha]
  have he : htmlToken s = emit s cons.length .HTML lit := by
    unfold htmlToken; simp only [hscan, List.reverse_reverse, Bool.or_false]
  rw [nextStep_html s hh, stepAt_html s hh hne hnb hnd, he]
  refine ⟨_, _, rfl, emit_key _ _ _ _, ?_, ?_, mode_advance s.tokenBegins cons.length⟩
  · rw [emit_rest, hr]; simp
  · show (advance s.tokenBegins cons.length).pre = _
    rw [advance_pre, tokenBegins_rest, tokenBegins_pre, hr]; simp

theorem nextStep_text (s : Lx) (a bd : Bytes) (hh : s.isHTML = true) (hr : s.rest = a ++ bd) (ha : a ≠ [])
    (hnb : (s.char == 123 && s.peek == 123) = false) (hnd : (isDirectiveToken s).1 = false)
    (hscan : htmlScan s.prev [] 0 false s.rest = (a.reverse, a.length, false)) :
    ∃ t s', nextStep s = (.tok t, s') ∧ t.ty = .HTML ∧ t.lit = a ∧ s'.rest = bd ∧ s'.isHTML = true ∧
      s'.panicked = s.panicked ∧ s'.pre = a.reverse ++ s.pre := by
  obtain ⟨t, s', h1, k, h4, h7, m⟩ := text_step s a bd a hh hr ha (by simpa using hnb) hnd hscan
  exact ⟨t, s', h1, congrArg Prod.fst k, congrArg Prod.snd k, h4, (mode_html m).trans hh, mode_pan m, h7⟩

/-- at "{{--" the lexer emits nothing and resumes, in text mode, right behind the first "--}}"
    (`hcm`: that is the one behind `cm`) -/
theorem comment_step (s : Lx) (cm r : Bytes) (hh : s.isHTML = true)
    (hr : s.rest = [123, 123, 45, 45] ++ cm ++ [45, 45, 125, 125] ++ r)
    (hcm : commentScan (cm ++ [45, 45, 125, 125] ++ r) = cm.length) :
    ∃ s', nextStep s = (.again, s') ∧ s'.rest = r ∧ s'.prev = 125 ∧ mode s' = mode s := by
  have hb_rest : (bracesToken s .LBRACES [123, 123]).2.rest = [45, 45] ++ cm ++ [45, 45, 125, 125] ++ r := by
    unfold bracesToken; rw [emit_rest]; simp [hr]
  have hr4 : s.rest = 123 :: 123 :: (45 :: 45 :: (cm ++ [45, 45, 125, 125] ++ r)) := by rw [hr]; simp
  have hstep := stepAt_comment s (by rw [hr]; simp) ⟨Lx.char_of_rest hr4, Lx.peek_of_rest hr4⟩
    ⟨Lx.char_of_rest hb_rest, Lx.peek_of_rest hb_rest⟩
  refine ⟨_, by rw [nextStep_html s hh, hstep], ?_⟩
  have hm1 : mode (bracesToken s .LBRACES [123, 123]).2 = (false, s.isDirective, s.parens, s.braces, s.panicked) := mode_advance _ 2
  generalize (bracesToken s .LBRACES [123, 123]).2 = s1 at hb_rest hm1
  have hcm' : commentScan (s1.rest.drop 2) = cm.length := by rw [hb_rest, ← hcm]; simp
  have hsplit : (s1.withHTML true).rest = ([45, 45] ++ cm ++ [45, 45, 125]) ++ 125 :: r := by
    show s1.rest = _; rw [hb_rest]; simp
  have hlen : 2 + cm.length + 4 = ([45, 45] ++ cm ++ [45, 45, 125]).length + 1 := by simp; omega
  rw [skipComment_eq, hcm', if_neg (by rw [isEOF_iff, advance_rest, hb_rest]; simp; omega), hlen]
  refine ⟨by rw [advance_rest, hsplit]; simp, advance_prev_split _ _ 125 r hsplit, ?_⟩
  rw [mode_advance]
  -- back in text mode, where `s` was; the other flags are those of `s1`, which has them from `s`
  show (true, (mode s1).2) = (s.isHTML, (mode s).2)
  rw [hm1, hh]
  rfl

theorem nextStep_comment (s : Lx) (cm r : Bytes) (hh : s.isHTML = true)
    (hr : s.rest = [123, 123, 45, 45] ++ cm ++ [45, 45, 125, 125] ++ r)
    (hcm : commentScan (cm ++ [45, 45, 125, 125] ++ r) = cm.length) :
    ∃ s', nextStep s = (.again, s') ∧ s'.rest = r ∧ s'.isHTML = true ∧ s'.panicked = s.panicked ∧ s'.prev = 125 := by
  obtain ⟨s', h1, h2, h5, m⟩ := comment_step s cm r hh hr hcm
  exact ⟨s', h1, h2, (mode_html m).trans hh, mode_pan m, h5⟩

theorem nextStep_eof (s : Lx) (hh : s.isHTML = true) (hr : s.rest = []) :
    nextStep s = (.tok (s.tokenBegins.newToken .EOF []), s.tokenBegins) := by
  rw [nextStep_html s hh, stepAt_eof s hr]

/-- no "{{" and no '@' at which a directive keyword starts, anywhere in the bytes -/
def Plain : Bytes → Prop
  | [] => True
  | c :: r => ¬ (c = 123 ∧ r.headD 0 = 123) ∧ ¬ (c = 64 ∧ hasDirectivePrefix (c :: r) = true) ∧ Plain r

instance : (s : Bytes) → Decidable (Plain s)
  | [] => isTrue trivial
  | c :: r =>
    have : Decidable (Plain r) := instDecidablePlain r
    by unfold Plain; exact inferInstance

/-- neither "{{" nor a directive keyword begins inside `a` when `tl` follows it -/
def PlainBefore : Bytes → Bytes → Prop
  | [], _ => True
  | c :: a, tl => ¬ (c = 123 ∧ (a ++ tl).headD 0 = 123) ∧ ¬ (c = 64 ∧ hasDirectivePrefix (c :: (a ++ tl)) = true) ∧ PlainBefore a tl

instance : (a tl : Bytes) → Decidable (PlainBefore a tl)
  | [], _ => isTrue trivial
  | c :: a, tl =>
    have : Decidable (PlainBefore a tl) := instDecidablePlainBefore a tl
    by unfold PlainBefore; exact inferInstance

theorem plainBefore_nil (a : Bytes) : PlainBefore a [] ↔ Plain a := by
  induction a with
  | nil => simp [PlainBefore, Plain]
  | cons c r ih => simp [PlainBefore, Plain, ih]

theorem htmlScan_plainBefore (a tl : Bytes) : ∀ (prev : Byte) (out : Bytes) (n : Nat) (pan : Bool), PlainBefore a tl →
    htmlScan prev out n pan (a ++ tl) = htmlScan (lastOr a prev) (a.reverse ++ out) (n + a.length) pan tl := by
  induction a with
  | nil => intro prev out n pan _; simp [lastOr]
  | cons c r ih =>
    intro prev out n pan h
    obtain ⟨h1, h2, h3⟩ := h
    have hb : (c == 123 && (r ++ tl).headD 0 == 123) = false := by simpa using h1
    have ha : (c == 64 && hasDirectivePrefix (c :: (r ++ tl))) = false := by simpa using h2
    simp only [List.cons_append, htmlScan, hb, ha, Bool.or_self, Bool.false_and]
    rw [ih c (c :: out) (n + 1) pan h3, lastOr_cons]
    simp [Nat.add_assoc, Nat.add_comm 1]

end Tw
