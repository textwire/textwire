/-
  TwProofs.Lemmas.TextTernary — the ternary, from the source bytes to the parsed program and its value:
  `{{ name ? a : b }}` with two integer literals (C01 `ternary_selects_from_source`: it selects by the truthiness of its
  condition) and `{{ k ? a : j ? b : d }}`, a ternary in the else part of a ternary (C01 `ternary_nests_to_the_right_from_source`).
  Per shape its tokens (`x_block`), its parse (`xCode_parses`, both over `ParsesAt.tern_int`) and its value (`x_evals`).
-/
import TwProofs.Lemmas.TextArith
namespace Tw
open Lx

/-- `{{ g1 k g3 ? g4 a g5 : g6 b g2 }}` -/
def ternSrc (g1 k g3 g4 a g5 g6 b' g2 : Bytes) : Bytes :=
  [123, 123] ++ g1 ++ k ++ g3 ++ [63] ++ g4 ++ a ++ g5 ++ [58] ++ g6 ++ b' ++ g2 ++ [125, 125]

def ternKeys (k a b' : Bytes) : List (TT × Bytes) :=
  [(.LBRACES, [123, 123]), (.IDENT, k), (.QUESTION, [63]), (.INT, a), (.COLON, [58]), (.INT, b'), (.RBRACES, [125, 125])]

def ternLexemes (g1 k g3 g4 a g5 g6 b' : Bytes) : List (Bytes × Lexeme) :=
  [(g1, .word k), (g3, .sym 63 .QUESTION), (g4, .int a), (g5, .sym 58 .COLON), (g6, .int b')]

def ternCode (g1 k g3 g4 a g5 g6 b' g2 : Bytes) : Code := { src := ternSrc g1 k g3 g4 a g5 g6 b' g2, keys := ternKeys k a b' }

theorem tern_block (g1 k g3 g4 a g5 g6 b' g2 : Bytes) (hg1 : allWs g1) (hg2 : allWs g2) (hg3 : allWs g3) (hg4 : allWs g4) (hg5 : allWs g5)
    (hg6 : allWs g6) (hk : isName k) (ha : isDigits a) (hbd : isDigits b') (dir : Bool) :
    Block dir (ternCode g1 k g3 g4 a g5 g6 b' g2) (ternLexemes g1 k g3 g4 a g5 g6 b') g2 where
  src tl := by show ternSrc _ _ _ _ _ _ _ _ _ ++ tl = _; unfold ternSrc; simp only [List.append_assoc, List.cons_append, List.nil_append]; rfl
  keys := by simp [ternCode, blockKeys, ternLexemes, Lexeme.key, ternKeys, hk.2.2]
  gap := hg2
  first _ _ h := by cases h
  lexemes _ := ⟨hg1, Lexeme.word_ok (isName_word hk) hg3 (fun _ => rfl), hg3, Or.inl rfl,
    hg4, Lexeme.int_before ha hg5 rfl (by decide), hg5, Or.inl rfl, hg6, Lexeme.int_before hbd hg2 rfl (by decide), trivial⟩

theorem ParsesAt.tern_int {N : Nat} {t2 t3 t4 t5 t6 tl t7 : Token} {rest tail : List Token} {va : Int64} {e : Expr}
    (h2 : t2.ty = .IDENT) (h3 : t3.ty = .QUESTION) (h4 : t4.ty = .INT) (h5 : t5.ty = .COLON) (h7 : t7.ty = .RBRACES)
    (hva : parseInt64 t4.lit = some va) (hclean : NoIll (t6 :: rest)) (hb : ParsesAt N LOWEST (t6 :: rest) e (tl :: t7 :: tail)) :
    ParsesAt (max 2 N + 2) LOWEST (t2 :: t3 :: t4 :: t5 :: t6 :: rest) (.tern t3 (.ident t2 t2.lit) (.int t4 va) e) (tl :: t7 :: tail) :=
  .mono (.atom (atomExpr_ident h2) (.tern h3 h5 (by decide) (.of_ty h4 (.of_ty h5 hclean)) hclean
    (.one (atomExpr_int h4 hva) (.le (by rw [h5]; decide))) hb (.stop (.rbraces h7)))) (by omega)

theorem ternCode_parses (g1 k g3 g4 a g5 g6 b' g2 : Bytes) (hg1 : allWs g1) (hg2 : allWs g2) (hg3 : allWs g3) (hg4 : allWs g4) (hg5 : allWs g5)
    (hg6 : allWs g6) (hk : isName k) (ha : isDigits a) (hbd : isDigits b')
    (hba : digitsToNat a ≤ 9223372036854775807) (hbb : digitsToNat b' ≤ 9223372036854775807) :
    ParsesAs (ternCode g1 k g3 g4 a g5 g6 b' g2) (fun st => ∃ t6 e, st = .expr t6 e ∧ ∃ t2 t3 t4,
      e = .tern t3 (.ident t2 k) (.int t4 (Int64.ofNat (digitsToNat a))) (.int t6 (Int64.ofNat (digitsToNat b')))) :=
  (tern_block g1 k g3 g4 a g5 g6 b' g2 hg1 hg2 hg3 hg4 hg5 hg6 hk ha hbd false).parsesAs (fun _ => nofun)
    fun t2 ty2 lit2 t3 ty3 _ t4 ty4 lit4 _ ty5 _ _ ty6 lit6 _ _ ty7 cl =>
      ⟨_, _, _, Nat.le_of_ble_eq_true rfl, .tern_int (ty2.trans hk.2.2) ty3 ty4 ty5 ty7 (parseInt64_lit lit4 ha hba) (cl.drop 4)
        (.one (atomExpr_int ty6 (parseInt64_lit lit6 hbd hbb)) (.rbraces ty7)), t2, t3, t4, by rw [lit2]; rfl⟩

theorem evalExpr_tern_ident (f : Nat) (c : Ctx) (env : Env) (t3 t2 : Token) (k : Bytes) (v : Val) (hget : env.get k = some v) (a e : Expr) :
    evalExpr (f + 2) c env (.tern t3 (.ident t2 k) a e) = if isTruthy v then evalExpr (f + 1) c env a else evalExpr (f + 1) c env e := by
  rw [evalExpr_tern_match]
  simp only [evalExpr, hget]

theorem tern_evals (c : Ctx) (env : Env) (k : Bytes) (v : Val) (hget : env.get k = some v) (t2 t3 t4 t6 : Token) (x y : Int64) (fu : Nat) :
    evalExpr (fu + 7) c env (.tern t3 (.ident t2 k) (.int t4 x) (.int t6 y)) = .ok (.int (if isTruthy v then x else y)) := by
  rw [evalExpr_tern_ident (fu + 5) c env t3 t2 k v hget, evalExpr_int, evalExpr_int]
  cases isTruthy v <;> rfl

/-- `{{ g1 k g3 ? g4 a g5 : g6 j g7 ? g8 b g9 : g10 d g2 }}` -/
def tern2Src (g1 k g3 g4 a g5 g6 j g7 g8 b' g9 g10 d g2 : Bytes) : Bytes :=
  [123, 123] ++ g1 ++ k ++ g3 ++ [63] ++ g4 ++ a ++ g5 ++ [58] ++ g6 ++ j ++ g7 ++ [63] ++ g8 ++ b' ++ g9 ++ [58] ++ g10 ++ d ++ g2 ++ [125, 125]

def tern2Keys (k a j b' d : Bytes) : List (TT × Bytes) :=
  [(.LBRACES, [123, 123]), (.IDENT, k), (.QUESTION, [63]), (.INT, a), (.COLON, [58]), (.IDENT, j), (.QUESTION, [63]), (.INT, b'), (.COLON, [58]),
   (.INT, d), (.RBRACES, [125, 125])]

def tern2Lexemes (g1 k g3 g4 a g5 g6 j g7 g8 b' g9 g10 d : Bytes) : List (Bytes × Lexeme) :=
  [(g1, .word k), (g3, .sym 63 .QUESTION), (g4, .int a), (g5, .sym 58 .COLON), (g6, .word j), (g7, .sym 63 .QUESTION), (g8, .int b'),
   (g9, .sym 58 .COLON), (g10, .int d)]

def tern2Code (g1 k g3 g4 a g5 g6 j g7 g8 b' g9 g10 d g2 : Bytes) : Code :=
  { src := tern2Src g1 k g3 g4 a g5 g6 j g7 g8 b' g9 g10 d g2, keys := tern2Keys k a j b' d }

theorem tern2_block (g1 k g3 g4 a g5 g6 j g7 g8 b' g9 g10 d g2 : Bytes)
    (hg1 : allWs g1) (hg2 : allWs g2) (hg3 : allWs g3) (hg4 : allWs g4) (hg5 : allWs g5) (hg6 : allWs g6) (hg7 : allWs g7) (hg8 : allWs g8)
    (hg9 : allWs g9) (hg10 : allWs g10) (hk : isName k) (hj : isName j) (ha : isDigits a) (hbd : isDigits b') (hdd : isDigits d) (dir : Bool) :
    Block dir (tern2Code g1 k g3 g4 a g5 g6 j g7 g8 b' g9 g10 d g2) (tern2Lexemes g1 k g3 g4 a g5 g6 j g7 g8 b' g9 g10 d) g2 where
  src tl := by
    -- with `tern2Code`, `tern2Src` among the `simp only` lemmas instead, `whnf` runs out of heartbeats on the fifteen arguments
    show tern2Src _ _ _ _ _ _ _ _ _ _ _ _ _ _ _ ++ tl = _; unfold tern2Src; simp only [List.append_assoc, List.cons_append, List.nil_append]; rfl
  keys := by simp [tern2Code, blockKeys, tern2Lexemes, Lexeme.key, tern2Keys, hk.2.2, hj.2.2]
  gap := hg2
  first _ _ h := by cases h
  lexemes _ := ⟨hg1, Lexeme.word_ok (isName_word hk) hg3 (fun _ => rfl), hg3, Or.inl rfl,
    hg4, Lexeme.int_before ha hg5 rfl (by decide), hg5, Or.inl rfl,
    hg6, Lexeme.word_ok (isName_word hj) hg7 (fun _ => rfl), hg7, Or.inl rfl,
    hg8, Lexeme.int_before hbd hg9 rfl (by decide), hg9, Or.inl rfl,
    hg10, Lexeme.int_before hdd hg2 rfl (by decide), trivial⟩

theorem tern2Code_parses (g1 k g3 g4 a g5 g6 j g7 g8 b' g9 g10 d g2 : Bytes)
    (hg1 : allWs g1) (hg2 : allWs g2) (hg3 : allWs g3) (hg4 : allWs g4) (hg5 : allWs g5) (hg6 : allWs g6) (hg7 : allWs g7) (hg8 : allWs g8)
    (hg9 : allWs g9) (hg10 : allWs g10) (hk : isName k) (hj : isName j) (ha : isDigits a) (hbd : isDigits b') (hdd : isDigits d)
    (hba : digitsToNat a ≤ 9223372036854775807) (hbb : digitsToNat b' ≤ 9223372036854775807) (hbd' : digitsToNat d ≤ 9223372036854775807) :
    ParsesAs (tern2Code g1 k g3 g4 a g5 g6 j g7 g8 b' g9 g10 d g2) (fun st => ∃ t10 e, st = .expr t10 e ∧ ∃ t2 t3 t4 t6 t7 t8,
      e = .tern t3 (.ident t2 k) (.int t4 (Int64.ofNat (digitsToNat a)))
        (.tern t7 (.ident t6 j) (.int t8 (Int64.ofNat (digitsToNat b'))) (.int t10 (Int64.ofNat (digitsToNat d))))) :=
  (tern2_block g1 k g3 g4 a g5 g6 j g7 g8 b' g9 g10 d g2 hg1 hg2 hg3 hg4 hg5 hg6 hg7 hg8 hg9 hg10 hk hj ha hbd hdd false).parsesAs
    (fun _ => nofun)
    fun t2 ty2 lit2 t3 ty3 _ t4 ty4 lit4 _ ty5 _ t6 ty6 lit6 t7 ty7 _ t8 ty8 lit8 _ ty9 _ _ ty10 lit10 _ _ ty11 cl =>
      ⟨_, _, _, Nat.le_of_ble_eq_true rfl, .tern_int (ty2.trans hk.2.2) ty3 ty4 ty5 ty11 (parseInt64_lit lit4 ha hba) (cl.drop 4)
        (.tern_int (ty6.trans hj.2.2) ty7 ty8 ty9 ty11 (parseInt64_lit lit8 hbd hbb) (cl.drop 8)
          (.one (atomExpr_int ty10 (parseInt64_lit lit10 hdd hbd')) (.rbraces ty11))), t2, t3, t4, t6, t7, t8, by rw [lit2, lit6]; rfl⟩

theorem tern2_evals (c : Ctx) (env : Env) (k j : Bytes) (v w : Val) (hgk : env.get k = some v) (hgj : env.get j = some w)
    (t2 t3 t4 t6 t7 t8 t10 : Token) (x y z : Int64) (fu : Nat) :
    evalExpr (fu + 7) c env (.tern t3 (.ident t2 k) (.int t4 x) (.tern t7 (.ident t6 j) (.int t8 y) (.int t10 z))) =
      .ok (.int (if isTruthy v then x else if isTruthy w then y else z)) := by
  rw [evalExpr_tern_ident (fu + 5) c env t3 t2 k v hgk, evalExpr_int, evalExpr_tern_ident (fu + 4) c env t7 t6 j w hgj, evalExpr_int, evalExpr_int]
  cases isTruthy v <;> cases isTruthy w <;> rfl

/-! Statements in their own right about the same shapes, each read off the shape's `x_block` or the rule `ParsesAt.tern_int`.
    No from-source proof uses them. -/

theorem lex_tern (s : Lx) (g1 k g3 g4 a g5 g6 b' g2 tl : Bytes) (hh : s.isHTML = true) (hb : s.braces = 0)
    (hg1 : allWs g1) (hg2 : allWs g2) (hg3 : allWs g3) (hg4 : allWs g4) (hg5 : allWs g5) (hg6 : allWs g6)
    (hk : isName k) (ha : isDigits a) (hbd : isDigits b') (hr : s.rest = ternSrc g1 k g3 g4 a g5 g6 b' g2 ++ tl) :
    ∃ toks s7, Run s toks s7 ∧ toks.map key = ternKeys k a b' ∧ s7.rest = tl ∧ s7.prev = 125 ∧
      mode s7 = (true, s.isDirective, s.parens, 0, s.panicked) :=
  (tern_block g1 k g3 g4 a g5 g6 b' g2 hg1 hg2 hg3 hg4 hg5 hg6 hk ha hbd _).lex rfl hh hb hr

theorem parse_tern_expr (k : Nat) (t2 t3 t4 t5 t6 t7 : Token) (tail : List Token) (va vb : Int64)
    (h2 : t2.ty = .IDENT) (h3 : t3.ty = .QUESTION) (h4 : t4.ty = .INT) (h5 : t5.ty = .COLON) (h6 : t6.ty = .INT) (h7 : t7.ty = .RBRACES)
    (hva : parseInt64 t4.lit = some va) (hvb : parseInt64 t6.lit = some vb) (hclean : ∀ x ∈ tail, x.ty ≠ .ILLEGAL) :
    parseExpression (k + 4) LOWEST ({ toks := t2 :: t3 :: t4 :: t5 :: t6 :: t7 :: tail } : PS) =
      (.tern t3 (.ident t2 t2.lit) (.int t4 va) (.int t6 vb), { toks := t6 :: t7 :: tail }) :=
  (ParsesAt.tern_int h2 h3 h4 h5 h7 hva (.of_ty h6 (.of_ty h7 hclean)) (.one (atomExpr_int h6 hvb) (.rbraces h7))).on (by omega) rfl

theorem parse_expr_stmt_ident (g : Nat) (t1 t2 t3 tl t7 : Token) (mid tail : List Token) (e : Expr) (h1 : t1.ty = .LBRACES)
    (h2 : t2.ty = .IDENT) (h3 : t3.ty ≠ .ASSIGN)
    (h7 : t7.ty = .RBRACES) (hclean : ∀ x ∈ t2 :: t3 :: mid, x.ty ≠ .ILLEGAL) (hclean2 : ∀ x ∈ tl :: t7 :: tail, x.ty ≠ .ILLEGAL)
    (hex : parseExpression g LOWEST ({ toks := t2 :: t3 :: mid } : PS) = (e, { toks := tl :: t7 :: tail })) :
    parseStatement (g + 1) ({ toks := t1 :: t2 :: t3 :: mid } : PS) = (.expr tl e, { toks := t7 :: tail }) :=
  parseStatement_expr (p := { toks := [] }) h1 (by rw [h2]; decide) (fun _ => h3) h7 (NoIll.tail hclean) (NoIll.drop hclean2 2) hex

theorem lex_tern2 (s : Lx) (g1 k g3 g4 a g5 g6 j g7 g8 b' g9 g10 d g2 tl : Bytes) (hh : s.isHTML = true) (hb : s.braces = 0)
    (hg1 : allWs g1) (hg2 : allWs g2) (hg3 : allWs g3) (hg4 : allWs g4) (hg5 : allWs g5) (hg6 : allWs g6) (hg7 : allWs g7) (hg8 : allWs g8)
    (hg9 : allWs g9) (hg10 : allWs g10) (hk : isName k) (hj : isName j) (ha : isDigits a) (hbd : isDigits b') (hdd : isDigits d)
    (hr : s.rest = tern2Src g1 k g3 g4 a g5 g6 j g7 g8 b' g9 g10 d g2 ++ tl) :
    ∃ toks s11, Run s toks s11 ∧ toks.map key = tern2Keys k a j b' d ∧ s11.rest = tl ∧ s11.prev = 125 ∧
      mode s11 = (true, s.isDirective, s.parens, 0, s.panicked) :=
  (tern2_block g1 k g3 g4 a g5 g6 j g7 g8 b' g9 g10 d g2 hg1 hg2 hg3 hg4 hg5 hg6 hg7 hg8 hg9 hg10 hk hj ha hbd hdd _).lex rfl hh hb hr

theorem parse_tern2_expr (k : Nat) (t2 t3 t4 t5 t6 t7 t8 t9 t10 t11 : Token) (tail : List Token) (va vb vd : Int64)
    (h2 : t2.ty = .IDENT) (h3 : t3.ty = .QUESTION) (h4 : t4.ty = .INT) (h5 : t5.ty = .COLON) (h6 : t6.ty = .IDENT) (h7 : t7.ty = .QUESTION)
    (h8 : t8.ty = .INT) (h9 : t9.ty = .COLON) (h10 : t10.ty = .INT) (h11 : t11.ty = .RBRACES)
    (hva : parseInt64 t4.lit = some va) (hvb : parseInt64 t8.lit = some vb) (hvd : parseInt64 t10.lit = some vd)
    (hclean : ∀ x ∈ tail, x.ty ≠ .ILLEGAL) :
    parseExpression (k + 6) LOWEST ({ toks := t2 :: t3 :: t4 :: t5 :: t6 :: t7 :: t8 :: t9 :: t10 :: t11 :: tail } : PS) =
      (.tern t3 (.ident t2 t2.lit) (.int t4 va) (.tern t7 (.ident t6 t6.lit) (.int t8 vb) (.int t10 vd)), { toks := t10 :: t11 :: tail }) := by
  have c10 : NoIll (t10 :: t11 :: tail) := .of_ty h10 (.of_ty h11 hclean)
  exact (ParsesAt.tern_int h2 h3 h4 h5 h11 hva (.of_ty h6 (.of_ty h7 (.of_ty h8 (.of_ty h9 c10))))
    (ParsesAt.tern_int h6 h7 h8 h9 h11 hvb c10 (.one (atomExpr_int h10 hvd) (.rbraces h11)))).on (by omega) rfl

end Tw
