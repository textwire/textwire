/-
  TwProofs.Lemmas.TextAccess — the blocks that reach into the data, from the source bytes to the parsed program and the
  value of the expression: `{{ name[digits] }}` (an element of a slice by its decimal index), `{{ name.field }}` (the
  field under the name as written or with its first letter in upper case) and `{{ name[digits].field }}`.  Per shape: its tokens (`x_block`), its parse (`xCode_parses`), its value (`x_evals`); C12
  puts them together.
-/
import TwProofs.Lemmas.CodeBlock
namespace Tw
open Lx

/-- `{{ g1 k [ g3 d g4 ] g2 }}` -/
def idxSrc (g1 k g3 d g4 g2 : Bytes) : Bytes := [123, 123] ++ g1 ++ k ++ [91] ++ g3 ++ d ++ g4 ++ [93] ++ g2 ++ [125, 125]

def idxKeys (k d : Bytes) : List (TT × Bytes) :=
  [(.LBRACES, [123, 123]), (.IDENT, k), (.LBRACKET, [91]), (.INT, d), (.RBRACKET, [93]), (.RBRACES, [125, 125])]

def idxLexemes (g1 k g3 d g4 : Bytes) : List (Bytes × Lexeme) :=
  [(g1, .word k), ([], .sym 91 .LBRACKET), (g3, .int d), (g4, .sym 93 .RBRACKET)]

def idxCode (g1 k g3 d g4 g2 : Bytes) : Code := { src := idxSrc g1 k g3 d g4 g2, keys := idxKeys k d }

theorem idx_block (g1 k g3 d g4 g2 : Bytes) (hg1 : allWs g1) (hg2 : allWs g2) (hg3 : allWs g3) (hg4 : allWs g4) (hk : isName k)
    (hd : isDigits d) (dir : Bool) : Block dir (idxCode g1 k g3 d g4 g2) (idxLexemes g1 k g3 d g4) g2 where
  src tl := by simp [idxLexemes, idxCode, idxSrc, lexemesSrc, Lexeme.src]
  keys := by simp [idxLexemes, idxCode, blockKeys, Lexeme.key, idxKeys, hk.2.2]
  gap := hg2
  first _ _ h := by cases h
  lexemes _ := ⟨hg1, Lexeme.word_ok (isName_word hk) allWs_nil (fun _ => rfl),
    allWs_nil, Or.inl rfl,
    hg3, Lexeme.int_before hd hg4 rfl (by decide),
    hg4, Or.inl rfl, trivial⟩

theorem ParsesAt.name_index {N : Nat} {t2 t3 t4 t5 : Token} {k ts' : List Token} {v : Int64} {ex : Expr} (h2 : t2.ty = .IDENT)
    (h3 : t3.ty = .LBRACKET) (h4 : t4.ty = .INT) (h5 : t5.ty = .RBRACKET) (hv : parseInt64 t4.lit = some v) (hk : NoIll k)
    (h : LoopsAt N LOWEST (.index t3 (.ident t2 t2.lit) (.int t4 v)) (t5 :: k) ex ts') :
    ParsesAt (max 0 (max 2 N + 1) + 1) LOWEST (t2 :: t3 :: t4 :: t5 :: k) ex ts' :=
  .atom (atomExpr_ident h2) (.index h3 h5 (by decide) (.of_ty h4 (.of_ty h5 hk)) hk (.one (atomExpr_int h4 hv) (.le (by rw [h5]; decide))) h)

theorem idxCode_parses (g1 k g3 d g4 g2 : Bytes) (hg1 : allWs g1) (hg2 : allWs g2) (hg3 : allWs g3) (hg4 : allWs g4) (hk : isName k)
    (hd : isDigits d) (hb : digitsToNat d ≤ 9223372036854775807) :
    ParsesAs (idxCode g1 k g3 d g4 g2)
      (fun st => ∃ t5 e, st = .expr t5 e ∧ ∃ t2 t3 t4, e = .index t3 (.ident t2 k) (.int t4 (Int64.ofNat (digitsToNat d)))) :=
  (idx_block g1 k g3 d g4 g2 hg1 hg2 hg3 hg4 hk hd false).parsesAs (fun _ => nofun) fun t2 ty2 lit2 t3 ty3 _ t4 ty4 lit4 _ ty5 _ _ _ ty6 cl =>
    ⟨_, _, _, Nat.le_of_ble_eq_true rfl, .name_index (ty2.trans hk.2.2) ty3 ty4 ty5 (parseInt64_lit lit4 hd hb) (cl.drop 4)
      (.stop (.rbraces ty6)), t2, t3, t4, by rw [lit2]; rfl⟩

theorem arrIndex_ofNat (xs : List Val) (n : Nat) (hb : n < 2 ^ 63) : arrIndex xs (Int64.ofNat n) = xs.getD n .nil := by
  unfold arrIndex
  have e : (Int64.ofNat n).toInt = n := Int64.toInt_ofNat_of_lt hb
  have l : ¬ (Int64.ofNat n < 0) := by rw [Int64.lt_iff_toInt_lt, e]; simp
  by_cases hl : n < xs.length
  · simp [l, e]; omega
  · simp [e, List.getD, List.getElem?_eq_none (show xs.length ≤ n by omega)]

theorem idx_evals (c : Ctx) (env : Env) (k : Bytes) (xs : List Val) (hget : env.get k = some (.arr xs)) (n : Int64)
    (t2 t3 t4 : Token) (fu : Nat) : evalExpr (fu + 7) c env (.index t3 (.ident t2 k) (.int t4 n)) = .ok (arrIndex xs n) := by
  simp only [evalExpr, hget]

/-- `{{ g1 k . f g2 }}` -/
def dotSrc (g1 k f g2 : Bytes) : Bytes := [123, 123] ++ g1 ++ k ++ [46] ++ f ++ g2 ++ [125, 125]

def dotKeys (k f : Bytes) : List (TT × Bytes) :=
  [(.LBRACES, [123, 123]), (.IDENT, k), (.DOT, [46]), (.IDENT, f), (.RBRACES, [125, 125])]

def dotLexemes (g1 k f : Bytes) : List (Bytes × Lexeme) :=
  [(g1, .word k), ([], .sym 46 .DOT), ([], .word f)]

def dotCode (g1 k f g2 : Bytes) : Code := { src := dotSrc g1 k f g2, keys := dotKeys k f }

theorem dot_block (g1 k f g2 : Bytes) (hg1 : allWs g1) (hg2 : allWs g2) (hk : isName k) (hf : isName f) (dir : Bool) :
    Block dir (dotCode g1 k f g2) (dotLexemes g1 k f) g2 where
  src tl := by simp [dotLexemes, dotCode, dotSrc, lexemesSrc, Lexeme.src]
  keys := by simp [dotLexemes, dotCode, blockKeys, Lexeme.key, dotKeys, hk.2.2, hf.2.2]
  gap := hg2
  first _ _ h := by cases h
  lexemes _ := ⟨hg1, Lexeme.word_ok (isName_word hk) allWs_nil (fun _ => rfl),
    allWs_nil, Or.inl rfl,
    allWs_nil, Lexeme.word_ok (isName_word hf) hg2 (fun _ => rfl), trivial⟩

theorem ParsesAt.name_dot {t2 t3 t4 t5 : Token} {tail : List Token} (h2 : t2.ty = .IDENT) (h3 : t3.ty = .DOT) (h4 : t4.ty = .IDENT)
    (h5 : t5.ty = .RBRACES) (hclean : NoIll (t5 :: tail)) :
    ParsesAt 3 LOWEST (t2 :: t3 :: t4 :: t5 :: tail) (.dot t3 (.ident t2 t2.lit) t4.lit) (t4 :: t5 :: tail) :=
  .atom (atomExpr_ident h2) (.dot h3 h4 (by decide) hclean (.of_ty h5) (.stop (.rbraces h5)))

theorem dotCode_parses (g1 k f g2 : Bytes) (hg1 : allWs g1) (hg2 : allWs g2) (hk : isName k) (hf : isName f) :
    ParsesAs (dotCode g1 k f g2) (fun st => ∃ t4 e, st = .expr t4 e ∧ ∃ t2 t3, e = .dot t3 (.ident t2 k) f) :=
  (dot_block g1 k f g2 hg1 hg2 hk hf false).parsesAs (fun _ => nofun) fun t2 ty2 lit2 t3 ty3 _ _ ty4 lit4 _ _ ty5 cl =>
    ⟨_, _, _, Nat.le_of_ble_eq_true rfl, .name_dot (ty2.trans hk.2.2) ty3 (ty4.trans hf.2.2) ty5 (cl.drop 3), t2, t3, by rw [lit2, lit4]; rfl⟩

theorem objIndex_field (kvs : List (Bytes × Val)) (f : Bytes) (hf : isName f) (v : Val)
    (hv : mapGet kvs f = some v ∨ (mapGet kvs f = none ∧ mapGet kvs (toUpper (f.take 1) ++ f.drop 1) = some v)) (line : Nat) :
    objIndex kvs f line = .ok v := by
  obtain ⟨⟨c, cv, rfl, _⟩, _, _⟩ := hf
  unfold objIndex
  rcases hv with hv | ⟨hn, hv⟩
  · rw [hv]
  · rw [hn]
    simp only [List.isEmpty_cons, Bool.false_eq_true, if_false, hv]

theorem dot_evals (c : Ctx) (env : Env) (k f : Bytes) (hf : isName f) (kvs : List (Bytes × Val)) (hget : env.get k = some (.obj kvs))
    (v : Val) (hv : mapGet kvs f = some v ∨ (mapGet kvs f = none ∧ mapGet kvs (toUpper (f.take 1) ++ f.drop 1) = some v))
    (t2 t3 : Token) (fu : Nat) : evalExpr (fu + 7) c env (.dot t3 (.ident t2 k) f) = .ok v := by
  simp only [evalExpr, hget, objIndex_field kvs f hf v hv]

/-- `{{ g1 k [ g3 d g4 ] . f g2 }}` -/
def idxDotSrc (g1 k g3 d g4 f g2 : Bytes) : Bytes :=
  [123, 123] ++ g1 ++ k ++ [91] ++ g3 ++ d ++ g4 ++ [93] ++ [46] ++ f ++ g2 ++ [125, 125]

def idxDotKeys (k d f : Bytes) : List (TT × Bytes) :=
  [(.LBRACES, [123, 123]), (.IDENT, k), (.LBRACKET, [91]), (.INT, d), (.RBRACKET, [93]), (.DOT, [46]), (.IDENT, f), (.RBRACES, [125, 125])]

def idxDotLexemes (g1 k g3 d g4 f : Bytes) : List (Bytes × Lexeme) :=
  [(g1, .word k), ([], .sym 91 .LBRACKET), (g3, .int d), (g4, .sym 93 .RBRACKET), ([], .sym 46 .DOT), ([], .word f)]

def idxDotCode (g1 k g3 d g4 f g2 : Bytes) : Code := { src := idxDotSrc g1 k g3 d g4 f g2, keys := idxDotKeys k d f }

theorem idxDot_block (g1 k g3 d g4 f g2 : Bytes) (hg1 : allWs g1) (hg2 : allWs g2) (hg3 : allWs g3) (hg4 : allWs g4) (hk : isName k)
    (hd : isDigits d) (hf : isName f) (dir : Bool) : Block dir (idxDotCode g1 k g3 d g4 f g2) (idxDotLexemes g1 k g3 d g4 f) g2 where
  src tl := by simp [idxDotLexemes, idxDotCode, idxDotSrc, lexemesSrc, Lexeme.src]
  keys := by simp [idxDotLexemes, idxDotCode, blockKeys, Lexeme.key, idxDotKeys, hk.2.2, hf.2.2]
  gap := hg2
  first _ _ h := by cases h
  lexemes _ := ⟨hg1, Lexeme.word_ok (isName_word hk) allWs_nil (fun _ => rfl),
    allWs_nil, Or.inl rfl,
    hg3, Lexeme.int_before hd hg4 rfl (by decide),
    hg4, Or.inl rfl,
    allWs_nil, Or.inl rfl,
    allWs_nil, Lexeme.word_ok (isName_word hf) hg2 (fun _ => rfl), trivial⟩

theorem ParsesAt.name_index_dot {t2 t3 t4 t5 t6 t7 t8 : Token} {tail : List Token} {v : Int64} (h2 : t2.ty = .IDENT)
    (h3 : t3.ty = .LBRACKET) (h4 : t4.ty = .INT) (h5 : t5.ty = .RBRACKET) (h6 : t6.ty = .DOT) (h7 : t7.ty = .IDENT) (h8 : t8.ty = .RBRACES)
    (hv : parseInt64 t4.lit = some v) (hclean : NoIll (t8 :: tail)) :
    ParsesAt 4 LOWEST (t2 :: t3 :: t4 :: t5 :: t6 :: t7 :: t8 :: tail) (.dot t6 (.index t3 (.ident t2 t2.lit) (.int t4 v)) t7.lit)
      (t7 :: t8 :: tail) :=
  .name_index h2 h3 h4 h5 hv (.of_ty h6 (.of_ty h7 hclean)) (.dot h6 h7 (by decide) hclean (.of_ty h8) (.stop (.rbraces h8)))

theorem idxDotCode_parses (g1 k g3 d g4 f g2 : Bytes) (hg1 : allWs g1) (hg2 : allWs g2) (hg3 : allWs g3) (hg4 : allWs g4) (hk : isName k)
    (hd : isDigits d) (hf : isName f) (hb : digitsToNat d ≤ 9223372036854775807) :
    ParsesAs (idxDotCode g1 k g3 d g4 f g2)
      (fun st => ∃ t7 e, st = .expr t7 e ∧ ∃ t2 t3 t4 t6, e = .dot t6 (.index t3 (.ident t2 k) (.int t4 (Int64.ofNat (digitsToNat d)))) f) :=
  (idxDot_block g1 k g3 d g4 f g2 hg1 hg2 hg3 hg4 hk hd hf false).parsesAs (fun _ => nofun)
    fun t2 ty2 lit2 t3 ty3 _ t4 ty4 lit4 _ ty5 _ t6 ty6 _ _ ty7 lit7 _ _ ty8 cl =>
      ⟨_, _, _, Nat.le_of_ble_eq_true rfl, .name_index_dot (ty2.trans hk.2.2) ty3 ty4 ty5 ty6 (ty7.trans hf.2.2) ty8
        (parseInt64_lit lit4 hd hb) (cl.drop 6), t2, t3, t4, t6, by rw [lit2, lit7]; rfl⟩

theorem idxDot_evals (c : Ctx) (env : Env) (k f : Bytes) (hf : isName f) (xs : List Val) (hget : env.get k = some (.arr xs)) (n : Int64)
    (kvs : List (Bytes × Val)) (hel : arrIndex xs n = .obj kvs) (v : Val)
    (hv : mapGet kvs f = some v ∨ (mapGet kvs f = none ∧ mapGet kvs (toUpper (f.take 1) ++ f.drop 1) = some v))
    (t2 t3 t4 t6 : Token) (fu : Nat) : evalExpr (fu + 7) c env (.dot t6 (.index t3 (.ident t2 k) (.int t4 n)) f) = .ok v := by
  simp only [evalExpr, hget, hel, objIndex_field kvs f hf v hv]

/-! Statements in their own right about the same shapes, each read off the shape's `x_block` or its rule `ParsesAt.x`.
    No from-source proof uses them. -/

theorem lex_index (s : Lx) (g1 k g3 d g4 g2 tl : Bytes) (hh : s.isHTML = true) (hb : s.braces = 0) (hg1 : allWs g1) (hg2 : allWs g2)
    (hg3 : allWs g3) (hg4 : allWs g4) (hk : isName k) (hd : isDigits d) (hr : s.rest = idxSrc g1 k g3 d g4 g2 ++ tl) :
    ∃ toks s6, Run s toks s6 ∧ toks.map key = idxKeys k d ∧ s6.rest = tl ∧ s6.prev = 125 ∧
      mode s6 = (true, s.isDirective, s.parens, 0, s.panicked) :=
  (idx_block g1 k g3 d g4 g2 hg1 hg2 hg3 hg4 hk hd _).lex rfl hh hb hr

theorem parse_index_stmt (g : Nat) (t1 t2 t3 t4 t5 t6 : Token) (tail : List Token) (v : Int64) (h1 : t1.ty = .LBRACES) (h2 : t2.ty = .IDENT)
    (h3 : t3.ty = .LBRACKET) (h4 : t4.ty = .INT) (h5 : t5.ty = .RBRACKET) (h6 : t6.ty = .RBRACES) (hv : parseInt64 t4.lit = some v)
    (hclean : ∀ x ∈ tail, x.ty ≠ .ILLEGAL) :
    parseStatement (g + 6) ({ toks := t1 :: t2 :: t3 :: t4 :: t5 :: t6 :: tail } : PS) =
      (.expr t5 (.index t3 (.ident t2 t2.lit) (.int t4 v)), { toks := t6 :: tail }) :=
  have c6 : NoIll (t6 :: tail) := .of_ty h6 hclean
  (StmtAt.expr_name h1 h2 (by rw [h3]; decide) h6 (.of_ty h3 (.of_ty h4 (.of_ty h5 c6))) hclean
    (.name_index h2 h3 h4 h5 hv c6 (.stop (.rbraces h6)))).on (by omega) rfl

theorem parse_index_source (g1 k g3 d g4 g2 : Bytes) (hg1 : allWs g1) (hg2 : allWs g2) (hg3 : allWs g3) (hg4 : allWs g4) (hk : isName k)
    (hd : isDigits d) (hb : digitsToNat d ≤ 9223372036854775807) :
    ∃ prog t2 t3 t4 t5, parseSource (idxSrc g1 k g3 d g4 g2) = .ok prog ∧
      prog.stmts = [.expr t5 (.index t3 (.ident t2 k) (.int t4 (Int64.ofNat (digitsToNat d))))] := by
  obtain ⟨_, t, hp, t5, _, rfl, t2, t3, t4, rfl⟩ := parseSource_one (idxCode_parses g1 k g3 d g4 g2 hg1 hg2 hg3 hg4 hk hd hb)
  exact ⟨_, t2, t3, t4, t5, hp, rfl⟩

theorem code_dot_step (s : Lx) (x : Bytes) (hh : s.isHTML = false) (hr : s.rest = 46 :: x) :
    ∃ t s1, nextStep s = (.tok t, s1) ∧ key t = (.DOT, [46]) ∧ t.ty ≠ .EOF ∧ After s s1 x 46 := by
  obtain ⟨t, s1, h1, h2, h3, h4⟩ := code_simple_step s 46 .DOT [] x rfl hh allWs_nil hr
  exact ⟨t, s1, h1, h2, by rw [h3]; decide, h4⟩

theorem lex_dot (s : Lx) (g1 k f g2 tl : Bytes) (hh : s.isHTML = true) (hb : s.braces = 0) (hg1 : allWs g1) (hg2 : allWs g2)
    (hk : isName k) (hf : isName f) (hr : s.rest = dotSrc g1 k f g2 ++ tl) :
    ∃ toks s5, Run s toks s5 ∧ toks.map key = dotKeys k f ∧ s5.rest = tl ∧ s5.prev = 125 ∧
      mode s5 = (true, s.isDirective, s.parens, 0, s.panicked) :=
  (dot_block g1 k f g2 hg1 hg2 hk hf _).lex rfl hh hb hr

theorem parse_dot_stmt (g : Nat) (t1 t2 t3 t4 t5 : Token) (tail : List Token) (h1 : t1.ty = .LBRACES) (h2 : t2.ty = .IDENT) (h3 : t3.ty = .DOT)
    (h4 : t4.ty = .IDENT) (h5 : t5.ty = .RBRACES) (hclean : ∀ x ∈ tail, x.ty ≠ .ILLEGAL) :
    parseStatement (g + 4) ({ toks := t1 :: t2 :: t3 :: t4 :: t5 :: tail } : PS) =
      (.expr t4 (.dot t3 (.ident t2 t2.lit) t4.lit), { toks := t5 :: tail }) :=
  have c5 : NoIll (t5 :: tail) := .of_ty h5 hclean
  (StmtAt.expr_name h1 h2 (by rw [h3]; decide) h5 (.of_ty h3 (.of_ty h4 c5)) hclean (.name_dot h2 h3 h4 h5 c5)).on (by omega) rfl

theorem parse_dot_source (g1 k f g2 : Bytes) (hg1 : allWs g1) (hg2 : allWs g2) (hk : isName k) (hf : isName f) :
    ∃ prog t2 t3 t4, parseSource (dotSrc g1 k f g2) = .ok prog ∧ prog.stmts = [.expr t4 (.dot t3 (.ident t2 k) f)] := by
  obtain ⟨_, t, hp, t4, _, rfl, t2, t3, rfl⟩ := parseSource_one (dotCode_parses g1 k f g2 hg1 hg2 hk hf)
  exact ⟨_, t2, t3, t4, hp, rfl⟩

theorem lex_idxDot (s : Lx) (g1 k g3 d g4 f g2 tl : Bytes) (hh : s.isHTML = true) (hb : s.braces = 0) (hg1 : allWs g1) (hg2 : allWs g2)
    (hg3 : allWs g3) (hg4 : allWs g4) (hk : isName k) (hd : isDigits d) (hf : isName f) (hr : s.rest = idxDotSrc g1 k g3 d g4 f g2 ++ tl) :
    ∃ toks s8, Run s toks s8 ∧ toks.map key = idxDotKeys k d f ∧ s8.rest = tl ∧ s8.prev = 125 ∧
      mode s8 = (true, s.isDirective, s.parens, 0, s.panicked) :=
  (idxDot_block g1 k g3 d g4 f g2 hg1 hg2 hg3 hg4 hk hd hf _).lex rfl hh hb hr

theorem parse_idxDot_expr (g : Nat) (t2 t3 t4 t5 t6 t7 t8 : Token) (tail : List Token) (v : Int64) (h2 : t2.ty = .IDENT)
    (h3 : t3.ty = .LBRACKET) (h4 : t4.ty = .INT) (h5 : t5.ty = .RBRACKET) (h6 : t6.ty = .DOT) (h7 : t7.ty = .IDENT) (h8 : t8.ty = .RBRACES)
    (hv : parseInt64 t4.lit = some v) (hclean : ∀ x ∈ tail, x.ty ≠ .ILLEGAL) :
    parseExpression (g + 5) LOWEST ({ toks := t2 :: t3 :: t4 :: t5 :: t6 :: t7 :: t8 :: tail } : PS) =
      (.dot t6 (.index t3 (.ident t2 t2.lit) (.int t4 v)) t7.lit, { toks := t7 :: t8 :: tail }) :=
  (ParsesAt.name_index_dot h2 h3 h4 h5 h6 h7 h8 hv (.of_ty h8 hclean)).on (by omega) rfl

theorem parse_idxDot_source (g1 k g3 d g4 f g2 : Bytes) (hg1 : allWs g1) (hg2 : allWs g2) (hg3 : allWs g3) (hg4 : allWs g4) (hk : isName k)
    (hd : isDigits d) (hf : isName f) (hb : digitsToNat d ≤ 9223372036854775807) :
    ∃ prog t2 t3 t4 t6 t7, parseSource (idxDotSrc g1 k g3 d g4 f g2) = .ok prog ∧
      prog.stmts = [.expr t7 (.dot t6 (.index t3 (.ident t2 k) (.int t4 (Int64.ofNat (digitsToNat d)))) f)] := by
  obtain ⟨_, t, hp, t7, _, rfl, t2, t3, t4, t6, rfl⟩ := parseSource_one (idxDotCode_parses g1 k g3 d g4 f g2 hg1 hg2 hg3 hg4 hk hd hf hb)
  exact ⟨_, t2, t3, t4, t6, t7, hp, rfl⟩

end Tw
