/-
  TwProofs.Lemmas.TrimSplit — what the `trim*` and `split` laws of C11 rest on.  `runeChunks` cuts a string
  into its characters, which concatenated give it back; a valid string stays valid when whole characters
  are dropped from its front or kept from its front (`trimLeft` is a `dropWhile` over the characters,
  `trimRight` a `take`); the loop of `split` keeps the pending piece and the rest joinable to the receiver.
-/
import TwModel
import TwProofs.Lemmas.Basics
import TwProofs.Lemmas.Utf8Valid
namespace Tw

theorem runeChunks_go_nil (f : Nat) : runeChunks.go f [] = [] := by cases f <;> rfl

theorem runeChunks_go_cons (f : Nat) (c : Byte) (t : Bytes) :
    runeChunks.go (f + 1) (c :: t) =
      ((decodeRune (c :: t)).1, (c :: t).take (decodeRune (c :: t)).2) :: runeChunks.go f ((c :: t).drop (decodeRune (c :: t)).2) := rfl

theorem runeChunks_go_fuel (s : Bytes) : ∀ f, s.length ≤ f → runeChunks.go f s = runeChunks.go s.length s := by
  induction s using chars_induct with
  | nil => intro f _; rw [runeChunks_go_nil, runeChunks_go_nil]
  | cons c t ih =>
    intro f h
    obtain ⟨g, rfl⟩ : ∃ g, f = g + 1 := ⟨f - 1, by simp at h; omega⟩
    have hw := decodeRune_width_pos c t
    have hl : ((c :: t).drop (decodeRune (c :: t)).2).length ≤ t.length := by
      simp only [List.length_drop, List.length_cons]; omega
    rw [List.length_cons, runeChunks_go_cons, runeChunks_go_cons, ih g (by simp at h; omega), ih t.length hl]

theorem runeChunks_cons (c : Byte) (t : Bytes) :
    runeChunks (c :: t) =
      ((decodeRune (c :: t)).1, (c :: t).take (decodeRune (c :: t)).2) :: runeChunks ((c :: t).drop (decodeRune (c :: t)).2) := by
  unfold runeChunks
  have hw := decodeRune_width_pos c t
  rw [List.length_cons, runeChunks_go_cons, runeChunks_go_fuel _ t.length (by simp only [List.length_drop, List.length_cons]; omega)]

theorem runeChunks_nil : runeChunks [] = [] := rfl

theorem runeChunks_flatten (s : Bytes) : (runeChunks s).flatMap (·.2) = s := by
  induction s using chars_induct with
  | nil => rfl
  | cons c t ih => rw [runeChunks_cons, List.flatMap_cons, ih, List.take_append_drop]

theorem trimLeftSet_eq (s cut : Bytes) :
    trimLeftSet s cut = ((runeChunks s).dropWhile fun p => (decodeRunes cut).contains p.1).flatMap (·.2) := rfl

theorem trimRightSet_eq (s cut : Bytes) :
    trimRightSet s cut = (((runeChunks s).reverse.dropWhile fun p => (decodeRunes cut).contains p.1).reverse).flatMap (·.2) := rfl

theorem runeChunks_lead {a : Bytes} {v : Rune} {w : Nat} (hl : Lead a v w) (x : Bytes) :
    runeChunks (a ++ x) = (v, a) :: runeChunks x := by
  obtain ⟨c, t, e⟩ : ∃ c t, a ++ x = c :: t := by cases hl <;> exact ⟨_, _, rfl⟩
  rw [e, runeChunks_cons, ← e, decodeRune_lead hl, hl.take, hl.drop]

theorem Valid.dropWhile_chunks {s : Bytes} (h : Valid s) (p : Rune × Bytes → Bool) :
    Valid (((runeChunks s).dropWhile p).flatMap (·.2)) := by
  induction h with
  | nil => exact .nil
  | cons hl hx ih =>
    rw [runeChunks_lead hl, List.dropWhile_cons]
    split
    · exact ih
    · rw [List.flatMap_cons, runeChunks_flatten]; exact .cons hl hx

theorem Valid.take_chunks {s : Bytes} (h : Valid s) : ∀ k, Valid (((runeChunks s).take k).flatMap (·.2)) := by
  induction h with
  | nil => intro k; rw [runeChunks_nil, List.take_nil]; exact .nil
  | cons hl _ ih =>
    intro k
    cases k with
    | zero => exact .nil
    | succ k => rw [runeChunks_lead hl, List.take_succ_cons, List.flatMap_cons]; exact .cons hl (ih k)

theorem dropWhile_eq_drop {α} (p : α → Bool) : ∀ l : List α, ∃ j, l.dropWhile p = l.drop j
  | [] => ⟨0, rfl⟩
  | a :: r => by
    rw [List.dropWhile_cons]
    split
    · obtain ⟨j, hj⟩ := dropWhile_eq_drop p r
      exact ⟨j + 1, by rw [hj]; rfl⟩
    · exact ⟨0, rfl⟩

theorem decodeRune_take (c : Byte) (t : Bytes)
    (hv : ¬ ((decodeRune (c :: t)).1 = runeError ∧ (decodeRune (c :: t)).2 = 1)) :
    decodeRune ((c :: t).take (decodeRune (c :: t)).2) = decodeRune (c :: t) := by
  simpa using decodeRune_lead (lead_of_decoded c t hv) []

theorem first_chunk_valid (c : Byte) (t : Bytes)
    (hv : ¬ ((decodeRune (c :: t)).1 = runeError ∧ (decodeRune (c :: t)).2 = 1)) :
    validUtf8 ((c :: t).take (decodeRune (c :: t)).2) = true :=
  (validUtf8_iff _).mpr (lead_of_decoded c t hv).valid

theorem splitBytes_go_ne_nil (sep : Bytes) : ∀ (f : Nat) (s cur : Bytes), splitBytes.go sep f s cur ≠ [] := by
  intro f
  induction f with
  | zero => intro s cur; simp [splitBytes.go]
  | succ f ih =>
    intro s cur
    cases s with
    | nil => simp [splitBytes.go]
    | cons c t =>
      simp only [splitBytes.go]
      split
      · simp
      · exact ih _ _

theorem joinBytes_cons (sep a : Bytes) (l : List Bytes) (h : l ≠ []) : joinBytes sep (a :: l) = a ++ sep ++ joinBytes sep l := by
  cases l with
  | nil => exact absurd rfl h
  | cons x r => rfl

theorem joinBytes_nil_sep : ∀ l : List Bytes, joinBytes [] l = l.flatten
  | [] => rfl
  | [a] => by simp [joinBytes]
  | a :: x :: r => by
    rw [joinBytes_cons _ _ _ (List.cons_ne_nil _ _), joinBytes_nil_sep (x :: r), List.append_nil]
    exact List.flatten_cons.symm

theorem splitBytes_go_join (sep : Bytes) (hsep : sep ≠ []) : ∀ (f : Nat) (s cur : Bytes), s.length ≤ f →
    joinBytes sep (splitBytes.go sep f s cur) = cur ++ s := by
  intro f
  induction f with
  | zero =>
    intro s cur h
    obtain rfl := List.eq_nil_of_length_eq_zero (Nat.le_zero.mp h)
    simp [splitBytes.go, joinBytes]
  | succ f ih =>
    intro s cur h
    cases s with
    | nil => simp [splitBytes.go, joinBytes]
    | cons c t =>
      simp only [splitBytes.go]
      split
      · rename_i hp
        have heq := eq_append_of_isPrefixOf sep (c :: t) hp
        have hlen : 1 ≤ sep.length := by cases sep with | nil => exact absurd rfl hsep | cons _ _ => simp
        rw [joinBytes_cons _ _ _ (splitBytes_go_ne_nil sep f _ _)]
        rw [ih _ [] (by simp only [List.length_drop, List.length_cons] at h ⊢; omega)]
        rw [List.nil_append, List.append_assoc, ← heq]
      · rw [ih t (cur ++ [c]) (by simp at h; omega)]
        simp

end Tw
