/-
  TwProofs.C09 — evaluation never crashes: every runtime fault becomes a Textwire error.

  In the model every unchecked Go operation (type assertion, nil dereference, slice bound,
  `Truncate(-1)`, …) is an explicit `panic` outcome, and a nil node is the constructor `bad`.
  The theorems say that outcome is unreachable through the public API — for every source text,
  every data map, every file tree, every set of registered functions, at every fuel — and that
  the named faults are errors carrying the line of the construct.
-/
import TwModel
import TwProofs.Lemmas.EvalWalk
import TwProofs.Lemmas.ParseWalk
import TwProofs.Lemmas.LoadWhole
import TwProofs.Lemmas.LexNoPanic

namespace Tw.C09
open Tw

/-- the evaluator never panics on a tree without nil nodes (any fuel, any context whose attached
    programs are whole, any environment) -/
theorem eval_no_panic (fuel : Nat) (c : Ctx) (env : Env) (stmts : List Stmt) (acc : Bytes)
    (hc : Ctx.badFree c = true) (hs : Stmt.badFreeList stmts = true) :
    ∀ why, evalProg fuel c env stmts acc ≠ .panic why :=
  evalProg_ne_panic hc hs

/-- expressions: whatever values reach an operator, index, property access or built-in -/
theorem expr_no_panic (fuel : Nat) (c : Ctx) (env : Env) (e : Expr) (he : e.badFree = true) :
    ∀ why, evalExpr fuel c env e ≠ .panic why :=
  ((calleesAt_rel np_closed fuel).expr c env e he).ne_panic

theorem lexer_no_panic (src : Bytes) (r : LexResult) (h : tokenize src = some r) : r.panicked = false :=
  tokenize_no_panic src r h

/-- a parse that reports no error yields a tree without nil nodes, in the statements, in the
    `@insert` table and in the slots of the component uses -/
theorem parse_whole (src : Bytes) (base : Nat) (prog : Program) (h : parseSource src base = .ok prog) : prog.Whole :=
  parseSource_whole src base prog h

/-- **`EvaluateString` never panics**: every source text, every data map, every set of registered
    custom functions -/
theorem evaluateString_no_panic (custom : List ((VType × Bytes) × Nat)) (src : Bytes) (data : List (Bytes × GoVal)) :
    ∀ why, evaluateStringPure custom src data ≠ .panic why := by
  intro why h
  unfold evaluateStringPure at h
  split at h
  · cases h
  · cases h
  · rename_i hlp
    exact parseSource_ne_lexPanic src 0 (tokenize_no_panic src) hlp
  · rename_i prog hps
    split at h
    · cases h
    · exact eval_no_panic evalFuel { custom := custom } _ prog.stmts [] rfl (parseSource_whole src 0 prog hps).stmts why
        (resToOut_eq_panic h)

/-- `EvaluateFile` never panics -/
theorem evaluateFile_no_panic (w : World) (path : Bytes) (data : List (Bytes × GoVal)) :
    ∀ why, (evaluateFile w path data).2 ≠ .panic why := by
  intro why h
  unfold evaluateFile at h
  simp only [] at h
  split at h
  · exact evaluateString_no_panic _ _ _ why h
  · cases h

/-- **`NewTemplate` + `Template.String` never panic**: every file tree, every configuration, every
    template name, every data map, every set of registered functions -/
theorem templateString_no_panic (w : World) (o : Option Opt) (t : Template) (hnew : (newTemplate w o).2 = .ok t)
    (w' : World) (name : Bytes) (data : List (Bytes × GoVal)) :
    ∀ why, tplString w' t name data ≠ .panic why :=
  tplString_ne_panic w' t (newTemplate_whole w o t hnew) name data

/-- `Template.Response` never panics either (neither rendering the page nor the error page) -/
theorem templateResponse_no_panic (w : World) (o : Option Opt) (t : Template) (hnew : (newTemplate w o).2 = .ok t)
    (w' : World) (name : Bytes) (data : List (Bytes × GoVal)) (cwd : Bytes) :
    (tplResponse w' t name data cwd).2.panic = none := by
  have hts := tplString_ne_panic w' t (newTemplate_whole w o t hnew)
  unfold tplResponse
  split
  · rfl
  · rename_i why hp; exact absurd hp (hts name data why)
  · rfl
  · split
    · split
      · rfl
      · rfl
      · rename_i why hp; exact absurd hp (hts _ [] why)
      · rfl
    · split
      · rfl
      · rfl
      · rename_i w2 why hp
        rename_i f _ _ _
        have : (errorPage w' f cwd).2 = .panic why := by rw [hp]
        unfold errorPage evaluateString at this
        dsimp only at this
        exact absurd this (evaluateString_no_panic w'.custom Gen.defaultErrorPage (errorPageData w' f cwd) why)
      · rfl

/-- `%` and `/` by zero -/
theorem mod_zero_is_error (a : Int64) (line : Nat) :
    intInfix (b "%") a 0 line = .err "ErrDivisionByZero" line [] ∧
    intInfix (b "/") a 0 line = .err "ErrDivisionByZero" line [] := by
  constructor <;> (unfold intInfix; simp (config := { decide := true }))

/-- property access on a value that is not an object -/
theorem dot_on_non_object (f : Nat) (c : Ctx) (env : Env) (t : Token) (l : Expr) (key : Bytes) (v : Val)
    (hl : evalExpr f c env l = .ok v) (hv : ∀ kvs, v ≠ .obj kvs) :
    evalExpr (f + 1) c env (.dot t l key) = .err "ErrDotOperatorNotSupported" t.errorLine [v.typeName] := by
  rw [evalExpr_dot_match, hl]
  cases v with
  | obj kvs => exact absurd rfl (hv kvs)
  | _ => rfl

/-- an empty property name on an object is "property not found", not a slice-bounds panic -/
theorem empty_property_name (kvs : List (Bytes × Val)) (line : Nat) (h : mapGet kvs [] = none) :
    objIndex kvs [] line = .err "ErrPropertyNotFound" line [[], b "OBJECT"] := by
  unfold objIndex
  rw [h]
  rfl

/-- `@each` over a value that is not an array -/
theorem each_non_array (f : Nat) (c : Ctx) (env : Env) (t : Token) (var : Bytes) (arrE : Expr) (body : List Stmt)
    (alt : Option (List Stmt)) (v : Val) (hl : evalExpr f c env.push arrE = .ok v) (hv : ∀ xs, v ≠ .arr xs) :
    evalStmt (f + 1) c env (.eachS t var arrE body alt) = .err "ErrEachNotArray" t.errorLine [v.typeName] :=
  evalStmt_each_non_array hl hv

/-- a `@for` without condition and without post statement still evaluates (no nil dereference):
    the body of one iteration runs and the loop goes on with the same clauses -/
theorem for_absent_clauses (f : Nat) (c : Ctx) (env : Env) (t : Token) (init : Option Stmt) (body : List Stmt) (acc : Bytes) :
    forLoop (f + 1) c env t init none none body acc =
      (evalBlock f c env body).bind fun r =>
        if r.1.brk then .ok (acc ++ r.1.text) else forLoop f c r.2 t init none none body (acc ++ r.1.text) := by
  rw [forLoop_succ]
  simp only [forBody, calleesAt]
  rfl

/-- a nil pointer in the data is the value nil (no nil dereference in `NativeToObject`) -/
theorem nil_pointer_is_nil : nativeToObject (.ptr none) = some .nil := by simp [nativeToObject]

/-- a value of an unsupported kind is reported as an error by `EnvFromMap`, not a panic; stated for
    one place: the last element of a slice bound at the top level, whatever stands before it -/
theorem unsupported_is_error (k : Bytes) (kind : String) (inner : List GoVal) :
    ∃ e, envFromMap [(k, .slice (inner ++ [.other kind]))] = .error e := by
  have hl : ∀ l : List GoVal, nativeList (l ++ [.other kind]) = none := by
    intro l
    induction l with
    | nil => simp [nativeList, nativeToObject]
    | cons x r ih =>
      simp only [List.cons_append, nativeList]
      cases nativeToObject x with
      | none => rfl
      | some v => simp [ih]
  refine ⟨.unsupported k, ?_⟩
  simp [envFromMap, sortByKey, insertByKey, envFromMap.go, nativeToObject, hl]

/-- an error of the evaluator has a line by its shape: `Res.err` has no other form (the statement holds of any `line`) -/
theorem error_has_line {α} (r : Res α) (code : String) (line : Nat) (args : List Bytes) (h : r = .err code line args) :
    ∃ l : Nat, l = line := ⟨line, rfl⟩

/-! non-vacuity: the faults are reachable through the API and come out as errors -/

def failsWith (r : EvalOut) (line : Nat) (msg : Bytes) : Bool :=
  match r with
  | .fail f => f.line == line && f.msg == msg
  | _ => false

example : failsWith (evaluateStringPure [] (b "{{ 1 % 0 }}") []) 1 (formatMsg "ErrDivisionByZero" []) = true := by
  decide +kernel
example : failsWith (evaluateStringPure [] (b "{{ x.y }}") [(b "x", .int 1)]) 1
    (formatMsg "ErrDotOperatorNotSupported" [b "INTEGER"]) = true := by decide +kernel
example : failsWith (evaluateStringPure [] (b "a\n@each(v in 3)x@end") []) 2
    (formatMsg "ErrEachNotArray" [b "INTEGER"]) = true := by decide +kernel
example : failsWith (evaluateStringPure [] (b "{{ p.name }}") [(b "p", .ptr none)]) 1
    (formatMsg "ErrDotOperatorNotSupported" [b "NIL"]) = true := by decide +kernel

end Tw.C09
