/-
  TwProofs.Lemmas.LexSpan — every token produced by a `NextToken` body covers a non-empty
  run of bytes, starts at the position of its first byte and ends at the position of its last
  byte (`Spans`); the token list of an input tiles it, with a `Gap` between the tokens: the white
  space `skipWhitespace` reads and the comments a `NextToken` body skips (`FullTiled`; without gaps
  and literals `Tiled`; C19, C13).
-/
import TwProofs.Lemmas.LexProgress

namespace Tw
open Lx

structure Spans (s : Lx) (t : Token) (s' : Lx) (n : Nat) : Prop where
  n_pos : 1 ≤ n
  n_le : n ≤ s.rest.length
  pre : s'.pre = (s.rest.take n).reverse ++ s.pre
  rest : s'.rest = s.rest.drop n
  inv : PosInv s'
  startLine : t.pos.startLine = lineOf s.pre
  startCol : t.pos.startCol = colOf s.pre
  endLine : t.pos.endLine = lineOf ((s.rest.take (n - 1)).reverse ++ s.pre)
  endCol : t.pos.endCol = colOf ((s.rest.take (n - 1)).reverse ++ s.pre)

theorem advance_nil (n : Nat) (s : Lx) (h : s.rest = []) : advance s n = s := by
  induction n with
  | zero => rfl
  | succ n ih => rw [advance, readChar_nil s h, ih]

theorem advance_saturate (n : Nat) : ∀ s : Lx, s.rest.length ≤ n → advance s n = advance s s.rest.length := by
  induction n with
  | zero =>
    intro s h
    have : s.rest = [] := List.eq_nil_of_length_eq_zero (Nat.le_zero.mp h)
    simp [this, advance]
  | succ n ih =>
    intro s h
    cases hrest : s.rest with
    | nil => rw [advance_nil _ s hrest]; rfl
    | cons c r =>
      have hr : (readChar s).rest = r := by rw [(readChar_pre_rest s).2, hrest]; rfl
      have : (readChar s).rest.length ≤ n := by rw [hr]; rw [hrest] at h; simpa using h
      rw [advance, ih _ this, hr]
      show advance (readChar s) r.length = advance s (r.length + 1)
      rfl

theorem posInv_of_sameBytes {a c : Lx} (h : SameBytes a c) (hc : PosInv c) : PosInv a :=
  ⟨by rw [h.line, h.pre]; exact hc.line, by rw [h.col, h.pre]; exact hc.col, by rw [h.reset, h.rest]; exact hc.reset⟩

theorem posInv_tokenBegins (s : Lx) (h : PosInv s) : PosInv s.tokenBegins :=
  posInv_of_sameBytes (c := s) ⟨rfl, rfl, rfl, rfl, rfl⟩ h

theorem emit_spans (s : Lx) (n : Nat) (ty : TT) (lit : Bytes) (hinv : PosInv s) (hn : 1 ≤ n) (hle : n ≤ s.rest.length)
    (hty : ty ≠ .EOF) : Spans s (emit s n ty lit).1 (emit s n ty lit).2 n := by
  obtain ⟨m, rfl⟩ : ∃ m, n = m + 1 := ⟨n - 1, by omega⟩
  have hb := posInv_tokenBegins s hinv
  obtain ⟨e1, e2⟩ := advance_prevPos m s.tokenBegins hb hle
  have htok : (emit s (m + 1) ty lit).1.pos =
      { startLine := s.line, startCol := s.col, endLine := (advance s.tokenBegins (m + 1)).prevLine,
        endCol := (advance s.tokenBegins (m + 1)).prevCol } := by
    simp only [emit, newToken]
    rw [if_neg (by simpa using hty), advance_startLine, advance_startCol]
    rfl
  exact ⟨hn, hle, advance_pre _ _, advance_rest _ _, posInv_advance _ _ hb, by rw [htok]; exact hinv.line,
    by rw [htok]; exact hinv.col, by rw [htok]; exact e1, by rw [htok]; exact e2⟩

theorem Spans.congr_end {s : Lx} {t : Token} {s1 s2 : Lx} {n : Nat} (h : Spans s t s1 n) (hs : SameBytes s2 s1) :
    Spans s t s2 n :=
  ⟨h.n_pos, h.n_le, by rw [hs.pre]; exact h.pre, by rw [hs.rest]; exact h.rest, posInv_of_sameBytes hs h.inv,
    h.startLine, h.startCol, h.endLine, h.endCol⟩

theorem Spans.of_sameBytes {s0 s : Lx} {t : Token} {s1 : Lx} {n : Nat} (h : Spans s0 t s1 n) (hs : SameBytes s0 s) :
    Spans s t s1 n := by
  have h1 := hs.pre
  have h2 := hs.rest
  exact ⟨h.n_pos, by rw [← h2]; exact h.n_le, by rw [← h1, ← h2]; exact h.pre, by rw [← h2]; exact h.rest, h.inv,
    by rw [← h1]; exact h.startLine, by rw [← h1]; exact h.startCol,
    by rw [← h1, ← h2]; exact h.endLine, by rw [← h1, ← h2]; exact h.endCol⟩

/-- `min`: a string that is not closed runs to the end of the input -/
theorem descEmit_spans (s : Lx) (hinv : PosInv s) (hne : s.rest ≠ []) (d : TokDesc) (hd : DescOK s d) :
    Spans s d.emit.1 d.emit.2 (min d.n s.rest.length) := by
  have hrest : d.st.rest = s.rest := hd.same.rest
  have hinv' := posInv_of_sameBytes hd.same hinv
  refine Spans.of_sameBytes ?_ hd.same
  rw [← hrest, TokDesc.emit]
  by_cases hle : d.n ≤ d.st.rest.length
  · rw [Nat.min_eq_left hle]
    exact emit_spans d.st d.n d.ty d.lit hinv' hd.n_pos hle hd.ne_eof
  · have hge : d.st.rest.length ≤ d.n := by omega
    rw [Nat.min_eq_right hge, emit, advance_saturate d.n d.st.tokenBegins hge]
    exact emit_spans d.st _ d.ty d.lit hinv' (List.length_pos_iff.mpr (by rw [tokenBegins_rest, hrest]; exact hne)) (Nat.le_refl _) hd.ne_eof

theorem stepAt_covers {s : Lx} (hinv : PosInv s) (hne : s.rest ≠ []) {t : Token} {s1 : Lx} (h : stepAt s = (.tok t, s1)) :
    ∃ n, Spans s t s1 n ∧ (t.ty ≠ .STR → t.ty ≠ .HTML → t.lit = s.rest.take n) := by
  rcases stepAt_tok hne h with ⟨_, _, hc, _⟩ | ⟨d, hd, ht, hsame⟩
  · cases hc
  · cases ht
    refine ⟨_, (descEmit_spans s hinv hne d hd).congr_end hsame, fun hs hh => ?_⟩
    rw [TokDesc.emit_ty] at hs hh
    rw [TokDesc.emit_lit, hd.lit hs hh, List.take_eq_take_iff]
    omega

/-- with it `s.pre.length` is the lexer's offset in `inp`, and what `Spans` says of `pre`
    and `rest` becomes a statement about offsets and `posOf inp` -/
def Src (inp : Bytes) (s : Lx) : Prop := s.pre.reverse ++ s.rest = inp

/-- zero-based line and byte column of offset `i` of the input -/
def posOf (inp : Bytes) (i : Nat) : Nat × Nat := (lineOf (inp.take i).reverse, colOf (inp.take i).reverse)

theorem Src.init (inp : Bytes) : Src inp (Lx.init inp) := by simp [Src, Lx.init]

theorem Src.len {inp : Bytes} {s : Lx} (h : Src inp s) : s.pre.length + s.rest.length = inp.length := by
  unfold Src at h; rw [← h]; simp

theorem Src.drop {inp : Bytes} {s : Lx} (h : Src inp s) : inp.drop s.pre.length = s.rest := by
  unfold Src at h
  rw [← h]
  simp

theorem Src.posOf_add {inp : Bytes} {s : Lx} (h : Src inp s) (k : Nat) :
    posOf inp (s.pre.length + k) = (lineOf ((s.rest.take k).reverse ++ s.pre), colOf ((s.rest.take k).reverse ++ s.pre)) := by
  have : (inp.take (s.pre.length + k)).reverse = (s.rest.take k).reverse ++ s.pre := by
    unfold Src at h
    rw [← h, List.take_append]
    simp [List.take_of_length_le]
  rw [posOf, this]

theorem Src.posOf_self {inp : Bytes} {s : Lx} (h : Src inp s) : posOf inp s.pre.length = (lineOf s.pre, colOf s.pre) :=
  h.posOf_add 0

theorem Src.advance {inp : Bytes} {s : Lx} (h : Src inp s) (n : Nat) : Src inp (advance s n) := by
  unfold Src at *
  rw [advance_pre, advance_rest]
  simp [← h, List.append_assoc]

theorem Spans.src {inp : Bytes} {s s1 : Lx} {t : Token} {n : Nat} (h : Spans s t s1 n) (hs : Src inp s) : Src inp s1 := by
  unfold Src at *
  rw [h.pre, h.rest]
  simp [← hs, List.append_assoc]

theorem skipWs_inv (inp : Bytes) (s : Lx) (hp : PosInv s) (hs : Src inp s) : PosInv (skipWs s) ∧ Src inp (skipWs s) := by
  unfold skipWs
  split
  · exact ⟨posInv_advance _ _ hp, hs.advance _⟩
  · exact ⟨hp, hs⟩

theorem skipComment_inv (inp : Bytes) (s : Lx) (hp : PosInv s) (hs : Src inp s) :
    PosInv (skipComment s) ∧ Src inp (skipComment s) := by
  rw [skipComment_eq]
  split
  · exact ⟨posInv_advance _ _ hp, hs.advance _⟩
  · exact ⟨posInv_advance _ _ (posInv_of_sameBytes (c := s) ⟨rfl, rfl, rfl, rfl, rfl⟩ hp), Src.advance (s := s.withHTML true) hs _⟩

structure Covers (inp : Bytes) (t : Token) (a n : Nat) : Prop where
  n_pos : 1 ≤ n
  le : a + n ≤ inp.length
  start : (t.pos.startLine, t.pos.startCol) = posOf inp a
  stop : (t.pos.endLine, t.pos.endCol) = posOf inp (a + n - 1)

inductive Tiled (inp : Bytes) : Nat → List Token → Prop where
  | eof (a : Nat) (t : Token) : t.ty = .EOF → a ≤ inp.length →
      (t.pos.startLine, t.pos.startCol) = posOf inp inp.length →
      (t.pos.endLine, t.pos.endCol) = posOf inp inp.length → Tiled inp a [t]
  | tok (a a' n : Nat) (t : Token) (ts : List Token) : a ≤ a' → t.ty ≠ .EOF → Covers inp t a' n →
      Tiled inp (a' + n) ts → Tiled inp a (t :: ts)

theorem Spans.covers {inp : Bytes} {s s' : Lx} {t : Token} {n : Nat} (h : Spans s t s' n) (hs : Src inp s) :
    Covers inp t s.pre.length n := by
  have hlen := hs.len
  have hn := h.n_pos
  refine ⟨hn, by have := h.n_le; omega, ?_, ?_⟩
  · rw [hs.posOf_self, h.startLine, h.startCol]
  · rw [show s.pre.length + n - 1 = s.pre.length + (n - 1) by omega, hs.posOf_add, h.endLine, h.endCol]

def slice (inp : Bytes) (a b : Nat) : Bytes := (inp.drop a).take (b - a)

theorem slice_self (inp : Bytes) (a : Nat) : slice inp a a = [] := by simp [slice]

theorem slice_append (inp : Bytes) (a m b : Nat) (h1 : a ≤ m) (h2 : m ≤ b) : slice inp a b = slice inp a m ++ slice inp m b := by
  unfold slice
  have : b - a = (m - a) + (b - m) := by omega
  rw [this, List.take_add]
  congr 1
  rw [List.drop_drop]
  congr 2
  omega

theorem drop_eq_slice_append (inp : Bytes) (a b : Nat) (h : a ≤ b) : inp.drop a = slice inp a b ++ inp.drop b := by
  have := List.take_append_drop (b - a) (inp.drop a)
  rw [List.drop_drop, show a + (b - a) = b by omega] at this
  exact this.symm

theorem Src.slice_take {inp : Bytes} {s : Lx} (h : Src inp s) (n : Nat) : slice inp s.pre.length (s.pre.length + n) = s.rest.take n := by
  rw [slice, h.drop, Nat.add_sub_cancel_left]

/-- what may lie between two tokens: white space and comments.  The relation admits more than the lexer
    skips: `comment` does not ask that `body` is free of "--}}", and `opened` takes any `body` wherever it
    stands, so `Gap (b "{{-- a --}}hello{{-- b")` holds by `opened`.  The lexer takes `comment` with the
    body up to the first "--}}" and `opened` only for a comment that runs to the end of the input;
    the statements made through `Gap` (`FullTiled`) do not record that. -/
inductive Gap : Bytes → Prop
  | nil : Gap []
  | ws (c : Byte) (g : Bytes) : isWs c = true → Gap g → Gap (c :: g)
  | comment (body g : Bytes) : Gap g → Gap ([123, 123, 45, 45] ++ body ++ [45, 45, 125, 125] ++ g)
  | opened (body : Bytes) : Gap ([123, 123, 45, 45] ++ body)

theorem Gap.ws_run (w g : Bytes) (hw : allWs w) (hg : Gap g) : Gap (w ++ g) := by
  induction w with
  | nil => exact hg
  | cons c r ih => exact .ws c _ (hw c (by simp)) (ih (fun x hx => hw x (by simp [hx])))

theorem skipWs_consumed (s : Lx) : ∃ w, s.rest = w ++ (skipWs s).rest ∧ allWs w := by
  unfold skipWs
  split
  · refine ⟨s.rest.takeWhile isWs, ?_, List.all_eq_true.mp List.all_takeWhile⟩
    rw [advance_rest]
    have := List.take_append_drop (s.rest.takeWhile isWs).length s.rest
    rw [take_takeWhile_length] at this
    exact this.symm
  · exact ⟨[], by simp, nofun⟩

theorem comment_consumed (s : Lx) (hb : s.char = 123 ∧ s.peek = 123)
    (hc : (bracesToken s .LBRACES [123, 123]).2.char = 45 ∧ (bracesToken s .LBRACES [123, 123]).2.peek = 45) :
    ∃ cm, s.rest = cm ++ (skipComment (bracesToken s .LBRACES [123, 123]).2).rest ∧ ∀ g, Gap g → Gap (cm ++ g) := by
  have hbr : (bracesToken s .LBRACES [123, 123]).2.rest = s.rest.drop 2 := by unfold bracesToken; rw [emit_rest]
  generalize (bracesToken s .LBRACES [123, 123]).2 = s1 at hbr hc ⊢
  obtain ⟨r, hr⟩ : ∃ r, s.rest = 123 :: 123 :: 45 :: 45 :: r := by
    have e := s.rest_eq_cons2 (by rw [hb.2]; decide)
    have e1 := s1.rest_eq_cons2 (by rw [hc.2]; decide)
    rw [hb.1, hb.2, ← hbr] at e
    rw [hc.1, hc.2] at e1
    exact ⟨_, e.trans (by rw [e1])⟩
  have h1rest : s1.rest = 45 :: 45 :: r := by rw [hbr, hr]; rfl
  have h2rest : (readChar (readChar s1)).rest = r := by
    rw [readChar_eq_advance, readChar_eq_advance, advance_rest, advance_rest, h1rest]; rfl
  unfold skipComment
  simp only []
  have h3rest : (advance (readChar (readChar s1)) (commentScan (readChar (readChar s1)).rest)).rest = r.drop (commentScan r) := by
    rw [advance_rest, h2rest]
  split
  · rename_i heof
    have hnil : r.drop (commentScan r) = [] := by rw [← h3rest]; exact (isEOF_iff _).mp heof
    refine ⟨s.rest, by rw [h3rest, hnil]; simp, ?_⟩
    intro g _
    rw [hr]
    exact .opened (r ++ g)
  · rename_i hneof
    rcases commentScan_stop r with hnil | ⟨r', hr'⟩
    · exfalso; apply hneof; rw [isEOF_iff, h3rest]; exact hnil
    · refine ⟨[123, 123, 45, 45] ++ r.take (commentScan r) ++ [45, 45, 125, 125], ?_, ?_⟩
      · rw [advance_rest]
        show s.rest = _ ++ List.drop 4 (advance _ _).rest
        rw [h3rest, hr', hr]
        have e : r = r.take (commentScan r) ++ 45 :: 45 :: 125 :: 125 :: r' := by
          have := List.take_append_drop (commentScan r) r
          rw [hr'] at this
          exact this.symm
        simp only [List.append_assoc, List.cons_append, List.nil_append, List.drop_succ_cons, List.drop_zero]
        exact congrArg (fun x => 123 :: 123 :: 45 :: 45 :: x) e
      · intro g hg
        have := Gap.comment (r.take (commentScan r)) g hg
        simpa [List.append_assoc] using this

inductive FullTiled (inp : Bytes) : Nat → List Token → Prop where
  | eof (a : Nat) (t : Token) : t.ty = .EOF → a ≤ inp.length → Gap (inp.drop a) →
      (t.pos.startLine, t.pos.startCol) = posOf inp inp.length →
      (t.pos.endLine, t.pos.endCol) = posOf inp inp.length → FullTiled inp a [t]
  | tok (a a' n : Nat) (t : Token) (ts : List Token) : a ≤ a' → Gap (slice inp a a') → t.ty ≠ .EOF → Covers inp t a' n →
      (t.ty ≠ .STR → t.ty ≠ .HTML → t.lit = slice inp a' (a' + n)) →
      FullTiled inp (a' + n) ts → FullTiled inp a (t :: ts)

theorem FullTiled.prepend {inp : Bytes} {a a2 : Nat} {ts : List Token} (h : FullTiled inp a2 ts) (ha : a ≤ a2) (hl : a2 ≤ inp.length)
    (hw : ∀ g, Gap g → Gap (slice inp a a2 ++ g)) : FullTiled inp a ts := by
  cases h with
  | eof _ t h1 h2 h3 h4 h5 =>
    refine .eof a t h1 (by omega) ?_ h4 h5
    rw [drop_eq_slice_append inp a a2 ha]; exact hw _ h3
  | tok _ a' n t ts h1 h2 h3 h4 h5 h6 =>
    refine .tok a a' n t ts (by omega) ?_ h3 h4 h5 h6
    rw [slice_append inp a a2 a' ha h1]
    exact hw _ h2

theorem slice_of_states (inp : Bytes) (s s' : Lx) (hs : Src inp s) (hs' : Src inp s') (w : Bytes) (hw : s.rest = w ++ s'.rest) :
    s'.pre.length = s.pre.length + w.length ∧ slice inp s.pre.length s'.pre.length = w := by
  have l1 := hs.len
  have l2 := hs'.len
  have hl : s.rest.length = w.length + s'.rest.length := by rw [hw]; simp
  have hoff : s'.pre.length = s.pre.length + w.length := by omega
  refine ⟨hoff, ?_⟩
  rw [hoff, hs.slice_take, hw]
  simp

theorem FullTiled.after_ws {inp : Bytes} {s : Lx} {ts : List Token} (hp : PosInv s) (hs : Src inp s)
    (h : FullTiled inp (skipWs s).pre.length ts) : FullTiled inp s.pre.length ts := by
  obtain ⟨_, ws⟩ := skipWs_inv inp s hp hs
  obtain ⟨w, hwr, hwws⟩ := skipWs_consumed s
  obtain ⟨hwoff, hwslice⟩ := slice_of_states inp s (skipWs s) hs ws w hwr
  have := ws.len
  exact h.prepend (by omega) (by omega) (fun g hg => by rw [hwslice]; exact Gap.ws_run w g hwws hg)

theorem lexAll_fullTiled (inp : Bytes) : ∀ (fuel : Nat) (s : Lx) (ts : List Token) (sf : Lx),
    PosInv s → Src inp s → lexAll fuel s = some (ts, sf) → FullTiled inp s.pre.length ts := by
  intro fuel s ts sf hp hs h
  refine lexAll_induct (P := fun _ s ts _ => PosInv s → Src inp s → FullTiled inp s.pre.length ts)
    ?_ ?_ ?_ fuel s ts sf h hp hs
  · intro _ s t s1 hn he hp hs
    obtain ⟨wp, ws⟩ := skipWs_inv inp s hp hs
    refine FullTiled.after_ws hp hs ?_
    have hnil : (skipWs s).rest = [] := (stepAt_rest_nil_iff hn).mpr ⟨t, rfl, he⟩
    rw [nextStep, stepAt_eof _ hnil] at hn
    cases hn
    have hlen : (skipWs s).pre.length = inp.length := by
      have := ws.len; rw [hnil] at this; simpa using this
    have hpos : posOf inp inp.length = ((skipWs s).line, (skipWs s).col) := by
      rw [← hlen, ws.posOf_self, wp.line, wp.col]
    refine .eof _ _ he (by omega) ?_ ?_ ?_
    · rw [ws.drop, hnil]; exact .nil
    · rw [hpos]; simp [newToken, Lx.tokenBegins]
    · rw [hpos]; simp [newToken, Lx.tokenBegins]
  · intro _ s s1 ts sf hn ih hp hs
    obtain ⟨wp, ws⟩ := skipWs_inv inp s hp hs
    refine FullTiled.after_ws hp hs ?_
    have hnil : (skipWs s).rest ≠ [] := fun h0 => by
      obtain ⟨_, ht, _⟩ := (stepAt_rest_nil_iff hn).mp h0
      cases ht
    rcases stepAt_tok hnil hn with ⟨hb, hc, _, rfl⟩ | ⟨_, _, ht, _⟩
    · have hbsp : Spans (skipWs s) (bracesToken (skipWs s) .LBRACES [123, 123]).1 (bracesToken (skipWs s) .LBRACES [123, 123]).2 _ :=
        descEmit_spans _ wp hnil _ (bracesDesc_ok (skipWs s) .LBRACES 123 (by decide) (by decide) hb.1 hb.2)
      obtain ⟨cp, cs⟩ := skipComment_inv inp _ hbsp.inv (hbsp.src ws)
      obtain ⟨cm, hcm, hcmgap⟩ := comment_consumed (skipWs s) hb hc
      obtain ⟨hcoff, hcslice⟩ := slice_of_states inp (skipWs s) _ ws cs cm hcm
      have hl1 := cs.len
      exact (ih cp cs).prepend (by omega) (by omega) (fun g hg => by rw [hcslice]; exact hcmgap g hg)
    · cases ht
  · intro _ s t s1 ts sf hn hne ih hp hs
    obtain ⟨wp, ws⟩ := skipWs_inv inp s hp hs
    refine FullTiled.after_ws hp hs ?_
    have hnil : (skipWs s).rest ≠ [] := fun h0 => by
      obtain ⟨_, ht, he⟩ := (stepAt_rest_nil_iff hn).mp h0
      cases ht
      exact hne he
    obtain ⟨n, hsp, hlit⟩ := stepAt_covers wp hnil hn
    have hrecT := ih hsp.inv (hsp.src ws)
    have hpre1 : s1.pre.length = (skipWs s).pre.length + n := by
      rw [hsp.pre]; simp [List.length_take, Nat.min_eq_left hsp.n_le]; omega
    rw [hpre1] at hrecT
    refine .tok _ _ n t ts (Nat.le_refl _) ?_ hne (hsp.covers ws) ?_ hrecT
    · rw [slice_self]; exact .nil
    · intro hs' hh'
      rw [hlit hs' hh', ws.slice_take]

theorem tokenize_fullTiled (inp : Bytes) (r : LexResult) (h : tokenize inp = some r) : FullTiled inp 0 r.toks := by
  obtain ⟨sf, hl, _⟩ := tokenize_some h
  exact lexAll_fullTiled inp _ (Lx.init inp) r.toks sf (posInv_init inp) (Src.init inp) hl

theorem FullTiled.tiled {inp : Bytes} {a : Nat} {ts : List Token} (h : FullTiled inp a ts) : Tiled inp a ts := by
  induction h with
  | eof a t h1 h2 _ h4 h5 => exact .eof a t h1 h2 h4 h5
  | tok a a' n t ts h1 _ h3 h4 _ _ ih => exact .tok a a' n t ts h1 h3 h4 ih

/-- C19 `tokens_tile_source`; C13 `token_of_the_list_line` reads the error line of a token off it -/
theorem tokenize_tiled (inp : Bytes) (r : LexResult) (h : tokenize inp = some r) : Tiled inp 0 r.toks :=
  (tokenize_fullTiled inp r h).tiled

end Tw
