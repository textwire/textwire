/-
  TwProofs.Lemmas.ScopeEval — evaluation of text, prints, assignments and `@if` blocks with their
  scopes (C04): an assignment writes into the innermost scope, a block evaluates its body in a new
  scope and hands the caller's environment back.  `seval` says so on the items; `evalProg_sitems`: a program
  that matches the items (`SMatch`) evaluates to what `seval` says.
-/
import TwProofs.Lemmas.ScopeTop
namespace Tw

def aeval (env : Env) : List AItem → Bytes × Env
  | [] => ([], env)
  | .text t :: r => (t ++ (aeval env r).1, (aeval env r).2)
  | .print _ n _ :: r => (((env.get n).map Val.toStr).getD [] ++ (aeval env r).1, (aeval env r).2)
  | .assign _ n _ _ _ v _ :: r => aeval (setTop env n (.str (literalValue v))) r

def abound (env : Env) : List AItem → Prop
  | [] => True
  | .text _ :: r => abound env r
  | .print _ n _ :: r => (env.get n).isSome = true ∧ abound env r
  | .assign _ n _ _ _ v _ :: r =>
    (n == b "loop") = false ∧ (∀ old, env.get n = some old → old.type = .STRING) ∧ abound (setTop env n (.str (literalValue v))) r

theorem evalStmt_assign (f : Nat) (c : Ctx) (env : Env) (t : Token) (n : Bytes) (e : Expr) (v : Val) (he : evalExpr f c env e = .ok v) :
    evalStmt (f + 1) c env (.assign t n e) = (setVar env n v t.errorLine).bind fun env' => .ok ({}, env') := by
  rw [evalStmt_succ]
  simp only [stmtBody, calleesAt_expr, he, Res.bind_ok]

theorem evalProg_assign (f : Nat) (c : Ctx) (env env' : Env) (t : Token) (n : Bytes) (e : Expr) (v : Val) (rest : List Stmt) (acc : Bytes)
    (he : evalExpr (f + 1) c env e = .ok v) (hs : env.set n v = .ok env') :
    evalProg (f + 3) c env (.assign t n e :: rest) acc = evalProg (f + 2) c env' rest acc := by
  rw [evalProg_cons, evalStmt_assign (f + 1) c env t n e v he]
  simp [setVar, hs]

theorem evalProg_assign_fails (f : Nat) (c : Ctx) (env : Env) (t : Token) (n : Bytes) (e : Expr) (v : Val) (rest : List Stmt) (acc : Bytes)
    (code : String) (args : List Bytes) (he : evalExpr (f + 1) c env e = .ok v) (hs : env.set n v = .error (code, args)) :
    evalProg (f + 3) c env (.assign t n e :: rest) acc = .err code t.errorLine args := by
  rw [evalProg_cons, evalStmt_assign (f + 1) c env t n e v he]
  simp [setVar, hs, Res.bind]

theorem evalStmt_assign_str (f : Nat) (c : Ctx) (env : Env) (t tv : Token) (n v : Bytes) (hn : (n == b "loop") = false)
    (hty : ∀ old, env.get n = some old → old.type = .STRING) :
    evalStmt (f + 2) c env (.assign t n (.str tv v)) = .ok ({}, setTop env n (.str (literalValue v))) := by
  rw [evalStmt_assign (f + 1) c env t n _ _ rfl, setVar_eq_ok _ hn hty]
  rfl

theorem yields_assign_str (c : Ctx) (env : Env) (t tv : Token) (n v : Bytes) (hn : (n == b "loop") = false)
    (hty : ∀ old, env.get n = some old → old.type = .STRING) :
    Yields c env (.assign t n (.str tv v)) [] (setTop env n (.str (literalValue v))) 2 := fun f hf => by
  obtain ⟨g, rfl⟩ : ∃ g, f = g + 2 := ⟨f - 2, by omega⟩
  exact evalStmt_assign_str g c env t tv n v hn hty

theorem yieldsAll_abody (c : Ctx) : ∀ (stmts : List Stmt) (body : List AItem), AMatch stmts body → ∀ (env : Env), abound env body →
    YieldsAll c env stmts (aeval env body).1 (aeval env body).2 (body.length + 3) := by
  intro stmts body hm
  induction hm with
  | nil => intro env _; exact .nil env 2
  | text t txt ss r hlit _ ih =>
    intro env hb
    exact hlit ▸ .cons (Renders.html c env t) (ih env hb) (by simp) (by simp)
  | print t t2 g1 n g2 ss r _ ih =>
    intro env ⟨hbn, hbr⟩
    exact .cons (Renders.ident_bound c t t2 hbn) (ih env hbr) (by simp) (by simp)
  | assign t tv g1 n g2 g3 q v g4 ss r _ ih =>
    intro env ⟨hn, hty, hbr⟩
    exact .cons (yields_assign_str c env t tv n v hn hty) (ih _ hbr) (by simp) (by simp)

theorem evalBlock_abody (c : Ctx) : ∀ (stmts : List Stmt) (body : List AItem), AMatch stmts body → ∀ (env : Env) (fuel : Nat),
    abound env body → body.length + 3 ≤ fuel →
    evalBlock fuel c env stmts = .ok ({ text := (aeval env body).1 }, (aeval env body).2) :=
  fun stmts body hm env fuel hb hf => (yieldsAll_abody c stmts body hm env hb).evalBlock fuel hf

def seval (env : Env) : List SItem → Bytes × Env
  | [] => ([], env)
  | .text segs :: r => (segsLit segs ++ (seval env r).1, (seval env r).2)
  | .print _ n _ :: r => (((env.get n).map Val.toStr).getD [] ++ (seval env r).1, (seval env r).2)
  | .assign _ n _ _ _ v _ :: r => seval (setTop env n (.str (literalValue v))) r
  | .ifb _ c _ body :: r => ((if truthyOf env c then (aeval env.push body).1 else []) ++ (seval env r).1, (seval env r).2)

def sbound (env : Env) : List SItem → Prop
  | [] => True
  | .text _ :: r => sbound env r
  | .print _ n _ :: r => (env.get n).isSome = true ∧ sbound env r
  | .assign _ n _ _ _ v _ :: r =>
    (n == b "loop") = false ∧ (∀ old, env.get n = some old → old.type = .STRING) ∧ sbound (setTop env n (.str (literalValue v))) r
  | .ifb _ c _ body :: r => (env.get c).isSome = true ∧ (truthyOf env c = true → abound env.push body) ∧ sbound env r

/-- as `xneed`; a block needs `body.length + 5` (`Yields.if_bound` over `yieldsAll_abody`) -/
def sneed : List SItem → Nat
  | [] => 1
  | .text _ :: r => 1 + max 1 (sneed r)
  | .print _ _ _ :: r => 1 + max 2 (sneed r)
  | .assign _ _ _ _ _ _ _ :: r => 1 + max 2 (sneed r)
  | .ifb _ _ _ body :: r => 1 + max (body.length + 5) (sneed r)

theorem Yields.if_bound (c : Ctx) {env : Env} (t1 t3 : Token) {cn : Bytes} (bs : List Stmt) (hb : (env.get cn).isSome = true)
    {out : Bytes} {env' : Env} {n : Nat} (hbody : truthyOf env cn = true → YieldsAll c env.push bs out env' (n + 1)) :
    Yields c env (.ifS t1 (.ident t3 cn) bs [] none) (if truthyOf env cn then out else []) env (n + 3) := by
  obtain ⟨v, hv⟩ := Option.isSome_iff_exists.mp hb
  rw [show truthyOf env cn = isTruthy v by simp [truthyOf, hv]] at hbody ⊢
  by_cases ht : isTruthy v = true
  · simpa [ht] using Yields.if_ident t1 t3 hv bs none (by simpa [ht] using hbody ht)
  · simpa [ht] using Yields.if_ident t1 t3 hv bs none (by simpa [ht] using YieldsAll.nil env.push n)

theorem yieldsAll_sitems (c : Ctx) : ∀ (ss : List Stmt) (items : List SItem), SMatch ss items → ∀ (env : Env), sbound env items →
    YieldsAll c env ss (seval env items).1 (seval env items).2 (sneed items) := by
  intro ss items hm
  induction hm with
  | nil => intro env _; exact .nil env 0
  | text t segs ss r hlit _ ih =>
    intro env hb
    rw [seval, ← hlit]
    exact .cons' (Renders.html c env t) (ih env hb)
  | print t t2 g1 n g2 ss r _ ih =>
    intro env ⟨hbn, hbr⟩
    exact .cons' (Renders.ident_bound c t t2 hbn) (ih env hbr)
  | assign t tv g1 n g2 g3 q v g4 ss r _ ih =>
    intro env ⟨hn, hty, hbr⟩
    exact .cons' (yields_assign_str c env t tv n v hn hty) (ih _ hbr)
  | ifb t1 t3 g1 cn g2 body bs ss r hbm _ ih =>
    intro env ⟨hbc, hbb, hbr⟩
    exact .cons' (Yields.if_bound c t1 t3 bs hbc fun ht => yieldsAll_abody c bs body hbm env.push (hbb ht)) (ih env hbr)

theorem evalProg_sitems (c : Ctx) : ∀ (ss : List Stmt) (items : List SItem), SMatch ss items → ∀ (env : Env) (fuel : Nat) (acc : Bytes),
    sbound env items → sneed items ≤ fuel → evalProg fuel c env ss acc = .ok (acc ++ (seval env items).1, (seval env items).2) :=
  fun ss items hm env fuel acc hb hf => (yieldsAll_sitems c ss items hm env hb).evalProg fuel acc hf

/-- an `@if` block never changes the environment of what follows it, whatever it assigns.  Of `seval` this holds by
    definition; that the evaluator computes `seval` is `evalProg_sitems` (C04 `scoped_template_renders_from_source`) -/
theorem seval_ifb_env (env : Env) (g1 c g2 : Bytes) (body : List AItem) (r : List SItem) :
    (seval env (.ifb g1 c g2 body :: r)).2 = (seval env r).2 := rfl

end Tw
