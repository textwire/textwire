/-
  TwProofs.Lemmas.Env — the environment (`object.Env`: scopes, innermost first): what `Env.set` does
  when it succeeds (`setTop`: it writes the innermost scope), exactly when it succeeds, and what a
  lookup sees afterwards and in a new scope.
-/
import TwProofs.Lemmas.Sort
namespace Tw

def setTop (env : Env) (n : Bytes) (v : Val) : Env :=
  match env with
  | [] => [[(n, v)]]
  | s :: o => mapSet s n v :: o

theorem get_push (env : Env) (k : Bytes) : env.push.get k = env.get k := by
  simp [Env.push, Env.get, mapGet]

theorem Env.set_eq_ok {env : Env} {k : Bytes} {v : Val} (hk : (k == b "loop") = false)
    (hty : ∀ old, env.get k = some old → old.type = v.type) : env.set k v = .ok (setTop env k v) := by
  unfold Env.set
  rw [if_neg (by simp [hk])]
  cases hg : env.get k with
  | none => rfl
  | some old => simp only []; rw [if_neg (by simp [hty old hg])]; rfl

theorem Env.set_ok_inv {env env' : Env} {k : Bytes} {v : Val} (h : env.set k v = .ok env') :
    (k == b "loop") = false ∧ (∀ old, env.get k = some old → old.type = v.type) ∧ env' = setTop env k v := by
  unfold Env.set at h
  split at h
  · cases h
  · rename_i hk
    refine ⟨by simpa using hk, ?_⟩
    cases hg : env.get k with
    | none => rw [hg] at h; cases h; exact ⟨fun o ho => (by cases ho), rfl⟩
    | some old =>
      rw [hg] at h
      simp only [] at h
      split at h
      · cases h
      · rename_i ht
        cases h
        exact ⟨fun o ho => (by cases ho; simpa using ht), rfl⟩

theorem Env.set_ok_eq {env env' : Env} {k : Bytes} {v : Val} (h : env.set k v = .ok env') : env' = setTop env k v :=
  (Env.set_ok_inv h).2.2

theorem setVar_eq_ok {env : Env} {k : Bytes} {v : Val} (line : Nat) (hk : (k == b "loop") = false)
    (hty : ∀ old, env.get k = some old → old.type = v.type) : setVar env k v line = .ok (setTop env k v) := by
  rw [setVar, Env.set_eq_ok hk hty]

theorem get_setTop_same (env : Env) (k : Bytes) (v : Val) : (setTop env k v).get k = some v := by
  cases env <;> simp [setTop, Env.get, mapGet, mapGet_set_same]

theorem get_setTop_other (env : Env) (k k2 : Bytes) (v : Val) (h : k2 ≠ k) : (setTop env k v).get k2 = env.get k2 := by
  cases env with
  | nil => simp [setTop, Env.get, mapGet, show (k == k2) = false from by simpa using fun e => h e.symm]
  | cons s o => simp [setTop, Env.get, mapGet_set_other _ _ _ _ h]

def truthyOf (env : Env) (c : Bytes) : Bool := match env.get c with | some v => isTruthy v | none => false

end Tw
