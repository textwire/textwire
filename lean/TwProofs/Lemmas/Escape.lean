/-
  TwProofs.Lemmas.Escape — escaping of `<`, `>`, `&` only (`esc3`), which is what `html.EscapeString`
  followed by the two quote restorations comes to: each restoration is a pass over a text made of
  one piece per source byte (`flatMap_pass`), and `html.UnescapeString` is such a pass back (C10).
-/
import TwModel

namespace Tw

def esc3c (c : Byte) : Bytes :=
  if c == 38 then b "&amp;" else if c == 60 then b "&lt;" else if c == 62 then b "&gt;" else [c]

def esc3 (s : Bytes) : Bytes := s.flatMap esc3c

/-- `html.EscapeString` of one byte -/
def esc5c (c : Byte) : Bytes :=
  if c == 38 then b "&amp;" else if c == 39 then b "&#39;" else if c == 60 then b "&lt;"
  else if c == 62 then b "&gt;" else if c == 34 then b "&#34;" else [c]

/-- after the first restoration pass: double quotes are back -/
def esc4c (c : Byte) : Bytes :=
  if c == 38 then b "&amp;" else if c == 39 then b "&#39;" else if c == 60 then b "&lt;"
  else if c == 62 then b "&gt;" else [c]

theorem b_amp : b "&amp;" = [38, 97, 109, 112, 59] := by decide
theorem b_lt : b "&lt;" = [38, 108, 116, 59] := by decide
theorem b_gt : b "&gt;" = [38, 103, 116, 59] := by decide
theorem b_q34 : b "&#34;" = [38, 35, 51, 52, 59] := by decide
theorem b_q39 : b "&#39;" = [38, 35, 51, 57, 59] := by decide

theorem flatMap_pass {F : Bytes → Bytes} {f g : Byte → Bytes} (h0 : F [] = []) (hstep : ∀ c x, F (f c ++ x) = g c ++ F x)
    (s : Bytes) : F (s.flatMap f) = s.flatMap g := by
  induction s with
  | nil => exact h0
  | cons c r ih => rw [List.flatMap_cons, List.flatMap_cons, hstep, ih]

theorem escaped_cases (c : Nat) : c = 38 ∨ c = 39 ∨ c = 60 ∨ c = 62 ∨ c = 34 ∨ (c ≠ 38 ∧ c ≠ 39 ∧ c ≠ 60 ∧ c ≠ 62 ∧ c ≠ 34) := by
  omega

/-- first pass: replacing "&#34;" in the escaped text restores exactly the double quotes (in the last case `simp` leaves
    `38 = c → …`, the byte opening the entity, which `h38` refutes) -/
theorem restore34 (s : Bytes) :
    replaceGo [38, 35, 51, 52, 59] [34] 0 (s.flatMap esc5c) = s.flatMap esc4c := by
  refine flatMap_pass rfl (fun c x => ?_) s
  rcases escaped_cases c with rfl | rfl | rfl | rfl | rfl | ⟨h38, h39, h60, h62, h34⟩
  · simp [esc5c, esc4c, b_amp, replaceGo, isPrefixOf]
  · simp [esc5c, esc4c, b_q39, replaceGo, isPrefixOf]
  · simp [esc5c, esc4c, b_lt, replaceGo, isPrefixOf]
  · simp [esc5c, esc4c, b_gt, replaceGo, isPrefixOf]
  · simp [esc5c, esc4c, b_q34, replaceGo, isPrefixOf]
  · simp [esc5c, esc4c, h38, h39, h60, h62, h34, replaceGo, isPrefixOf]
    intro h; exact absurd h.symm h38

/-- second pass: replacing "&#39;" restores exactly the single quotes -/
theorem restore39 (s : Bytes) :
    replaceGo [38, 35, 51, 57, 59] [39] 0 (s.flatMap esc4c) = s.flatMap esc3c := by
  refine flatMap_pass rfl (fun c x => ?_) s
  rcases escaped_cases c with rfl | rfl | rfl | rfl | rfl | ⟨h38, h39, h60, h62, _⟩
  · simp [esc4c, esc3c, b_amp, replaceGo, isPrefixOf]
  · simp [esc4c, esc3c, b_q39, replaceGo, isPrefixOf]
  · simp [esc4c, esc3c, b_lt, replaceGo, isPrefixOf]
  · simp [esc4c, esc3c, b_gt, replaceGo, isPrefixOf]
  · simp [esc4c, esc3c, replaceGo, isPrefixOf]
  · simp [esc4c, esc3c, h38, h39, h60, h62, replaceGo, isPrefixOf]
    intro h; exact absurd h.symm h38

theorem unescapeAt_amp (rest : Bytes) : unescapeAt (97 :: 109 :: 112 :: 59 :: rest) = some ([38], 4) := by
  simp [unescapeAt, isAlnum, List.takeWhile, lookupEntity, entitySemi, b, utf8Bytes, encodeRune]

theorem unescapeAt_lt (rest : Bytes) : unescapeAt (108 :: 116 :: 59 :: rest) = some ([60], 3) := by
  simp [unescapeAt, isAlnum, List.takeWhile, lookupEntity, entitySemi, b, utf8Bytes, encodeRune, List.find?]

theorem unescapeAt_gt (rest : Bytes) : unescapeAt (103 :: 116 :: 59 :: rest) = some ([62], 3) := by
  simp [unescapeAt, isAlnum, List.takeWhile, lookupEntity, entitySemi, b, utf8Bytes, encodeRune, List.find?]

theorem unescape_esc3 (s : Bytes) : htmlUnescape (esc3 s) = s := by
  refine (flatMap_pass (F := htmlUnescape) (g := fun c => [c]) rfl (fun c x => ?_) s).trans (List.flatMap_singleton' s)
  unfold htmlUnescape
  rcases escaped_cases c with rfl | h | rfl | rfl | h | ⟨h38, _, h60, h62, _⟩
  · simp only [show esc3c 38 = [38, 97, 109, 112, 59] by decide, List.cons_append, List.nil_append, unescapeGo, beq_self_eq_true, if_true,
      unescapeAt_amp]
  · subst h; simp [esc3c, unescapeGo]
  · simp only [show esc3c 60 = [38, 108, 116, 59] by decide, List.cons_append, List.nil_append, unescapeGo, beq_self_eq_true, if_true,
      unescapeAt_lt]
  · simp only [show esc3c 62 = [38, 103, 116, 59] by decide, List.cons_append, List.nil_append, unescapeGo, beq_self_eq_true, if_true,
      unescapeAt_gt]
  · subst h; simp [esc3c, unescapeGo]
  · simp [esc3c, h38, h60, h62, unescapeGo]

theorem esc3_no_angle (s : Bytes) : ∀ x ∈ esc3 s, x ≠ 60 ∧ x ≠ 62 := by
  intro x hx
  unfold esc3 at hx
  rw [List.mem_flatMap] at hx
  obtain ⟨c, _, hc⟩ := hx
  unfold esc3c at hc
  split at hc
  · rw [b_amp] at hc; simp at hc; rcases hc with h | h | h | h | h <;> subst h <;> decide
  split at hc
  · rw [b_lt] at hc; simp at hc; rcases hc with h | h | h | h <;> subst h <;> decide
  split at hc
  · rw [b_gt] at hc; simp at hc; rcases hc with h | h | h | h <;> subst h <;> decide
  · rename_i h1 h2 h3
    simp at hc; subst hc
    exact ⟨by simpa using h2, by simpa using h3⟩

/-- quotes stay as written: as many double and single quotes after escaping as before -/
theorem esc3_quotes (s : Bytes) : (esc3 s).count 34 = s.count 34 ∧ (esc3 s).count 39 = s.count 39 := by
  unfold esc3
  induction s with
  | nil => simp
  | cons c r ih =>
    simp only [List.flatMap_cons, List.count_append, ih.1, ih.2, List.count_cons]
    unfold esc3c
    split
    · rename_i h; have : c = 38 := by simpa using h
      subst this; rw [b_amp]; simp
    split
    · rename_i _ h; have : c = 60 := by simpa using h
      subst this; rw [b_lt]; simp
    split
    · rename_i _ _ h; have : c = 62 := by simpa using h
      subst this; rw [b_gt]; simp
    · simp [List.count_cons]; omega

theorem esc3_append (s t : Bytes) : esc3 (s ++ t) = esc3 s ++ esc3 t := by
  simp [esc3, List.flatMap_append]

end Tw
