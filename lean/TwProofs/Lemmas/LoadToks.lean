/-
  TwProofs.Lemmas.LoadToks — every token of a registered page (its statements, the layout, the
  inserts bound to the reserves, the component programs with their slots filled) is a token the
  lexer produced for one of the files of the tree (C13: the lines a Template render reports are
  lines of tokens of the loaded files' sources).
-/
import TwProofs.Lemmas.ParseWalk
import TwProofs.Lemmas.LoadWhole

namespace Tw

def FileTok (fs : Fs) (t : Token) : Prop :=
  ∃ q src lr, readFile fs q = .ok src ∧ tokenize src = some lr ∧ t ∈ lr.toks

/-- the tokens of everything the loader attached to the page (in the order of `Ctx.lines`) -/
def Ctx.toks (c : Ctx) : List Token :=
  Stmt.toksO c.layout ++ (c.inserts.flatMap (fun p => p.2.toks) ++ c.comps.flatMap (fun p => Stmt.toksL p.2))

theorem InsertDef.lines_eq (i : InsertDef) : i.lines = i.toks.map Token.errorLine := by
  simp [InsertDef.lines, InsertDef.toks, optL_eq _ _ Expr.lines_eq i.arg, Stmt.linesO_eq i.block]

theorem Ctx.lines_eq (c : Ctx) : c.lines = c.toks.map Token.errorLine := by
  simp only [Ctx.lines, Ctx.toks, List.map_append, List.map_flatMap, Stmt.linesO_eq, InsertDef.lines_eq, Stmt.linesL_eq]

theorem parseFile_toks {fs : Fs} {p : Bytes} {base : Nat} {prog : Program} (h : parseFile fs p base = .ok prog) :
    ∀ t ∈ prog.toks, FileTok fs t := by
  obtain ⟨src, hr, hp⟩ := parseFile_ok_iff.mp h
  obtain ⟨lr, hlr, hall⟩ := parseSource_toks _ _ _ hp
  exact fun t ht => ⟨p, src, lr, hr, hlr, hall t ht⟩

theorem fillSlot_toks : ∀ (stmts : List Stmt) (name : Bytes) (body out : List Stmt), fillSlot stmts name body = some out →
    ∀ x ∈ Stmt.toksL out, x ∈ Stmt.toksL stmts ∨ x ∈ Stmt.toksL body := by
  intro stmts name body out h x hx
  obtain ⟨s, hs, hxs⟩ := (Stmt.mem_toksL x out).mp hx
  rcases fillSlot_mem h s hs with h1 | ⟨t, bd, h1, rfl⟩
  · exact Or.inl ((Stmt.mem_toksL x stmts).mpr ⟨s, h1, hxs⟩)
  · simp only [Stmt.toks, Stmt.toksO, List.mem_cons] at hxs
    rcases hxs with hxs | hxs
    · exact Or.inl ((Stmt.mem_toksL x stmts).mpr ⟨_, h1, by rw [hxs]; simp [Stmt.toks]⟩)
    · exact Or.inr hxs

theorem applyComponent_toks (use : CompUse) (comp : Program) (path : Bytes) (out : List Stmt)
    (h : applyComponent use comp path = .ok out) :
    ∀ x ∈ Stmt.toksL out, x ∈ Stmt.toksL comp.stmts ∨ x ∈ use.toks := by
  intro x hx
  obtain ⟨s, hs, hxs⟩ := (Stmt.mem_toksL x out).mp hx
  rcases applyComponent_mem h s hs with h1 | ⟨t, bd, sl, h1, hsl, rfl⟩
  · exact Or.inl ((Stmt.mem_toksL x _).mpr ⟨s, h1, hxs⟩)
  · simp only [Stmt.toks, Stmt.toksO, List.mem_cons] at hxs
    rcases hxs with hxs | hxs
    · exact Or.inl ((Stmt.mem_toksL x _).mpr ⟨_, h1, by rw [hxs]; simp [Stmt.toks]⟩)
    · exact Or.inr (CompUse.slot_toks hsl hxs)

theorem applyComponents_toks {fs : Fs} {c : Cfg} {uses : List CompUse} {path : Bytes} {out : List (Nat × List Stmt)}
    (hu : ∀ cu ∈ uses, ∀ x ∈ cu.toks, FileTok fs x) (h : applyComponents fs c uses path = .ok out) :
    ∀ kv ∈ out, ∀ x ∈ Stmt.toksL kv.2, FileTok fs x := by
  intro kv hkv x hx
  obtain ⟨u, hmem, _, hp⟩ := applyComponents_mem h kv hkv
  obtain ⟨comp, hpf, hac⟩ := programOf_eq_ok hp
  rcases applyComponent_toks u comp path _ hac x hx with h1 | h1
  · exact parseFile_toks hpf x (comp.stmts_toks h1)
  · exact hu u hmem x h1

/-- one page of C13 `loaded_tokens_are_tokens_of_the_files` (`newTemplate_toks` takes it to every page of a Template) -/
theorem loadPage_toks (fs : Fs) (c : Cfg) (p : Bytes) (pg : Page) (h : loadPage fs c p = .ok (some pg)) :
    ∀ t ∈ Stmt.toksL pg.stmts ++ pg.ctx.toks, FileTok fs t := by
  obtain ⟨prog, comps, hpf, hcomps, hpg⟩ := loadPage_eq_ok h
  have hw := parseFile_toks hpf
  have hcw := applyComponents_toks (fun cu hcu x hx => hw x (Program.comp_toks hcu hx)) hcomps
  have hcw' : ∀ x ∈ comps.flatMap (fun p => Stmt.toksL p.2), FileTok fs x := by
    intro x hx
    obtain ⟨kv, hkv, hxk⟩ := List.mem_flatMap.mp hx
    exact hcw kv hkv x hxk
  intro t ht
  rcases hpg with rfl | ⟨ut, lname, lprog, huse, hlp, rfl⟩
  · simp only [Ctx.toks, Stmt.toksO, List.flatMap_nil, List.nil_append, List.mem_append] at ht
    rcases ht with ht | ht
    · exact hw t (prog.stmts_toks ht)
    · exact hcw' t ht
  · simp only [Ctx.toks, Stmt.toksO, Stmt.toksL, Stmt.toks, List.mem_append, List.mem_cons, List.append_nil] at ht
    rcases ht with ht | ht | ht | ht
    · rcases ht with ht | ht
      · rw [ht]; exact hw _ (Program.use_tok huse)
      · cases ht
    · exact parseFile_toks hlp t (lprog.stmts_toks ht)
    · obtain ⟨y, hy, hty⟩ := List.mem_flatMap.mp ht
      obtain ⟨n, hn⟩ := boundInserts_mem hy
      exact hw t (Program.insert_toks hn hty)
    · exact hcw' t ht

theorem newTemplate_toks (w : World) (o : Option Opt) (t : Template) (h : (newTemplate w o).2 = .ok t) :
    ∀ x ∈ t, ∀ tk ∈ Stmt.toksL x.2.stmts ++ x.2.ctx.toks, FileTok (configure w o).fs tk :=
  newTemplate_forall w o t _ (fun _ _ hl => loadPage_toks _ _ _ _ hl) h

end Tw
