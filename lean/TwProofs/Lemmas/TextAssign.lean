/-
  TwProofs.Lemmas.TextAssign — assignments, from the source bytes to the parsed program: `{{ name = digits }}` (C04: an
  assignment keeps the type the variable already has) and `{{ name = a op b }}{{ name }}` (C01 / C04: the right-hand side
  is a complete expression).  An assignment leaves the cursor on the last token of its value, "}}" ahead (`StmtAt.assign_atom`,
  `.assign_arith`), where `ParsesAs` (Lemmas/CodeBlock) asks that one token is left in front of what follows the block.  So the
  two `parse_x_source` take their tokens from `parseSource_gitems` and turn the statement loop by hand (`loop_stmt`, `loop_skip`
  over "}}", `loop_eof`) at the fuel `parseFuel` gives, 4·keys + 20: `39 + 1` for the 5 keys of the first, `59 + 1` for the 7 + 3 of the second.
-/
import TwProofs.Lemmas.TextArith
import TwProofs.Lemmas.ScopeLex
namespace Tw
open Lx

/-- `{{ g1 n g2 = g3 d g4 }}` -/
def assignIntSrc (g1 n g2 g3 d g4 : Bytes) : Bytes := [123, 123] ++ g1 ++ n ++ g2 ++ [61] ++ g3 ++ d ++ g4 ++ [125, 125]

def assignIntKeys (n d : Bytes) : List (TT × Bytes) :=
  [(.LBRACES, [123, 123]), (.IDENT, n), (.ASSIGN, [61]), (.INT, d), (.RBRACES, [125, 125])]

def assignIntLexemes (g1 n g2 g3 d : Bytes) : List (Bytes × Lexeme) :=
  [(g1, .word n), (g2, .sym 61 .ASSIGN), (g3, .int d)]

def assignIntCode (g1 n g2 g3 d g4 : Bytes) : Code := { src := assignIntSrc g1 n g2 g3 d g4, keys := assignIntKeys n d }

theorem assignInt_block (g1 n g2 g3 d g4 : Bytes) (hg1 : allWs g1) (hg2 : allWs g2) (hg3 : allWs g3) (hg4 : allWs g4) (hn : isName n)
    (hd : isDigits d) (dir : Bool) : Block dir (assignIntCode g1 n g2 g3 d g4) (assignIntLexemes g1 n g2 g3 d) g4 where
  src tl := by simp [assignIntLexemes, assignIntCode, assignIntSrc, lexemesSrc, Lexeme.src]
  keys := by simp [assignIntLexemes, assignIntCode, blockKeys, Lexeme.key, assignIntKeys, hn.2.2]
  gap := hg4
  first _ _ h := by cases h
  lexemes _ := ⟨hg1, Lexeme.word_ok (isName_word hn) hg2 (fun _ => rfl),
    hg2, Lexeme.sym_ok (z := 0) (isSym_assign dir (by decide)) hg3 (fun _ => isSym_assign dir (digits_head_ne hd (by decide))),
    hg3, Lexeme.int_before hd hg4 rfl (by decide), trivial⟩

theorem parse_assign_int_source (g1 n g2 g3 d g4 : Bytes) (hg1 : allWs g1) (hg2 : allWs g2) (hg3 : allWs g3) (hg4 : allWs g4) (hn : isName n)
    (hd : isDigits d) (hb : digitsToNat d ≤ 9223372036854775807) :
    ∃ prog t2 t4, parseSource (assignIntSrc g1 n g2 g3 d g4) = .ok prog ∧
      prog.stmts = [.assign t2 n (.int t4 (Int64.ofNat (digitsToNat d)))] := by
  obtain ⟨toks, e, hk, he, hfuel, hfin⟩ := parseSource_gitems [.code (assignIntCode g1 n g2 g3 d g4)]
    ⟨(assignInt_block g1 n g2 g3 d g4 hg1 hg2 hg3 hg4 hn hd false).ok, trivial⟩ rfl (by simp [gkeys, assignIntCode, assignIntKeys]) 0
  obtain ⟨t1, _, rfl, ty1, _, hk⟩ := map_key_cons hk
  obtain ⟨t2, _, rfl, ty2, lit2, hk⟩ := map_key_cons hk
  obtain ⟨t3, _, rfl, ty3, _, hk⟩ := map_key_cons hk
  obtain ⟨t4, _, rfl, ty4, lit4, hk⟩ := map_key_cons hk
  obtain ⟨t5, _, rfl, ty5, _, hk⟩ := map_key_cons hk
  cases List.map_eq_nil_iff.mp hk
  have lit2 : t2.lit = n := lit2
  have lit4 : t4.lit = d := lit4
  have hce : NoIll [e] := .one (by rw [he]; decide)
  have hst := StmtAt.assign_atom ty1 ty2 ty3 (atomExpr_int ty4 (parseInt64_lit lit4 hd hb)) ty5 hce
  have hloop : parseProgramLoop (39 + 1) [] ({ toks := t1 :: t2 :: t3 :: t4 :: t5 :: [e] } : PS) =
      (some [.assign t2 t2.lit (.int t4 (Int64.ofNat (digitsToNat d)))], { toks := [e] }) := by
    rw [loop_stmt hst rfl (by simp [ty1]) rfl (by simp [ty4]) hce (show 3 ≤ 39 by omega),
      loop_skip rfl (.inr ty5) (List.cons_ne_nil _ _) hce (show 1 ≤ 38 by omega)]
    exact loop_eof 37 _ _ e [] rfl he
  have hp := hfin _ _ (by rw [hfuel]; exact hloop) rfl rfl
  rw [show gsrc [.code (assignIntCode g1 n g2 g3 d g4)] = assignIntSrc g1 n g2 g3 d g4 from by simp [gsrc, GItem.src, assignIntCode]] at hp
  exact ⟨_, t2, t4, hp, by rw [← lit2]⟩

/-- `{{ g1 n g2 = g3 a g4 c g5 b g6 }}` -/
def assignExprSrc (g1 n g2 g3 a g4 : Bytes) (c : Byte) (g5 b' g6 : Bytes) : Bytes :=
  [123, 123] ++ g1 ++ n ++ g2 ++ [61] ++ g3 ++ a ++ g4 ++ [c] ++ g5 ++ b' ++ g6 ++ [125, 125]

def assignExprKeys (n a : Bytes) (c : Byte) (ty : TT) (b' : Bytes) : List (TT × Bytes) :=
  [(.LBRACES, [123, 123]), (.IDENT, n), (.ASSIGN, [61]), (.INT, a), (ty, [c]), (.INT, b'), (.RBRACES, [125, 125])]

def assignExprLexemes (g1 n g2 g3 a g4 : Bytes) (c : Byte) (ty : TT) (g5 b' : Bytes) : List (Bytes × Lexeme) :=
  [(g1, .word n), (g2, .sym 61 .ASSIGN), (g3, .int a), (g4, .sym c ty), (g5, .int b')]

def assignExprCode (g1 n g2 g3 a g4 : Bytes) (c : Byte) (ty : TT) (g5 b' g6 : Bytes) : Code :=
  { src := assignExprSrc g1 n g2 g3 a g4 c g5 b' g6, keys := assignExprKeys n a c ty b' }

theorem assignExpr_block (g1 n g2 g3 a g4 : Bytes) (c : Byte) (ty : TT) (pr : Nat) (g5 b' g6 : Bytes) (hg1 : allWs g1) (hg2 : allWs g2)
    (hg3 : allWs g3) (hg4 : allWs g4) (hg5 : allWs g5) (hg6 : allWs g6) (hn : isName n) (ha : isDigits a) (hbd : isDigits b')
    (hop : ArithOp c ty pr) (dir : Bool) :
    Block dir (assignExprCode g1 n g2 g3 a g4 c ty g5 b' g6) (assignExprLexemes g1 n g2 g3 a g4 c ty g5 b') g6 where
  src tl := by simp [assignExprLexemes, assignExprCode, assignExprSrc, lexemesSrc, Lexeme.src]
  keys := by simp [assignExprLexemes, assignExprCode, blockKeys, Lexeme.key, assignExprKeys, hn.2.2]
  gap := hg6
  first _ _ h := by cases h
  lexemes tl :=
    have hc := hop.isSym (digits_head_ne (x := g6 ++ 125 :: 125 :: tl) hbd hop.not_digit) dir
    ⟨hg1, Lexeme.word_ok (isName_word hn) hg2 (fun _ => rfl),
     hg2, Lexeme.sym_ok (z := 0) (isSym_assign dir (by decide)) hg3 (fun _ => isSym_assign dir (digits_head_ne ha (by decide))),
     hg3, Lexeme.int_before ha hg4 hop.not_digit hop.ne_dot,
     hg4, Lexeme.sym_ok hc hg5 (fun _ => hc),
     hg5, Lexeme.int_before hbd hg6 rfl (by decide), trivial⟩

theorem StmtAt.assign_arith {t1 t2 t3 t4 t5 t6 t7 : Token} {tail : List Token} {va vb : Int64} {c : Byte} {ty : TT} {pr : Nat}
    (hop : ArithOp c ty pr) (h1 : t1.ty = .LBRACES) (h2 : t2.ty = .IDENT) (h3 : t3.ty = .ASSIGN) (h4 : t4.ty = .INT) (h5 : t5.ty = ty)
    (h6 : t6.ty = .INT) (h7 : t7.ty = .RBRACES) (hva : parseInt64 t4.lit = some va) (hvb : parseInt64 t6.lit = some vb)
    (hclean : NoIll tail) :
    StmtAt 5 (t1 :: t2 :: t3 :: t4 :: t5 :: t6 :: t7 :: tail) (.assign t2 t2.lit (.inf t5 t5.lit (.int t4 va) (.int t6 vb)))
      (t6 :: t7 :: tail) := by
  subst h5
  obtain rfl := hop.prec_eq
  have c6 : NoIll (t6 :: t7 :: tail) := .of_ty h6 (.of_ty h7 hclean)
  exact .assign h1 h2 h3 (by rw [h4]; decide) (.of_ty h4 (.cons hop.ne_illegal c6))
    (.atom (atomExpr_int h4 hva)
      (.op hop.isBinary hop.lowest_lt c6 (.one (atomExpr_int h6 hvb) (.rbraces h7)) (.stop (.rbraces h7))))

theorem parse_assignExpr_source (g1 n g2 g3 a g4 : Bytes) (c : Byte) (ty : TT) (pr : Nat) (g5 b' g6 h1 h2 : Bytes)
    (hg1 : allWs g1) (hg2 : allWs g2) (hg3 : allWs g3) (hg4 : allWs g4) (hg5 : allWs g5) (hg6 : allWs g6) (hh1 : allWs h1) (hh2 : allWs h2)
    (hn : isName n) (ha : isDigits a) (hbd : isDigits b') (hop : ArithOp c ty pr)
    (hba : digitsToNat a ≤ 9223372036854775807) (hbb : digitsToNat b' ≤ 9223372036854775807) :
    ∃ prog t2 t4 t5 t6 t9, parseSource (assignExprSrc g1 n g2 g3 a g4 c g5 b' g6 ++ ([123, 123] ++ h1 ++ n ++ h2 ++ [125, 125])) = .ok prog ∧
      prog.stmts = [.assign t2 n (.inf t5 [c] (.int t4 (Int64.ofNat (digitsToNat a))) (.int t6 (Int64.ofNat (digitsToNat b')))),
                    .expr t9 (.ident t9 n)] := by
  have f10 : ty ≠ .ILLEGAL ∧ ty ≠ .EOF := ⟨hop.ne_illegal, hop.ne_eof⟩
  obtain ⟨toks, e, hk, he, hfuel, hfin⟩ := parseSource_gitems [.code (assignExprCode g1 n g2 g3 a g4 c ty g5 b' g6), .code (printCode h1 n h2)]
    ⟨(assignExpr_block g1 n g2 g3 a g4 c ty pr g5 b' g6 hg1 hg2 hg3 hg4 hg5 hg6 hn ha hbd hop false).ok, printCode_ok h1 n h2 hh1 hh2 hn, trivial⟩
    rfl (by simp [gkeys, assignExprCode, assignExprKeys, printCode, f10]) 0
  obtain ⟨t1, _, rfl, ty1, _, hk⟩ := map_key_cons hk
  obtain ⟨t2, _, rfl, ty2, lit2, hk⟩ := map_key_cons hk
  obtain ⟨t3, _, rfl, ty3, _, hk⟩ := map_key_cons hk
  obtain ⟨t4, _, rfl, ty4, lit4, hk⟩ := map_key_cons hk
  obtain ⟨t5, _, rfl, ty5, lit5, hk⟩ := map_key_cons hk
  obtain ⟨t6, _, rfl, ty6, lit6, hk⟩ := map_key_cons hk
  obtain ⟨t7, _, rfl, ty7, _, hk⟩ := map_key_cons hk
  obtain ⟨t8, _, rfl, ty8, _, hk⟩ := map_key_cons hk
  obtain ⟨t9, _, rfl, ty9, lit9, hk⟩ := map_key_cons hk
  obtain ⟨t10, _, rfl, ty10, _, hk⟩ := map_key_cons hk
  cases List.map_eq_nil_iff.mp hk
  have lit2 : t2.lit = n := lit2
  have lit4 : t4.lit = a := lit4
  have lit5 : t5.lit = [c] := lit5
  have lit6 : t6.lit = b' := lit6
  have ty9 : t9.ty = .IDENT := ty9
  have lit9 : t9.lit = n := lit9
  have hce : NoIll [e] := .one (by rw [he]; decide)
  have c8 : NoIll [t8, t9, t10, e] := .of_ty ty8 (.of_ty ty9 (.of_ty ty10 hce))
  have hst := StmtAt.assign_arith hop ty1 ty2 ty3 ty4 ty5 ty6 ty7 (parseInt64_lit lit4 ha hba)
    (parseInt64_lit lit6 hbd hbb) c8
  have hprint : StmtAt _ [t8, t9, t10, e] (.expr t9 (.ident t9 t9.lit)) [t10, e] :=
    .expr ty8 (by rw [ty9]; decide) (fun _ => by rw [List.headD_cons, ty10]; decide) ty10 (c8.drop 2) hce
      (.one (atomExpr_ident ty9) (.rbraces ty10))
  have hloop : parseProgramLoop (59 + 1) [] ({ toks := t1 :: t2 :: t3 :: t4 :: t5 :: t6 :: t7 :: t8 :: t9 :: t10 :: [e] } : PS) =
      (some [.assign t2 t2.lit (.inf t5 t5.lit (.int t4 (Int64.ofNat (digitsToNat a))) (.int t6 (Int64.ofNat (digitsToNat b')))),
        .expr t9 (.ident t9 t9.lit)], { toks := [e] }) := by
    rw [loop_stmt hst rfl (by simp [ty1]) rfl (by simp [ty6]) c8 (show 5 ≤ 59 by omega),
      loop_skip rfl (.inr ty7) (List.cons_ne_nil _ _) c8 (show 1 ≤ 58 by omega),
      loop_stmt hprint rfl (by simp [ty8]) rfl (by simp [ty10]) .nil (show 3 ≤ 57 by omega)]
    exact loop_eof 56 _ _ e [] rfl he
  have hp := hfin _ _ (by rw [hfuel]; exact hloop) rfl rfl
  rw [show gsrc [.code (assignExprCode g1 n g2 g3 a g4 c ty g5 b' g6), .code (printCode h1 n h2)] =
      assignExprSrc g1 n g2 g3 a g4 c g5 b' g6 ++ ([123, 123] ++ h1 ++ n ++ h2 ++ [125, 125]) from by
    simp [gsrc, GItem.src, assignExprCode, printCode]] at hp
  exact ⟨_, t2, t4, t5, t6, t9, hp, by show [_, _] = _; rw [lit2, lit5, lit9]⟩

/-! Statements in their own right about the same shapes, each read off the shape's `x_block` or its rule (`StmtAt.assign_atom`,
    `.assign_arith`).  No from-source proof uses them. -/

theorem lex_assign_int (s : Lx) (g1 n g2 g3 d g4 tl : Bytes) (hh : s.isHTML = true) (hb : s.braces = 0)
    (hg1 : allWs g1) (hg2 : allWs g2) (hg3 : allWs g3) (hg4 : allWs g4) (hn : isName n) (hd : isDigits d)
    (hr : s.rest = assignIntSrc g1 n g2 g3 d g4 ++ tl) :
    ∃ toks s5, Run s toks s5 ∧ toks.map key = assignIntKeys n d ∧ s5.rest = tl ∧ s5.prev = 125 ∧
      mode s5 = (true, s.isDirective, s.parens, 0, s.panicked) :=
  (assignInt_block g1 n g2 g3 d g4 hg1 hg2 hg3 hg4 hn hd _).lex rfl hh hb hr

theorem parse_assign_int_stmt (g : Nat) (t1 t2 t3 t4 t5 : Token) (tail : List Token) (v : Int64) (h1 : t1.ty = .LBRACES) (h2 : t2.ty = .IDENT)
    (h3 : t3.ty = .ASSIGN) (h4 : t4.ty = .INT) (h5 : t5.ty = .RBRACES) (hv : parseInt64 t4.lit = some v) (hclean : ∀ x ∈ tail, x.ty ≠ .ILLEGAL) :
    parseStatement (g + 3) ({ toks := t1 :: t2 :: t3 :: t4 :: t5 :: tail } : PS) =
      (.assign t2 t2.lit (.int t4 v), { toks := t4 :: t5 :: tail }) :=
  (StmtAt.assign_atom h1 h2 h3 (atomExpr_int h4 hv) h5 hclean).on (by omega) rfl

theorem lex_assignExpr (s : Lx) (g1 n g2 g3 a g4 : Bytes) (c : Byte) (ty : TT) (pr : Nat) (g5 b' g6 tl : Bytes) (hh : s.isHTML = true)
    (hb : s.braces = 0) (hg1 : allWs g1) (hg2 : allWs g2) (hg3 : allWs g3) (hg4 : allWs g4) (hg5 : allWs g5) (hg6 : allWs g6)
    (hn : isName n) (ha : isDigits a) (hbd : isDigits b') (hop : ArithOp c ty pr)
    (hr : s.rest = assignExprSrc g1 n g2 g3 a g4 c g5 b' g6 ++ tl) :
    ∃ toks s7, Run s toks s7 ∧ toks.map key = assignExprKeys n a c ty b' ∧ s7.rest = tl ∧ s7.prev = 125 ∧
      mode s7 = (true, s.isDirective, s.parens, 0, s.panicked) :=
  (assignExpr_block g1 n g2 g3 a g4 c ty pr g5 b' g6 hg1 hg2 hg3 hg4 hg5 hg6 hn ha hbd hop _).lex rfl hh hb hr

theorem parse_assignExpr_stmt (g : Nat) (t1 t2 t3 t4 t5 t6 t7 : Token) (tail : List Token) (va vb : Int64) (c : Byte) (ty : TT) (pr : Nat)
    (hop : ArithOp c ty pr) (h1 : t1.ty = .LBRACES) (h2 : t2.ty = .IDENT) (h3 : t3.ty = .ASSIGN) (h4 : t4.ty = .INT) (h5 : t5.ty = ty)
    (h6 : t6.ty = .INT) (h7 : t7.ty = .RBRACES) (hva : parseInt64 t4.lit = some va) (hvb : parseInt64 t6.lit = some vb)
    (hclean : ∀ x ∈ tail, x.ty ≠ .ILLEGAL) :
    parseStatement (g + 5) ({ toks := t1 :: t2 :: t3 :: t4 :: t5 :: t6 :: t7 :: tail } : PS) =
      (.assign t2 t2.lit (.inf t5 t5.lit (.int t4 va) (.int t6 vb)), { toks := t6 :: t7 :: tail }) :=
  (StmtAt.assign_arith hop h1 h2 h3 h4 h5 h6 h7 hva hvb hclean).on (by omega) rfl

end Tw
