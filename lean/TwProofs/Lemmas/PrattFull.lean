/-
  TwProofs.Lemmas.PrattFull — the Pratt round trip for the whole expression language of the model (C01).
  Parentheses depend on two quantities: `lastLevel`, the level of the loop still open at the right end of an
  expression (an operator that follows binds into it when its precedence is higher), and `spine`, the lowest operator
  on the left spine (the loop of the surrounding position has to consume every one of them); so `-a.b` and
  `a[0].b.c(1)[2]++` stand bare and `(-a)[0]`, `(a + b).c`, `-(a.b)` do not.  The ideas in order: the relation
  "`ts` is a printing of `e`" (`Full.Bare`, `At`, `Lft`, `Lst`, `Prs`: the parentheses the grammar needs and any
  redundant pair anywhere); every printing parses back to `e` (`Bare.parses` … by induction over the derivation,
  `At.parse`); the printer `Full.showAt` prints printings (`bare_body`), as does the printer of the fragment `BE`
  (PrattFragment); hence the round trip `Full.parse_print`.
-/
import TwProofs.Lemmas.PrattRoundTrip

namespace Tw

mutual
inductive FE where
  | atom (t : Token)
  | pre (op : Token) (r : FE)
  | bin (op : Token) (l r : FE)
  | tern (q c : Token) (cnd a b : FE)
  | post (op : Token) (l : FE)
  | index (lb : Token) (l i : FE)
  | dot (d name : Token) (l : FE)
  | call (d name : Token) (l : FE) (args : FEs)
  | arr (lb : Token) (els : FEs)
  | obj (lbr : Token) (ps : FPs)
inductive FEs where
  | nil
  | cons (e : FE) (rest : FEs)
inductive FPs where
  | nil
  | cons (key colon : Token) (v : FE) (rest : FPs)
end

mutual
def FE.ok : FE → Prop
  | .atom t => (atomExpr t).isSome = true
  | .pre op r => (op.ty = .SUB ∨ op.ty = .NOT) ∧ r.ok
  | .bin op l r => isBinaryOp op.ty = true ∧ l.ok ∧ r.ok
  | .tern q c cnd a b => q.ty = .QUESTION ∧ c.ty = .COLON ∧ cnd.ok ∧ a.ok ∧ b.ok
  | .post op l => (op.ty = .INC ∨ op.ty = .DEC) ∧ l.ok
  | .index lb l i => lb.ty = .LBRACKET ∧ l.ok ∧ i.ok
  | .dot d name l => d.ty = .DOT ∧ name.ty = .IDENT ∧ l.ok
  | .call d name l args => d.ty = .DOT ∧ name.ty = .IDENT ∧ l.ok ∧ args.ok
  | .arr lb els => lb.ty = .LBRACKET ∧ els.ok
  | .obj lbr ps => lbr.ty = .LBRACE ∧ ps.ok
def FEs.ok : FEs → Prop
  | .nil => True
  | .cons e r => e.ok ∧ r.ok
def FPs.ok : FPs → Prop
  | .nil => True
  | .cons key colon v r => (key.ty = .IDENT ∨ key.ty = .STR) ∧ colon.ty = .COLON ∧ v.ok ∧ r.ok
end

mutual
def FE.toExpr : FE → Expr
  | .atom t => (atomExpr t).getD .bad
  | .pre op r => .pre op op.lit r.toExpr
  | .bin op l r => .inf op op.lit l.toExpr r.toExpr
  | .tern q _ cnd a b => .tern q cnd.toExpr a.toExpr b.toExpr
  | .post op l => .post op op.lit l.toExpr
  | .index lb l i => .index lb l.toExpr i.toExpr
  | .dot d name l => .dot d l.toExpr name.lit
  | .call _ name l args => .call name l.toExpr name.lit args.toExprs
  | .arr lb els => .arr lb els.toExprs
  | .obj lbr ps => .obj lbr (ps.toPairs [])
def FEs.toExprs : FEs → List Expr
  | .nil => []
  | .cons e r => e.toExpr :: r.toExprs
/-- the pairs in the order the parser's table holds them (a repeated key keeps its first place and takes the last value) -/
def FPs.toPairs : FPs → List (Bytes × Expr) → List (Bytes × Expr)
  | .nil, acc => acc
  | .cons key _ v r, acc => r.toPairs (mapSet acc key.lit v.toExpr)
end

/-- any number above `POSTFIX` = 11, the highest precedence, would do.  As a `lastLevel`: no loop is open at the right end;
    as a spine (`spine`, the `sp` of `Bare`, `Lft`): no operator lies on it (the form starts with a prefix construct or stands in parentheses) -/
def CLOSED : Nat := 100

def FE.lastLevel : FE → Nat
  | .pre _ _ => PREFIX
  | .bin op _ _ => opPrec op
  | .tern _ _ _ _ _ => LOWEST
  | .atom _ => CLOSED
  | .post _ _ => CLOSED
  | .index _ _ _ => CLOSED
  | .dot _ _ _ => CLOSED
  | .call _ _ _ _ => CLOSED
  | .arr _ _ => CLOSED
  | .obj _ _ => CLOSED

namespace Full

structure Delims where
  lp : Token
  rp : Token
  rbk : Token
  rbr : Token
  cm : Token

structure Delims.Ok (d : Delims) : Prop where
  lp : d.lp.ty = .LPAREN
  rp : d.rp.ty = .RPAREN
  rbk : d.rbk.ty = .RBRACKET
  rbr : d.rbr.ty = .RBRACE
  cm : d.cm.ty = .COMMA

variable (d : Delims)

mutual
/-- `ts` is a printing of the well-formed tree `e` without outer parentheses; `sp` is the lowest operator on its left
    spine (`CLOSED` when it starts with a prefix construct): a loop at level `m` consumes the whole of it iff `m < sp` -/
inductive Bare : FE → Nat → List Token → Prop
  | atom {t : Token} : (atomExpr t).isSome = true → Bare (.atom t) CLOSED [t]
  | pre {op : Token} {r : FE} {tr : List Token} : (op.ty = .SUB ∨ op.ty = .NOT) → At (PREFIX + 1) r tr → Bare (.pre op r) CLOSED (op :: tr)
  | bin {op : Token} {l r : FE} {sl : Nat} {tl tr : List Token} : isBinaryOp op.ty = true →
    Lft (opPrec op) l sl tl → At (opPrec op + 1) r tr → Bare (.bin op l r) (min (opPrec op) sl) (tl ++ op :: tr)
  | tern {q c : Token} {cnd a b : FE} {sl : Nat} {tl ta tb : List Token} : q.ty = .QUESTION → c.ty = .COLON →
    Lft TERNARY cnd sl tl → At (TERNARY + 1) a ta → At (LOWEST + 1) b tb →
    Bare (.tern q c cnd a b) (min TERNARY sl) (tl ++ q :: (ta ++ c :: tb))
  | post {op : Token} {l : FE} {sl : Nat} {tl : List Token} : (op.ty = .INC ∨ op.ty = .DEC) →
    Lft POSTFIX l sl tl → Bare (.post op l) (min POSTFIX sl) (tl ++ [op])
  | index {lb : Token} {l i : FE} {sl : Nat} {tl ti : List Token} : lb.ty = .LBRACKET →
    Lft INDEX l sl tl → At (LOWEST + 1) i ti → Bare (.index lb l i) (min INDEX sl) (tl ++ lb :: (ti ++ [d.rbk]))
  | dot {dt name : Token} {l : FE} {sl : Nat} {tl : List Token} : dt.ty = .DOT → name.ty = .IDENT →
    Lft MEMBER_ACCESS l sl tl → Bare (.dot dt name l) (min MEMBER_ACCESS sl) (tl ++ [dt, name])
  | call {dt name : Token} {l : FE} {args : FEs} {sl : Nat} {tl ta : List Token} : dt.ty = .DOT → name.ty = .IDENT →
    Lft MEMBER_ACCESS l sl tl → Lst true args ta →
    Bare (.call dt name l args) (min MEMBER_ACCESS sl) (tl ++ dt :: name :: d.lp :: (ta ++ [d.rp]))
  | arr {lb : Token} {els : FEs} {te : List Token} : lb.ty = .LBRACKET → Lst true els te → Bare (.arr lb els) CLOSED (lb :: (te ++ [d.rbk]))
  | obj {lbr : Token} {ps : FPs} {tp : List Token} : lbr.ty = .LBRACE → Prs true ps tp → Bare (.obj lbr ps) CLOSED (lbr :: (tp ++ [d.rbr]))
/-- a printing of `e` where `parseExpression (m - 1)` is called: bare if the loop of that call consumes the whole
    left spine, or in parentheses -/
inductive At : Nat → FE → List Token → Prop
  | bare {m : Nat} {e : FE} {sp : Nat} {ts : List Token} : Bare e sp ts → m ≤ sp → At m e ts
  | paren {m : Nat} {e : FE} {sp : Nat} {ts : List Token} : Bare e sp ts → At m e (d.lp :: (ts ++ [d.rp]))
/-- a printing of a left operand in front of an operator of precedence `pn`: bare if the loop still open at its right
    end stops at the operator, or in parentheses; `sp` is what it adds to the left spine -/
inductive Lft : Nat → FE → Nat → List Token → Prop
  | bare {pn : Nat} {l : FE} {sp : Nat} {ts : List Token} : Bare l sp ts → pn ≤ l.lastLevel → Lft pn l sp ts
  | paren {pn : Nat} {l : FE} {sp : Nat} {ts : List Token} : Bare l sp ts → Lft pn l CLOSED (d.lp :: (ts ++ [d.rp]))
/-- `first`: no comma stands in front of the first element (`true` for a whole list, `false` for the elements after one); likewise in `Prs` -/
inductive Lst : Bool → FEs → List Token → Prop
  | nil {first : Bool} : Lst first .nil []
  | cons {first : Bool} {e : FE} {r : FEs} {te tr : List Token} : At (LOWEST + 1) e te → Lst false r tr →
    Lst first (.cons e r) ((if first then [] else [d.cm]) ++ te ++ tr)
inductive Prs : Bool → FPs → List Token → Prop
  | nil {first : Bool} : Prs first .nil []
  | cons {first : Bool} {key colon : Token} {v : FE} {r : FPs} {tv tr : List Token} : (key.ty = .IDENT ∨ key.ty = .STR) →
    colon.ty = .COLON → At (LOWEST + 1) v tv → Prs false r tr →
    Prs first (.cons key colon v r) ((if first then [] else [d.cm]) ++ key :: colon :: (tv ++ tr))
end

variable {d}

theorem Bare.ne_nil {e : FE} {sp : Nat} {ts : List Token} (h : Bare d e sp ts) : ts ≠ [] := by cases h <;> simp

theorem At.ne_nil {m : Nat} {e : FE} {ts : List Token} (h : At d m e ts) : ts ≠ [] := by
  cases h with
  | bare hB _ => exact hB.ne_nil
  | paren _ => simp

/-- `hp` serves `.pre` alone, whose spine is `CLOSED` and whose open loop runs at `PREFIX` -/
theorem Bare.le_lastLevel {e : FE} {sp : Nat} {ts : List Token} (h : Bare d e sp ts) {prec : Nat} (hs : prec + 1 ≤ sp)
    (hp : prec ≤ PREFIX) : prec ≤ e.lastLevel := by
  unfold PREFIX at hp
  cases h <;> simp only [FE.lastLevel, CLOSED, PREFIX, LOWEST, TERNARY] at hs ⊢ <;> omega

mutual
theorem Bare.lowest_lt : ∀ {e sp ts}, Bare d e sp ts → LOWEST + 1 ≤ sp
  | _, _, _, .atom _ => by decide
  | _, _, _, .pre _ _ => by decide
  | _, _, _, .arr _ _ => by decide
  | _, _, _, .obj _ _ => by decide
  | _, _, _, .bin hop hL _ => Nat.le_min.2 ⟨Nat.le_trans (by decide) (binop_prec hop).1, hL.lowest_lt⟩
  | _, _, _, .tern _ _ hL _ _ => Nat.le_min.2 ⟨by decide, hL.lowest_lt⟩
  | _, _, _, .post _ hL => Nat.le_min.2 ⟨by decide, hL.lowest_lt⟩
  | _, _, _, .index _ hL _ => Nat.le_min.2 ⟨by decide, hL.lowest_lt⟩
  | _, _, _, .dot _ _ hL => Nat.le_min.2 ⟨by decide, hL.lowest_lt⟩
  | _, _, _, .call _ _ hL _ => Nat.le_min.2 ⟨by decide, hL.lowest_lt⟩
theorem Lft.lowest_lt : ∀ {pn l sl ts}, Lft d pn l sl ts → LOWEST + 1 ≤ sl
  | _, _, _, _, .bare hB _ => hB.lowest_lt
  | _, _, _, _, .paren _ => by decide
end

section
variable (hD : d.Ok)
include hD

theorem noIll_paren {ts : List Token} (h : NoIll ts) : NoIll (d.lp :: (ts ++ [d.rp])) :=
  .of_ty hD.lp (h.append (.of_ty hD.rp .nil))

theorem noIll_sep (first : Bool) : NoIll (if first then [] else [d.cm]) := by
  cases first
  · exact .of_ty hD.cm .nil
  · exact .nil

mutual
theorem Bare.noIll : ∀ {e sp ts}, Bare d e sp ts → NoIll ts
  | _, _, _, .atom (t := t) hok => .one fun h => by rw [atomExpr, h] at hok; cases hok
  | _, _, _, .pre hop hR => .of_or hop hR.noIll
  | _, _, _, .bin hop hL hR => hL.noIll.append (.cons (binop_not_ill hop) hR.noIll)
  | _, _, _, .tern hq hc hL hA hB =>
    hL.noIll.append (.of_ty hq (hA.noIll.append (.of_ty hc hB.noIll)))
  | _, _, _, .post hop hL => hL.noIll.append (.of_or hop .nil)
  | _, _, _, .index hlb hL hI => hL.noIll.append (.of_ty hlb (hI.noIll.append (.of_ty hD.rbk .nil)))
  | _, _, _, .dot hd hname hL => hL.noIll.append (.of_ty hd (.of_ty hname .nil))
  | _, _, _, .call hd hname hL hA =>
    hL.noIll.append (.of_ty hd (.of_ty hname (noIll_paren hD hA.noIll)))
  | _, _, _, .arr hlb hE => .of_ty hlb (hE.noIll.append (.of_ty hD.rbk .nil))
  | _, _, _, .obj hlbr hP => .of_ty hlbr (hP.noIll.append (.of_ty hD.rbr .nil))
theorem At.noIll : ∀ {m e ts}, At d m e ts → NoIll ts
  | _, _, _, .bare hB _ => hB.noIll
  | _, _, _, .paren hB => noIll_paren hD hB.noIll
theorem Lft.noIll : ∀ {pn l sl ts}, Lft d pn l sl ts → NoIll ts
  | _, _, _, _, .bare hB _ => hB.noIll
  | _, _, _, _, .paren hB => noIll_paren hD hB.noIll
theorem Lst.noIll : ∀ {first es ts}, Lst d first es ts → NoIll ts
  | _, _, _, .nil => .nil
  | first, _, _, .cons hE hR => ((noIll_sep hD first).append hE.noIll).append hR.noIll
theorem Prs.noIll : ∀ {first ps ts}, Prs d first ps ts → NoIll ts
  | _, _, _, .nil => .nil
  | first, _, _, .cons hkey hcolon hV hR =>
    (noIll_sep hD first).append (.of_or hkey (.of_ty hcolon (hV.noIll.append hR.noIll)))
end

end

/-- the bare printing `ts` of `e`, with left spine `sp`, followed by a continuation at which its open loop stops: two units of
    fuel for every token, on top of what the rest of the loop needs.  `NoLP k` is asked besides: the `lastLevel` of `l.name`
    is `CLOSED`, where `StopR` admits "(", and "(" there would make the infix function of "." parse a call (`LoopsAt.dot`) -/
def PFor (e : FE) (sp : Nat) (ts : List Token) : Prop :=
  ∀ prec k ex ts' N, prec + 1 ≤ sp → StopR e.lastLevel k → NoLP k → NoIll k →
    LoopsAt N prec e.toExpr (lastTok ts :: k) ex ts' → ParsesAt (N + 2 * ts.length) prec (ts ++ k) ex ts'

theorem PFor.bare_left {l : FE} {sp : Nat} {ts : List Token} (hP : PFor l sp ts) {pn prec : Nat} (hll : pn ≤ l.lastLevel)
    {t0 : Token} {T : List Token} (hp : precedence t0.ty ≤ pn) (hnlp : t0.ty ≠ .LPAREN) (hTI : NoIll (t0 :: T))
    (hsp : prec + 1 ≤ sp) {ex : Expr} {ts' : List Token} {N : Nat} (hloop : LoopsAt N prec l.toExpr (lastTok ts :: t0 :: T) ex ts') :
    ParsesAt (N + 2 * ts.length) prec (ts ++ t0 :: T) ex ts' :=
  hP prec (t0 :: T) _ _ N hsp (.le (by omega)) (.of_ty rfl hnlp) hTI hloop

section
variable (hD : d.Ok)
include hD

theorem PFor.paren {e : FE} {sp : Nat} {ts : List Token} (hP : PFor e sp ts) (hB : Bare d e sp ts) {prec : Nat}
    {k : List Token} (hk : NoIll k) {ex : Expr} {ts' : List Token} {N : Nat} (hloop : LoopsAt N prec e.toExpr (d.rp :: k) ex ts') :
    ParsesAt (N + 2 * (d.lp :: (ts ++ [d.rp])).length) prec (d.lp :: (ts ++ [d.rp]) ++ k) ex ts' := by
  have hrk : NoIll (d.rp :: k) := .of_ty hD.rp hk
  have hin := hP LOWEST (d.rp :: k) _ _ 1 hB.lowest_lt (.rparen hD.rp) (.of_ty hD.rp) hrk (.stop (.rparen hD.rp))
  simp only [List.append_assoc, List.cons_append, List.nil_append]
  exact (ParsesAt.paren hD.lp hD.rp ((hB.noIll hD).append hrk).tail' hk hin hloop).mono
    (by simp only [List.length_append, List.length_cons, List.length_nil]; omega)

theorem Lst.stopR {r : FEs} {tr : List Token} (h : Lst d false r tr) {endT : Token} (k : List Token)
    (hend : endT.ty = .RPAREN ∨ endT.ty = .RBRACKET) : StopR LOWEST (tr ++ endT :: k) := by
  cases h with
  | nil =>
    rcases hend with h | h
    · exact .rparen h
    · exact .le (by rw [h]; decide)
  | cons _ _ => exact .le (by rw [hD.cm]; decide)

mutual
theorem Bare.parses : ∀ {e sp ts}, Bare d e sp ts → PFor e sp ts
  | _, _, _, .atom hok => by
    intro prec k ex ts' N _ _ _ _ hl
    obtain ⟨a, ha⟩ := Option.isSome_iff_exists.mp hok
    rw [FE.toExpr, ha] at hl
    exact (ParsesAt.atom ha hl).mono (by simp only [List.length_cons, List.length_nil]; omega)
  | _, _, _, .pre hop hR => by
    intro prec k ex ts' N _ hst _ hk hl
    rw [lastTok_cons _ _ hR.ne_nil, FE.toExpr] at hl
    exact (ParsesAt.pre hop ((hR.noIll hD).append hk).tail' (hR.parses rfl (Nat.le_refl _) hst hk) hl).mono
      (by simp only [List.length_cons]; omega)
  | _, _, _, .bin (op := op) hop hL hR => by
    intro prec k ex ts' N hs hst _ hk hl
    have hrI := (hR.noIll hD).append hk
    have hR' := hR.parses (prec := opPrec op) rfl (by have := (binop_prec hop).2; unfold PREFIX; omega) hst hk
    rw [lastTok_append_cons _ _ hR.ne_nil, FE.toExpr] at hl
    simp only [List.append_assoc, List.cons_append]
    exact (hL.parses (Nat.le_refl _) (fun h => by rw [h] at hop; cases hop) (.cons (binop_not_ill hop) hrI) (by omega)
      fun x => LoopsAt.op hop (by unfold opPrec at hs; omega) hrI hR' hl).mono
      (by simp only [List.length_append, List.length_cons]; omega)
  | _, _, _, .tern (c := c) hq hc hL hA hB => by
    intro prec k ex ts' N hs hst _ hk hl
    have hBI := (hB.noIll hD).append hk
    have hcI : NoIll (c :: _) := .of_ty hc hBI
    have hAI := (hA.noIll hD).append hcI
    rw [lastTok_append_cons _ _ (by simp), lastTok_append_cons _ _ hB.ne_nil, FE.toExpr] at hl
    simp only [List.append_assoc, List.cons_append]
    exact (hL.parses (by rw [hq]; decide) (by rw [hq]; decide) (.of_ty hq hAI) (by omega)
      fun y => LoopsAt.tern hq hc (by omega) hAI hBI
        (hA.parses rfl (by decide) (.le (by rw [hc]; decide)) hcI) (hB.parses rfl (by decide) hst hk) hl).mono
      (by simp only [List.length_append, List.length_cons]; omega)
  | _, _, _, .post hop hL => by
    intro prec k ex ts' N hs _ _ hk hl
    rw [lastTok_append_singleton, FE.toExpr] at hl
    simp only [List.append_assoc, List.singleton_append]
    exact (hL.parses (pn := POSTFIX) (by rcases hop with h | h <;> rw [h] <;> decide) (by rcases hop with h | h <;> rw [h] <;> decide)
      (.of_or hop hk) (by omega) fun x => LoopsAt.post hop (by omega) hk hl).mono
      (by simp only [List.length_append, List.length_cons, List.length_nil]; omega)
  | _, _, _, .index hlb hL hI => by
    intro prec k ex ts' N hs _ _ hk hl
    have hrk : NoIll (d.rbk :: k) := .of_ty hD.rbk hk
    have hII := (hI.noIll hD).append hrk
    rw [lastTok_append_cons _ _ (by simp), lastTok_append_singleton, FE.toExpr] at hl
    simp only [List.append_assoc, List.cons_append]
    exact (hL.parses (by rw [hlb]; decide) (by rw [hlb]; decide) (.of_ty hlb hII) (by omega)
      fun y => LoopsAt.index hlb hD.rbk (by omega) hII hk
        (hI.parses rfl (by decide) (.le (by rw [hD.rbk]; decide)) hrk) hl).mono
      (by simp only [List.length_append, List.length_cons, List.length_nil]; omega)
  | _, _, _, .dot hd hname hL => by
    intro prec k ex ts' N hs _ hnlp hk hl
    rw [lastTok_append_cons _ _ (by simp), FE.toExpr] at hl
    simp only [List.append_assoc, List.cons_append, List.nil_append]
    exact (hL.parses (by rw [hd]; decide) (by rw [hd]; decide) (.of_ty hd (.of_ty hname hk)) (by omega)
      fun y => LoopsAt.dot hd hname (by omega) hk hnlp hl).mono
      (by simp only [List.length_append, List.length_cons, List.length_nil]; omega)
  | _, _, _, .call hd hname hL hA => by
    intro prec k ex ts' N hs _ _ hk hl
    have hargs := hA.parses.2 rfl d.rp d.lp k (.inl hD.rp) hk
    rw [hD.rp] at hargs
    have hAI := (hA.noIll hD).append (.of_ty hD.rp hk)
    rw [lastTok_append_cons _ _ (by simp), lastTok_cons _ _ (by simp), lastTok_cons_append_singleton, FE.toExpr] at hl
    simp only [List.append_assoc, List.cons_append, List.nil_append]
    exact (hL.parses (by rw [hd]; decide) (by rw [hd]; decide)
      (.of_ty hd (.of_ty hname (.of_ty hD.lp hAI))) (by omega)
      fun y => LoopsAt.call hd hname hD.lp (by omega) hAI hargs hl).mono
      (by simp only [List.length_append, List.length_cons, List.length_nil]; omega)
  | _, _, _, .arr (lb := lb) hlb hE => by
    intro prec k ex ts' N _ _ _ hk hl
    have hels := hE.parses.2 rfl d.rbk lb k (.inr hD.rbk) hk
    rw [hD.rbk] at hels
    rw [lastTok_cons_append_singleton, FE.toExpr] at hl
    simp only [List.append_assoc, List.cons_append, List.nil_append]
    exact (ParsesAt.arr hlb hels hl).mono (by simp only [List.length_append, List.length_cons, List.length_nil]; omega)
  | _, _, _, .obj hlbr hP => by
    intro prec k ex ts' N _ _ _ hk hl
    rw [lastTok_cons_append_singleton, FE.toExpr] at hl
    simp only [List.append_assoc, List.cons_append, List.nil_append]
    exact (hP.parses.2 rfl _ k prec ex ts' N hlbr hk hl).mono (by simp only [List.length_append, List.length_cons, List.length_nil]; omega)
/-- `prec ≤ PREFIX` holds of every level `parseExpression` is called with (Facts `parseExpressionCalls_ok`: `LOWEST`, `TERNARY`, a binary
    operator's own, `PREFIX`); from it come `NoLP k` (`StopR.noLP`) and, for `e` a prefix expression, `StopR e.lastLevel k` (`Bare.le_lastLevel`).
    (`m = prec + 1` as an equation: the indices of the derivation recursed on have to be variables) -/
theorem At.parses : ∀ {m e ts}, At d m e ts → ∀ {prec k}, m = prec + 1 → prec ≤ PREFIX → StopR prec k → NoIll k →
    ParsesAt (1 + 2 * ts.length) prec (ts ++ k) e.toExpr (lastTok ts :: k)
  | _, _, _, .bare hB hsp, prec, k, hm, hple, hs, hk =>
    hB.parses prec k _ _ 1 (hm ▸ hsp) (hs.mono (hB.le_lastLevel (hm ▸ hsp) hple)) (hs.noLP hple) hk (.stop hs)
  | _, _, _, .paren hB, _, _, _, _, hs, hk => by
    rw [lastTok_cons_append_singleton]
    exact hB.parses.paren hD hB hk (.stop hs)
/-- The loop is asked for every token `x` under the cursor (it reads the one ahead only): bare, the operand leaves its last token
    there, in parentheses `d.rp` -/
theorem Lft.parses : ∀ {pn l sl tl}, Lft d pn l sl tl → ∀ {t0 T prec}, precedence t0.ty ≤ pn → t0.ty ≠ .LPAREN → NoIll (t0 :: T) →
    prec + 1 ≤ sl → ∀ {ex ts' N}, (∀ x, LoopsAt N prec l.toExpr (x :: t0 :: T) ex ts') →
      ParsesAt (N + 2 * tl.length) prec (tl ++ t0 :: T) ex ts'
  | _, _, _, _, .bare hB hll, _, _, _, hp, hnlp, hTI, hsp, _, _, _, hloop => hB.parses.bare_left hll hp hnlp hTI hsp (hloop _)
  | _, _, _, _, .paren hB, _, _, _, _, _, hTI, _, _, _, _, hloop => hB.parses.paren hD hB hTI (hloop d.rp)
/-- the pairs of an object literal from the first key on, into the table `acc`; the whole literal as a prefix form -/
theorem Prs.parses : ∀ {first ps ts}, Prs d first ps ts →
    (ps ≠ .nil → ∀ (t : Token) (acc : List (Bytes × Expr)) (k : List Token), NoIll k →
      ObjAt (2 * ts.length) t acc (ts.drop (if first then 0 else 1) ++ d.rbr :: k) (.obj t (ps.toPairs acc)) (d.rbr :: k)) ∧
    (first = true → ∀ (t : Token) (k : List Token) (prec : Nat) (ex : Expr) (ts' : List Token) (N : Nat), t.ty = .LBRACE → NoIll k →
      LoopsAt N prec (.obj t (ps.toPairs [])) (d.rbr :: k) ex ts' → ParsesAt (N + 2 * ts.length + 1) prec (t :: (ts ++ d.rbr :: k)) ex ts')
  | _, _, _, .nil => ⟨fun hne => absurd rfl hne, fun _ t k prec ex ts' N ht hk hl => (ParsesAt.obj_empty ht hD.rbr hk hl).mono (by simp)⟩
  | first, _, _, .cons (key := key) (colon := colon) (v := v) (r := r) (tv := tv) (tr := tr) hkey hcolon hV hR => by
    have hVI := hV.noIll hD
    -- taken before `cases r` replaces `hR`: the recursion has to be on `hR` itself
    have ih := hR.parses.1
    have hO : ∀ (t : Token) (acc : List (Bytes × Expr)) (k : List Token), NoIll k →
        ObjAt (2 * (tv.length + tr.length) + 2) t acc (key :: colon :: (tv ++ (tr ++ d.rbr :: k)))
          (.obj t ((FPs.cons key colon v r).toPairs acc)) (d.rbr :: k) := by
      intro t acc k hk
      have hrk : NoIll (d.rbr :: k) := .of_ty hD.rbr hk
      have hRI := (hR.noIll hD).append hrk
      rw [FPs.toPairs]
      cases r with
      | nil =>
        cases hR
        exact (ObjAt.last hkey hcolon hD.rbr (hVI.append hrk) hk
          (hV.parses rfl (by decide) (.le (by rw [hD.rbr]; decide)) hrk)).mono (by simp; omega)
      | cons key2 colon2 v2 r2 =>
        have hrest := ih (fun h => nomatch h) t (mapSet acc key.lit v.toExpr) k hk
        cases hR
        simp only [Bool.false_eq_true, if_false, List.cons_append, List.nil_append, List.drop_succ_cons, List.drop_zero] at hrest hRI ⊢
        exact (ObjAt.more hkey hcolon hD.cm (hVI.append hRI) hRI.tail (by simp)
          (hV.parses rfl (by decide) (.le (by rw [hD.cm]; decide)) hRI) hrest).mono
          (by simp only [List.length_append, List.length_cons]; omega)
    refine ⟨fun _ t acc k hk => ?_, fun hf t k prec ex ts' N ht hk hl => ?_⟩
    · refine ObjAt.mono (N := 2 * (tv.length + tr.length) + 2) ?_ (by cases first <;> simp [List.length_append] <;> omega)
      cases first <;> simpa using hO t acc k hk
    · subst hf
      have hI := (hVI.append (hR.noIll hD)).append (.of_ty hD.rbr hk)
      rw [List.append_assoc] at hI
      simp only [if_true, List.nil_append, List.cons_append, List.append_assoc]
      refine (ParsesAt.obj ht ?_ (.of_ty hcolon hI) (hO t [] k hk) hl).mono
        (by simp only [List.length_append, List.length_cons]; omega)
      rcases hkey with h | h <;> rw [h] <;> decide
/-- the remaining elements of a list, after an element whose last token is `x`; the whole list after its opening token -/
theorem Lst.parses : ∀ {first es ts}, Lst d first es ts →
    (first = false → ∀ (endT x : Token) (acc : List Expr) (k : List Token), (endT.ty = .RPAREN ∨ endT.ty = .RBRACKET) → NoIll k →
      ListLoopAt (1 + 2 * ts.length) endT.ty acc (x :: (ts ++ endT :: k)) (acc ++ es.toExprs) (endT :: k)) ∧
    (first = true → ∀ (endT op : Token) (k : List Token), (endT.ty = .RPAREN ∨ endT.ty = .RBRACKET) → NoIll k →
      ListAt (2 + 2 * ts.length) endT.ty (op :: (ts ++ endT :: k)) es.toExprs (endT :: k))
  | _, _, _, .nil => by
    constructor
    · intro _ endT x acc k hend hk
      rw [FEs.toExprs]
      simp only [List.nil_append, List.append_nil]
      exact ListLoopAt.end rfl hk (by rcases hend with h | h <;> rw [h] <;> decide)
    · intro _ endT op k hend hk
      rw [FEs.toExprs]
      exact (ListAt.empty rfl hk).mono (by simp)
  | _, _, _, .cons (e := e) (te := te) (tr := tr) hE hR => by
    have key : ∀ (endT : Token) (k : List Token), (endT.ty = .RPAREN ∨ endT.ty = .RBRACKET) → NoIll k →
        NoIll (te ++ (tr ++ endT :: k)) ∧
        ParsesAt (1 + 2 * te.length) LOWEST (te ++ (tr ++ endT :: k)) e.toExpr (lastTok te :: (tr ++ endT :: k)) := by
      intro endT k hend hk
      have hKI := (hR.noIll hD).append (.of_or hend hk)
      exact ⟨(hE.noIll hD).append hKI, hE.parses rfl (by decide) (hR.stopR hD k hend) hKI⟩
    constructor
    · intro hf endT x acc k hend hk
      subst hf
      obtain ⟨hI, hp⟩ := key endT k hend hk
      rw [FEs.toExprs]
      simp only [Bool.false_eq_true, if_false, List.append_assoc, List.singleton_append]
      have hl := hR.parses.1 rfl endT (lastTok te) (acc ++ [e.toExpr]) k hend hk
      rw [List.append_assoc] at hl
      exact (ListLoopAt.more hD.cm hI hend hp hl).mono (by simp only [List.length_append, List.length_cons]; omega)
    · intro hf endT op k hend hk
      subst hf
      obtain ⟨hI, hp⟩ := key endT k hend hk
      rw [FEs.toExprs]
      simp only [if_true, List.nil_append, List.append_assoc]
      exact (ListAt.first hI.tail' hend hp (hR.parses.1 rfl endT (lastTok te) [e.toExpr] k hend hk)).mono
        (by simp only [List.length_append]; omega)
end

theorem At.parse {e : FE} {ts : List Token} (h : At d (LOWEST + 1) e ts) {k : List Token} (hk : NoIll k) (hstop : StopR LOWEST k) :
    ParsesAt (1 + 2 * ts.length) LOWEST (ts ++ k) e.toExpr (lastTok ts :: k) :=
  h.parses hD rfl (by decide) hstop hk

end

section printer
variable (lp rp rbk rbr cm : Token) (extra : FE → Bool)

/-- may `l` stand bare as the left operand of an operator of precedence `pn` -/
def bareL (pn : Nat) (l : FE) : Bool := decide (pn ≤ l.lastLevel) && !extra l

def spine : FE → Nat
  | .bin op l _ => min (opPrec op) (if bareL extra (opPrec op) l then spine l else CLOSED)
  | .tern _ _ cnd _ _ => min TERNARY (if bareL extra TERNARY cnd then spine cnd else CLOSED)
  | .post _ l => min POSTFIX (if bareL extra POSTFIX l then spine l else CLOSED)
  | .index _ l _ => min INDEX (if bareL extra INDEX l then spine l else CLOSED)
  | .dot _ _ l => min MEMBER_ACCESS (if bareL extra MEMBER_ACCESS l then spine l else CLOSED)
  | .call _ _ l _ => min MEMBER_ACCESS (if bareL extra MEMBER_ACCESS l then spine l else CLOSED)
  | .atom _ => CLOSED
  | .pre _ _ => CLOSED
  | .arr _ _ => CLOSED
  | .obj _ _ => CLOSED

/-- may `e` stand bare where `parseExpression(m - 1)` is called -/
def bareAt (m : Nat) (e : FE) : Bool := decide (m ≤ spine extra e) && !extra e

def wrap (bare : Bool) (ts : List Token) : List Token := if bare then ts else lp :: (ts ++ [rp])

mutual
def body : FE → List Token
  | .atom t => [t]
  | .pre op r => op :: wrap lp rp (bareAt extra (PREFIX + 1) r) (body r)
  | .bin op l r => wrap lp rp (bareL extra (opPrec op) l) (body l) ++ op :: wrap lp rp (bareAt extra (opPrec op + 1) r) (body r)
  | .tern q c cnd a b =>
    wrap lp rp (bareL extra TERNARY cnd) (body cnd) ++ q :: (wrap lp rp (bareAt extra (TERNARY + 1) a) (body a) ++
      c :: wrap lp rp (bareAt extra (LOWEST + 1) b) (body b))
  | .post op l => wrap lp rp (bareL extra POSTFIX l) (body l) ++ [op]
  | .index lb l i => wrap lp rp (bareL extra INDEX l) (body l) ++ lb :: (wrap lp rp (bareAt extra (LOWEST + 1) i) (body i) ++ [rbk])
  | .dot d name l => wrap lp rp (bareL extra MEMBER_ACCESS l) (body l) ++ [d, name]
  | .call d name l args => wrap lp rp (bareL extra MEMBER_ACCESS l) (body l) ++ d :: name :: lp :: (bodyList true args ++ [rp])
  | .arr lb els => lb :: (bodyList true els ++ [rbk])
  | .obj lbr ps => lbr :: (bodyPairs true ps ++ [rbr])
def bodyList : Bool → FEs → List Token
  | _, .nil => []
  | first, .cons e r => (if first then [] else [cm]) ++ wrap lp rp (bareAt extra (LOWEST + 1) e) (body e) ++ bodyList false r
def bodyPairs : Bool → FPs → List Token
  | _, .nil => []
  | first, .cons key colon v r =>
    (if first then [] else [cm]) ++ key :: colon :: (wrap lp rp (bareAt extra (LOWEST + 1) v) (body v) ++ bodyPairs false r)
end

def showAt (m : Nat) (e : FE) : List Token := wrap lp rp (bareAt extra m e) (body lp rp rbk rbr cm extra e)

theorem wrap_cases (bare : Bool) (ts : List Token) :
    (bare = true ∧ wrap lp rp bare ts = ts) ∨ (bare = false ∧ wrap lp rp bare ts = lp :: (ts ++ [rp])) := by
  cases bare <;> simp [wrap]

end printer

theorem Bare.at {e : FE} {sp : Nat} {tb : List Token} (hB : Bare d e sp tb) (m : Nat) (x : Bool) :
    At d m e (wrap d.lp d.rp (decide (m ≤ sp) && !x) tb) := by
  rcases wrap_cases d.lp d.rp (decide (m ≤ sp) && !x) tb with ⟨hb, hw⟩ | ⟨_, hw⟩ <;> rw [hw]
  · exact .bare hB (of_decide_eq_true (Bool.and_eq_true_iff.mp hb).1)
  · exact .paren hB

theorem Bare.lft {l : FE} {sp : Nat} {tb : List Token} (hB : Bare d l sp tb) (pn : Nat) (x : Bool) :
    Lft d pn l (if (decide (pn ≤ l.lastLevel) && !x) = true then sp else CLOSED) (wrap d.lp d.rp (decide (pn ≤ l.lastLevel) && !x) tb) := by
  rcases wrap_cases d.lp d.rp (decide (pn ≤ l.lastLevel) && !x) tb with ⟨hb, hw⟩ | ⟨hb, hw⟩ <;> rw [hw, hb]
  · exact .bare hB (of_decide_eq_true (Bool.and_eq_true_iff.mp hb).1)
  · exact .paren hB

section full
variable (lp rp rbk rbr cm : Token) (extra : FE → Bool)

mutual
theorem bare_body : ∀ e : FE, e.ok → Bare ⟨lp, rp, rbk, rbr, cm⟩ e (spine extra e) (body lp rp rbk rbr cm extra e)
  | .atom t, h => by rw [body, spine]; exact .atom h
  | .pre op r, h => by rw [FE.ok] at h; rw [body, spine]; exact .pre h.1 ((bare_body r h.2).at _ _)
  | .bin op l r, h => by rw [FE.ok] at h; rw [body, spine]; exact .bin h.1 ((bare_body l h.2.1).lft _ _) ((bare_body r h.2.2).at _ _)
  | .tern q c cnd a b, h => by
    rw [FE.ok] at h; rw [body, spine]
    exact .tern h.1 h.2.1 ((bare_body cnd h.2.2.1).lft _ _) ((bare_body a h.2.2.2.1).at _ _) ((bare_body b h.2.2.2.2).at _ _)
  | .post op l, h => by rw [FE.ok] at h; rw [body, spine]; exact .post h.1 ((bare_body l h.2).lft _ _)
  | .index lb l i, h => by rw [FE.ok] at h; rw [body, spine]; exact .index h.1 ((bare_body l h.2.1).lft _ _) ((bare_body i h.2.2).at _ _)
  | .dot dt name l, h => by rw [FE.ok] at h; rw [body, spine]; exact .dot h.1 h.2.1 ((bare_body l h.2.2).lft _ _)
  | .call dt name l args, h => by
    rw [FE.ok] at h; rw [body, spine]; exact .call h.1 h.2.1 ((bare_body l h.2.2.1).lft _ _) (lst_bodyList true args h.2.2.2)
  | .arr lb els, h => by rw [FE.ok] at h; rw [body, spine]; exact .arr h.1 (lst_bodyList true els h.2)
  | .obj lbr ps, h => by rw [FE.ok] at h; rw [body, spine]; exact .obj h.1 (prs_bodyPairs true ps h.2)
theorem lst_bodyList : ∀ (first : Bool) (es : FEs), es.ok → Lst ⟨lp, rp, rbk, rbr, cm⟩ first es (bodyList lp rp rbk rbr cm extra first es)
  | _, .nil, _ => by rw [bodyList]; exact .nil
  | first, .cons e r, h => by rw [FEs.ok] at h; rw [bodyList]; exact .cons ((bare_body e h.1).at _ _) (lst_bodyList false r h.2)
theorem prs_bodyPairs : ∀ (first : Bool) (ps : FPs), ps.ok → Prs ⟨lp, rp, rbk, rbr, cm⟩ first ps (bodyPairs lp rp rbk rbr cm extra first ps)
  | _, .nil, _ => by rw [bodyPairs]; exact .nil
  | first, .cons key colon v r, h => by
    rw [FPs.ok] at h; rw [bodyPairs]; exact .cons h.1 h.2.1 ((bare_body v h.2.2.1).at _ _) (prs_bodyPairs false r h.2.2.2)
end

end full

/-- **round trip for the whole expression language**, for the printer `Full.showAt` (C01 `parse_of_print_full`) -/
theorem parse_print (lp rp rbk rbr cm : Token) (hlp : lp.ty = .LPAREN) (hrp : rp.ty = .RPAREN) (hrbk : rbk.ty = .RBRACKET)
    (hrbr : rbr.ty = .RBRACE) (hcm : cm.ty = .COMMA) (extra : FE → Bool)
    (e : FE) (hok : e.ok) (k : List Token) (hk : NoIll k) (hstop : StopR LOWEST k) :
    RParses LOWEST (showAt lp rp rbk rbr cm extra (LOWEST + 1) e ++ k) e.toExpr
      (lastTok (showAt lp rp rbk rbr cm extra (LOWEST + 1) e) :: k) :=
  ⟨_, ((bare_body lp rp rbk rbr cm extra e hok).at _ _).parse ⟨hlp, hrp, hrbk, hrbr, hcm⟩ hk hstop⟩

/-- trees with the same minimal printing have the same `toExpr` (which forgets a ternary's colon token and a call's dot
    token): both printings parse back to it -/
theorem print_injective (lp rp rbk rbr cm : Token) (hlp : lp.ty = .LPAREN) (hrp : rp.ty = .RPAREN)
    (hrbk : rbk.ty = .RBRACKET) (hrbr : rbr.ty = .RBRACE) (hcm : cm.ty = .COMMA)
    (e1 e2 : FE) (h1 : e1.ok) (h2 : e2.ok) (k : List Token) (hk : NoIll k) (hstop : StopR LOWEST k)
    (heq : showAt lp rp rbk rbr cm (fun _ => false) (LOWEST + 1) e1 = showAt lp rp rbk rbr cm (fun _ => false) (LOWEST + 1) e2) :
    e1.toExpr = e2.toExpr :=
  (heq ▸ parse_print lp rp rbk rbr cm hlp hrp hrbk hrbr hcm (fun _ => false) e1 h1 k hk hstop).unique
    (parse_print lp rp rbk rbr cm hlp hrp hrbk hrbr hcm (fun _ => false) e2 h2 k hk hstop)

end Full

/-! The rest of the file is the same induction read for the printer alone; nothing rests on it.  The statements of `Bare.parses`,
    `At.parses`, `Lft.parses`, `Lst.parses`, `Prs.parses` for what `Full.showAt` prints, with the fuel bound under ∃ (`RParses`, `RLoops`,
    `RList`, `RListLoop`, `RObj`), are corollaries of those through `bare_body` (the `hP` of `paren_of_P`, `Q_of_P`, `left_operand` is
    not used). -/

theorem parses_atom {prec : Nat} {t : Token} {k : List Token} {a ex : Expr} {ts' : List Token} (ht : atomExpr t = some a)
    (h : RLoops prec a (t :: k) ex ts') : RParses prec (t :: k) ex ts' :=
  let ⟨_, h⟩ := h; ⟨_, ParsesAt.atom ht h⟩

def RList (endTok : TT) (ts : List Token) (es : List Expr) (ts' : List Token) : Prop :=
  ∃ N, ∀ f, N ≤ f → ∀ p : PS, parseExprList f endTok (p.withToks ts) = (es, p.withToks ts')

def RListLoop (endTok : TT) (acc : List Expr) (ts : List Token) (es : List Expr) (ts' : List Token) : Prop :=
  ∃ N, ∀ f, N ≤ f → ∀ p : PS, exprListLoop f endTok acc (p.withToks ts) = (es, p.withToks ts')

def RObj (t : Token) (pairs : List (Bytes × Expr)) (ts : List Token) (ex : Expr) (ts' : List Token) : Prop :=
  ∃ N, ∀ f, N ≤ f → ∀ p : PS, parseObjLoop f t pairs (p.withToks ts) = (ex, p.withToks ts')

theorem stopR_closed {k : List Token} (h : k ≠ []) : StopR CLOSED k := by
  cases k with
  | nil => exact absurd rfl h
  | cons t r =>
    refine .le ?_
    cases t.ty <;> decide

namespace Full
section lemmas
variable (lp rp rbk rbr cm : Token) (extra : FE → Bool)

def showL (pn : Nat) (e : FE) : List Token := wrap lp rp (bareL extra pn e) (body lp rp rbk rbr cm extra e)

theorem body_atom (t : Token) : body lp rp rbk rbr cm extra (.atom t) = [t] := by rw [body]
theorem body_pre (op : Token) (r : FE) :
    body lp rp rbk rbr cm extra (.pre op r) = op :: showAt lp rp rbk rbr cm extra (PREFIX + 1) r := by rw [body]; rfl
theorem body_bin (op : Token) (l r : FE) :
    body lp rp rbk rbr cm extra (.bin op l r) =
      showL lp rp rbk rbr cm extra (opPrec op) l ++ op :: showAt lp rp rbk rbr cm extra (opPrec op + 1) r := by rw [body]; rfl
theorem body_tern (q c : Token) (cnd a b : FE) :
    body lp rp rbk rbr cm extra (.tern q c cnd a b) =
      showL lp rp rbk rbr cm extra TERNARY cnd ++ q :: (showAt lp rp rbk rbr cm extra (TERNARY + 1) a ++
        c :: showAt lp rp rbk rbr cm extra (LOWEST + 1) b) := by rw [body]; rfl
theorem body_post (op : Token) (l : FE) :
    body lp rp rbk rbr cm extra (.post op l) = showL lp rp rbk rbr cm extra POSTFIX l ++ [op] := by rw [body]; rfl
theorem body_index (lb : Token) (l i : FE) :
    body lp rp rbk rbr cm extra (.index lb l i) =
      showL lp rp rbk rbr cm extra INDEX l ++ lb :: (showAt lp rp rbk rbr cm extra (LOWEST + 1) i ++ [rbk]) := by rw [body]; rfl
theorem body_dot (d name : Token) (l : FE) :
    body lp rp rbk rbr cm extra (.dot d name l) = showL lp rp rbk rbr cm extra MEMBER_ACCESS l ++ [d, name] := by rw [body]; rfl
theorem body_call (d name : Token) (l : FE) (args : FEs) :
    body lp rp rbk rbr cm extra (.call d name l args) =
      showL lp rp rbk rbr cm extra MEMBER_ACCESS l ++ d :: name :: lp :: (bodyList lp rp rbk rbr cm extra true args ++ [rp]) := by
  rw [body]; rfl
theorem body_arr (lb : Token) (els : FEs) :
    body lp rp rbk rbr cm extra (.arr lb els) = lb :: (bodyList lp rp rbk rbr cm extra true els ++ [rbk]) := by rw [body]
theorem body_obj (lbr : Token) (ps : FPs) :
    body lp rp rbk rbr cm extra (.obj lbr ps) = lbr :: (bodyPairs lp rp rbk rbr cm extra true ps ++ [rbr]) := by rw [body]
theorem bodyPairs_nil (first : Bool) : bodyPairs lp rp rbk rbr cm extra first .nil = [] := by rw [bodyPairs]
theorem bodyPairs_cons (first : Bool) (key colon : Token) (v : FE) (r : FPs) :
    bodyPairs lp rp rbk rbr cm extra first (.cons key colon v r) =
      (if first then [] else [cm]) ++ key :: colon :: (showAt lp rp rbk rbr cm extra (LOWEST + 1) v ++ bodyPairs lp rp rbk rbr cm extra false r) := by
  rw [bodyPairs]; rfl
theorem bodyList_nil (first : Bool) : bodyList lp rp rbk rbr cm extra first .nil = [] := by rw [bodyList]
theorem bodyList_cons (first : Bool) (e : FE) (r : FEs) :
    bodyList lp rp rbk rbr cm extra first (.cons e r) =
      (if first then [] else [cm]) ++ showAt lp rp rbk rbr cm extra (LOWEST + 1) e ++ bodyList lp rp rbk rbr cm extra false r := by
  rw [bodyList]; rfl

end lemmas

section const
variable (lp rp rbk rbr cm : Token) (extra : FE → Bool)

def PStmt (e : FE) : Prop :=
  ∀ prec k ex ts', prec + 1 ≤ spine extra e → StopR e.lastLevel k → NoLP k → NoIll k →
    RLoops prec e.toExpr (lastTok (body lp rp rbk rbr cm extra e) :: k) ex ts' →
    RParses prec (body lp rp rbk rbr cm extra e ++ k) ex ts'

def QStmt (e : FE) : Prop :=
  ∀ prec k, prec ≤ PREFIX → StopR prec k → NoIll k →
    RParses prec (showAt lp rp rbk rbr cm extra (prec + 1) e ++ k) e.toExpr (lastTok (showAt lp rp rbk rbr cm extra (prec + 1) e) :: k)

def LStmt (es : FEs) : Prop :=
  ∀ (endT x : Token) (acc : List Expr) (k : List Token), (endT.ty = .RPAREN ∨ endT.ty = .RBRACKET) → NoIll k →
    RListLoop endT.ty acc (x :: (bodyList lp rp rbk rbr cm extra false es ++ endT :: k)) (acc ++ es.toExprs) (endT :: k)

def LFirst (es : FEs) : Prop :=
  ∀ (endT op : Token) (k : List Token), (endT.ty = .RPAREN ∨ endT.ty = .RBRACKET) → NoIll k →
    RList endT.ty (op :: (bodyList lp rp rbk rbr cm extra true es ++ endT :: k)) es.toExprs (endT :: k)

def OStmt (ps : FPs) : Prop :=
  ∀ (t : Token) (acc : List (Bytes × Expr)) (k : List Token), NoIll k → ps ≠ .nil →
    RObj t acc (bodyPairs lp rp rbk rbr cm extra true ps ++ rbr :: k) (.obj t (ps.toPairs acc)) (rbr :: k)

def OAll (ps : FPs) : Prop :=
  ∀ (t : Token) (k : List Token) (prec : Nat) (ex : Expr) (ts' : List Token), t.ty = .LBRACE → NoIll k →
    RLoops prec (.obj t (ps.toPairs [])) (rbr :: k) ex ts' →
    RParses prec (t :: (bodyPairs lp rp rbk rbr cm extra true ps ++ rbr :: k)) ex ts'

variable (hlp : lp.ty = .LPAREN) (hrp : rp.ty = .RPAREN) (hrbk : rbk.ty = .RBRACKET) (hrbr : rbr.ty = .RBRACE) (hcm : cm.ty = .COMMA)
include hlp hrp hrbk hrbr hcm

theorem noIll_showL (m : Nat) (e : FE) (hok : e.ok) : NoIll (showL lp rp rbk rbr cm extra m e) :=
  ((bare_body lp rp rbk rbr cm extra e hok).lft m (extra e)).noIll ⟨hlp, hrp, hrbk, hrbr, hcm⟩

theorem paren_of_P (e : FE) (hok : e.ok) (hP : PStmt lp rp rbk rbr cm extra e) (prec : Nat) (k : List Token) (hk : NoIll k)
    (ex : Expr) (ts' : List Token) (hloop : RLoops prec e.toExpr (rp :: k) ex ts') :
    RParses prec (lp :: (body lp rp rbk rbr cm extra e ++ [rp]) ++ k) ex ts' :=
  have hB := bare_body lp rp rbk rbr cm extra e hok
  let ⟨_, hl⟩ := hloop; ⟨_, (hB.parses ⟨hlp, hrp, hrbk, hrbr, hcm⟩).paren ⟨hlp, hrp, hrbk, hrbr, hcm⟩ hB hk hl⟩

theorem Q_of_P (e : FE) (hok : e.ok) (hP : PStmt lp rp rbk rbr cm extra e) : QStmt lp rp rbk rbr cm extra e :=
  fun _ _ hple hs hk => ⟨_, ((bare_body lp rp rbk rbr cm extra e hok).at _ _).parses ⟨hlp, hrp, hrbk, hrbr, hcm⟩ rfl hple hs hk⟩

theorem left_operand (l : FE) (hok : l.ok) (hP : PStmt lp rp rbk rbr cm extra l) (pn prec : Nat) (t0 : Token) (T : List Token)
    (hp : precedence t0.ty ≤ pn) (hnlp : t0.ty ≠ .LPAREN) (hTI : NoIll (t0 :: T))
    (hsp : bareL extra pn l = true → prec + 1 ≤ spine extra l)
    (ex : Expr) (ts' : List Token) (hloop : ∀ x, RLoops prec l.toExpr (x :: t0 :: T) ex ts') :
    RParses prec (showL lp rp rbk rbr cm extra pn l ++ t0 :: T) ex ts' := by
  have hB := bare_body lp rp rbk rbr cm extra l hok
  unfold showL
  rcases wrap_cases lp rp (bareL extra pn l) (body lp rp rbk rbr cm extra l) with ⟨hb, hw⟩ | ⟨_, hw⟩ <;> rw [hw]
  · obtain ⟨_, hl⟩ := hloop (lastTok (body lp rp rbk rbr cm extra l))
    exact ⟨_, (hB.parses ⟨hlp, hrp, hrbk, hrbr, hcm⟩).bare_left (of_decide_eq_true (Bool.and_eq_true_iff.mp hb).1) hp hnlp hTI (hsp hb) hl⟩
  · obtain ⟨_, hl⟩ := hloop rp
    exact ⟨_, (hB.parses ⟨hlp, hrp, hrbk, hrbr, hcm⟩).paren ⟨hlp, hrp, hrbk, hrbr, hcm⟩ hB hTI hl⟩

theorem pratt_P : ∀ (e : FE), e.ok → PStmt lp rp rbk rbr cm extra e := fun e hok prec k ex ts' h1 h2 h3 h4 ⟨N, hl⟩ =>
  ⟨_, (bare_body lp rp rbk rbr cm extra e hok).parses ⟨hlp, hrp, hrbk, hrbr, hcm⟩ prec k ex ts' N h1 h2 h3 h4 hl⟩

theorem pratt_O : ∀ (ps : FPs), ps.ok → OStmt lp rp rbk rbr cm extra ps ∧ OAll lp rp rbk rbr cm extra ps := fun ps hok =>
  have h := (prs_bodyPairs lp rp rbk rbr cm extra true ps hok).parses ⟨hlp, hrp, hrbk, hrbr, hcm⟩
  ⟨fun t acc k hk hne => ⟨_, h.1 hne t acc k hk⟩, fun t k prec ex ts' ht hk ⟨N, hl⟩ => ⟨_, h.2 rfl t k prec ex ts' N ht hk hl⟩⟩

theorem pratt_L : ∀ (es : FEs), es.ok → LStmt lp rp rbk rbr cm extra es ∧ LFirst lp rp rbk rbr cm extra es := fun es hok =>
  ⟨fun endT x acc k hend hk =>
      ⟨_, ((lst_bodyList lp rp rbk rbr cm extra false es hok).parses ⟨hlp, hrp, hrbk, hrbr, hcm⟩).1 rfl endT x acc k hend hk⟩,
    fun endT op k hend hk =>
      ⟨_, ((lst_bodyList lp rp rbk rbr cm extra true es hok).parses ⟨hlp, hrp, hrbk, hrbr, hcm⟩).2 rfl endT op k hend hk⟩⟩

end const
end Full

end Tw
