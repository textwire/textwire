/-
  TwProofs.C11 — built-in functions: contracts that hold for every receiver and argument list.

  The built-ins of the model (`TwModel.Builtins`, tied to evaluator/*_func.go by the
  correspondence check over the full name × receiver × argument cross product) are total, pure
  functions of their receiver and arguments — there is no state they could change.  What the
  theorems add are the laws no finite table of cases settles: every character-level function
  returns valid UTF-8 for valid (and, where it re-encodes, for any) input; `slice` never leaves
  the array; `append` / `prepend` / `reverse` are extensions and permutations; `then` / `binary`
  select by the receiver's truth.  And from the source bytes, lexer and parser included:
  `builtin_call_prints_from_source` and its two variants with one argument, `builtin_call_prints_in_text`.
-/
import TwModel
import TwProofs.Lemmas.Utf8Valid
import TwProofs.Lemmas.TrimSplit
import TwProofs.Lemmas.TextCalls
import TwProofs.Lemmas.TextAround
import TwProofs.C12

namespace Tw.C11
open Tw

/-- re-encoding functions return valid UTF-8 for *every* input (invalid bytes become U+FFFD) -/
theorem upper_lower_reverse_valid (s : Bytes) :
    validUtf8 (toUpper s) = true ∧ validUtf8 (toLower s) = true ∧ validUtf8 (encodeRunes (decodeRunes s).reverse) = true :=
  ⟨validUtf8_encodeRunes _, validUtf8_encodeRunes _, validUtf8_encodeRunes _⟩

/-- `at` / `first` / `last`: nil, or one whole character -/
theorem at_returns_one_character (s : Bytes) (i : Int) : strAt s i = .nil ∨ ∃ r, strAt s i = .str (encodeRune r) := by
  unfold strAt
  simp only []
  by_cases h1 : (decodeRunes s).isEmpty = true
  · left; simp [h1]
  · simp only [h1, Bool.false_eq_true, if_false]
    generalize (if i < 0 then ((decodeRunes s).length : Int) + i else i) = j
    split
    · left; rfl
    · right; exact ⟨_, rfl⟩

theorem at_valid (s : Bytes) (i : Int) (v : Bytes) (h : strAt s i = .str v) : validUtf8 v = true := by
  rcases at_returns_one_character s i with h1 | ⟨r, h1⟩
  · rw [h1] at h; cases h
  · rw [h1] at h; cases h
    exact validUtf8_encodeRune r

/-- `string(runes)` inverts `[]rune(s)` up to the replacement of invalid runes -/
theorem decode_encode (r : Nat) (rest : Bytes) : decodeRune (encodeRune r ++ rest) = (normRune r, (encodeRune r).length) :=
  decodeRune_encodeRune r rest

/-- `truncate`: the receiver itself (when it is short enough), or whole characters of it followed
    by the ellipsis — valid whenever the ellipsis is (the default "..." is) -/
theorem truncate_valid (s e : Bytes) (k : Nat) (he : validUtf8 e = true) :
    validUtf8 (encodeRunes ((decodeRunes s).take k) ++ e) = true :=
  validUtf8_append _ _ (validUtf8_encodeRunes _) he

theorem truncate_default_ellipsis_valid (s : Bytes) (k : Nat) :
    validUtf8 (encodeRunes ((decodeRunes s).take k) ++ b "...") = true :=
  truncate_valid s (b "...") k (by decide)

/-- the shape `truncate` has in the model: exactly these two results -/
theorem truncate_shape (s : Bytes) (limit : Int64) (hl : ¬ limit < 0) :
    strBuiltin (b "truncate") s [.int limit] =
      some (.ok (.str (if limit.toInt ≥ (decodeRunes s).length then s
        else encodeRunes ((decodeRunes s).take limit.toInt.toNat) ++ b "..."))) := by
  unfold strBuiltin
  simp (config := { decide := true }) only [if_false, if_true, hl]
  split <;> rfl

/-- `capitalize` on valid UTF-8 -/
theorem capitalize_valid (s : Bytes) (hs : validUtf8 s = true) :
    validUtf8 (if s.isEmpty then [] else toUpper (s.take (decodeRune s).2) ++ s.drop (decodeRune s).2) = true := by
  cases s with
  | nil => rfl
  | cons c t =>
    simp only [List.isEmpty_cons, Bool.false_eq_true, if_false]
    exact validUtf8_append _ _ (validUtf8_encodeRunes _) (validUtf8_drop_first c t hs)

/-- `repeat` on valid UTF-8 -/
theorem repeat_valid (s : Bytes) (n : Nat) (hs : validUtf8 s = true) : validUtf8 (List.replicate n s).flatten = true := by
  induction n with
  | zero => rfl
  | succ n ih =>
    rw [List.replicate_succ, List.flatten_cons]
    exact validUtf8_append _ _ hs ih

theorem clamp_start (len : Nat) (start : Int) :
    0 ≤ (if start < 0 then (0 : Int) else if start > len then (len : Int) else start) ∧
    (if start < 0 then (0 : Int) else if start > len then (len : Int) else start) ≤ len := by
  split
  · omega
  · split <;> omega

theorem clamp_end (len : Nat) (e : Int) :
    0 ≤ (if (decide (e < 0) || decide (e > len)) = true then (len : Int) else e) ∧
    (if (decide (e < 0) || decide (e > len)) = true then (len : Int) else e) ≤ len := by
  by_cases h : e < 0 ∨ e > len
  · have : (decide (e < 0) || decide (e > len)) = true := by simpa using h
    simp only [this, if_true]; omega
  · have : (decide (e < 0) || decide (e > len)) = false := by simp; omega
    simp only [this, Bool.false_eq_true, if_false]; omega

theorem clamp_order (s e1 : Int) (len : Nat) (h1 : 0 ≤ s) (h2 : s ≤ len) (h3 : 0 ≤ e1) (h4 : e1 ≤ len) :
    s.toNat ≤ (if e1 < s then s else e1).toNat ∧ (if e1 < s then s else e1).toNat ≤ len := by
  split <;> omega

/-- `slice` clamps: the bounds it uses always satisfy `start ≤ end ≤ len` -/
theorem slice_bounds (len : Nat) (start : Int) (endO : Option Int) :
    (clampSlice len start endO).1 ≤ (clampSlice len start endO).2 ∧ (clampSlice len start endO).2 ≤ len := by
  unfold clampSlice
  obtain ⟨s1, s2⟩ := clamp_start len start
  cases endO with
  | none =>
    simp only []
    constructor <;> omega
  | some e =>
    obtain ⟨e1, e2⟩ := clamp_end len e
    exact clamp_order _ _ len s1 s2 e1 e2

/-- … and inside the array they are the bounds asked for -/
theorem slice_exact (len : Nat) (s e : Nat) (h1 : s ≤ e) (h2 : e ≤ len) :
    clampSlice len s (some e) = (s, e) := by
  unfold clampSlice
  simp only []
  have a1 : ¬ ((s : Int) < 0) := by omega
  have a2 : ¬ ((s : Int) > len) := by omega
  have a3 : ¬ ((e : Int) < 0 ∨ len < e) := by omega
  have a4 : ¬ ((e : Int) < s) := by omega
  simp [a1, a2, a3, a4]

theorem slice_is_sublist (xs : List Val) (s e : Nat) : ((xs.take e).drop s).Sublist xs :=
  (List.drop_sublist _ _).trans (List.take_sublist _ _)

/-- `reverse` is a permutation and an involution -/
theorem reverse_perm (xs : List Val) : xs.reverse.Perm xs := List.reverse_perm xs
theorem reverse_reverse (xs : List Val) : xs.reverse.reverse = xs := List.reverse_reverse xs

/-- `append` / `prepend` extend the receiver -/
theorem append_extends (xs args : List Val) (h : args ≠ []) :
    arrBuiltin (b "append") xs args = some (.ok (.arr (xs ++ args))) := by
  unfold arrBuiltin
  simp (config := { decide := true }) [h]

theorem prepend_extends (xs args : List Val) (h : args ≠ []) :
    arrBuiltin (b "prepend") xs args = some (.ok (.arr (args ++ xs))) := by
  unfold arrBuiltin
  simp (config := { decide := true }) [h]

/-- `len` of an array is its length -/
theorem array_len (xs args : List Val) : arrBuiltin (b "len") xs args = some (.ok (.int (Int64.ofNat xs.length))) := by
  unfold arrBuiltin; simp (config := { decide := true })

/-- `len` of a string is its number of characters -/
theorem string_len_counts_characters (s : Bytes) (args : List Val) :
    strBuiltin (b "len") s args = some (.ok (.int (Int64.ofNat (decodeRunes s).length))) := by
  unfold strBuiltin; simp (config := { decide := true })

theorem then_selects (v : Bool) (a : Val) (rest : List Val) :
    boolBuiltin (b "then") v (a :: rest) = some (.ok (if v then a else rest.headD .nil)) := by
  unfold boolBuiltin
  cases v <;> simp (config := { decide := true })

theorem binary_is_zero_or_one (v : Bool) (args : List Val) :
    boolBuiltin (b "binary") v args = some (.ok (.int (if v then 1 else 0))) := by
  unfold boolBuiltin; simp (config := { decide := true })

/-- a wrong argument kind is an error, not a crash -/
theorem wrong_kind_is_error (s : Bytes) :
    strBuiltin (b "repeat") s [.str (b "x")] = some (.error ("ErrFuncFirstArgInt", [b "repeat", strT])) ∧
    strBuiltin (b "at") s [.bool true] = some (.error ("ErrFuncFirstArgInt", [b "at", strT])) := by
  constructor <;> (unfold strBuiltin; simp (config := { decide := true }))

/-- a name that is not a built-in is `none` -/
theorem unknown_name_is_none : callBuiltin (.nil) (b "len") [] = none ∧ boolBuiltin (b "nope") true [] = none := by
  constructor
  · rfl
  · unfold boolBuiltin; simp (config := { decide := true })

example : (match evaluateStringPure [] (b "{{ \"żółw\".len() }}|{{ \"żółw\".reverse() }}|{{ \"żółw\".truncate(2) }}|{{ \"éa\".capitalize() }}|{{ [1,2,3,4].slice(3, 1) }}|{{ [1,2,3].slice(-5, 99) }}") [] with
    | .ok out => out == b "4|włóż|żó...|Éa||1, 2, 3" | _ => false) = true := by decide +kernel

/-- the characters of a string partition it (what `split("")` returns, concatenated, is the string) -/
theorem characters_partition (s : Bytes) : (runeChunks s).flatMap (·.2) = s := runeChunks_flatten s

/-- `trimLeft` removes a prefix, whatever the cut set: nothing inside the string changes -/
theorem trimLeft_returns_a_suffix (s cut : Bytes) : ∃ p, s = p ++ trimLeftSet s cut := by
  refine ⟨((runeChunks s).takeWhile fun p => (decodeRunes cut).contains p.1).flatMap (·.2), ?_⟩
  rw [trimLeftSet_eq, ← List.flatMap_append, List.takeWhile_append_dropWhile]
  exact (runeChunks_flatten s).symm

/-- `trimRight` removes a suffix -/
theorem trimRight_returns_a_prefix (s cut : Bytes) : ∃ q, s = trimRightSet s cut ++ q := by
  refine ⟨(((runeChunks s).reverse.takeWhile fun p => (decodeRunes cut).contains p.1).reverse).flatMap (·.2), ?_⟩
  rw [trimRightSet_eq, ← List.flatMap_append, ← List.reverse_append, List.takeWhile_append_dropWhile, List.reverse_reverse]
  exact (runeChunks_flatten s).symm

/-- `trim`, `trimLeft`, `trimRight` cut at character boundaries: valid UTF-8 stays valid UTF-8, for every cut set -/
theorem trimLeft_keeps_utf8 (s cut : Bytes) (h : validUtf8 s = true) : validUtf8 (trimLeftSet s cut) = true := by
  rw [trimLeftSet_eq, validUtf8_iff]
  exact ((validUtf8_iff s).mp h).dropWhile_chunks _

theorem trimRight_keeps_utf8 (s cut : Bytes) (h : validUtf8 s = true) : validUtf8 (trimRightSet s cut) = true := by
  -- what `dropWhile` leaves of the reversed list is, reversed back, the first so many characters
  obtain ⟨j, hj⟩ := dropWhile_eq_drop (fun p : Rune × Bytes => (decodeRunes cut).contains p.1) (runeChunks s).reverse
  rw [trimRightSet_eq, hj, List.drop_reverse, List.reverse_reverse, validUtf8_iff]
  exact ((validUtf8_iff s).mp h).take_chunks _

theorem trim_keeps_utf8 (s cut : Bytes) (h : validUtf8 s = true) : validUtf8 (trimRightSet (trimLeftSet s cut) cut) = true :=
  trimRight_keeps_utf8 _ cut (trimLeft_keeps_utf8 s cut h)

/-- for every receiver and every separator (the empty one
    included, which splits into characters), joining the parts with the separator gives the receiver back -/
theorem split_then_join (s sep : Bytes) : joinBytes sep (splitBytes s sep) = s := by
  unfold splitBytes
  split
  · rename_i he
    rw [List.isEmpty_iff.mp he, joinBytes_nil_sep, ← List.flatMap_def]
    exact runeChunks_flatten s
  · rename_i he
    have hsep : sep ≠ [] := fun h => he (List.isEmpty_iff.mpr h)
    have := splitBytes_go_join sep hsep s.length s [] (Nat.le_refl _)
    rwa [List.nil_append] at this

/-- array `contains` is membership up to the structural equality `Val.beq` -/
theorem array_contains_is_membership (xs : List Val) (t : Val) (rest : List Val) :
    arrBuiltin (b "contains") xs (t :: rest) = some (.ok (.bool (xs.any fun x => Val.beq x t))) := by
  unfold arrBuiltin; simp (config := { decide := true })

example : splitBytes (b "a,b,,c") (b ",") = [b "a", b "b", [], b "c"] ∧ trimRightSet (trimLeftSet (b "  é x ") (b " ")) (b " ") = b "é x" := by decide

/-- for every data map with distinct keys, every entry
    `(k, g)` whose value converts to a value with built-in functions (string, array, number, boolean)
    and every function `fn` of that type which accepts an empty argument list, the template
    `{{ k.fn() }}` — any white space inside the braces — renders the printed result of the built-in
    on the converted value.  What the template reaches is `callBuiltin`.  Of the contracts of this
    file some are stated on the built-ins it dispatches to (`strBuiltin`, `arrBuiltin`,
    `boolBuiltin`: `truncate_shape`, `append_extends`, `array_len`, `then_selects`, …); the others
    (UTF-8 validity, slice bounds, trim / split laws) are stated on the functions and expressions
    the built-ins return (`toUpper`, `clampSlice`, `trimLeftSet`, `splitBytes`, …, TwModel/Builtins),
    with no equation here between the two. -/
theorem builtin_call_prints_from_source (custom : List ((VType × Bytes) × Nat)) (data : List (Bytes × GoVal)) (env : Env)
    (hd : KeysDistinct data) (h : envFromMap data = .ok env) (k : Bytes) (g : GoVal) (hm : (k, g) ∈ data) (hk : isName k)
    (fn : Bytes) (hfn : isName fn) (g1 g2 : Bytes) (hg1 : allWs g1) (hg2 : allWs g2) (rv : Val) (hrv : nativeToObject g = some rv)
    (htab : hasBuiltinTable rv.type = true) (v : Val) (hcall : callBuiltin rv fn [] = some (.ok v)) :
    evaluateStringPure custom (callSrc g1 k fn g2) data = .ok v.toStr := by
  have hget := C12.data_get data env hd h k g hm _ hrv
  exact (callCode_parses g1 k fn g2 hg1 hg2 hk hfn).renders_expr custom data env v h
    fun _ _ ⟨t2, t4, e⟩ => e ▸ call_builtin_evals _ env k fn [] _ [] v hget htab (fun _ => rfl) hcall t2 t4

example : evaluateStringPure [] (b "{{ name.upper() }}") [(b "name", .str (b "ann"))] = .ok (b "ANN") := by
  have := builtin_call_prints_from_source [] [(b "name", .str (b "ann"))] [[(b "name", .str (b "ann"))]] (List.pairwise_singleton _ _) (by rfl)
    (b "name") (.str (b "ann")) List.mem_cons_self (by decide) (b "upper") (by decide) [32] [32] (by decide) (by decide) (.str (b "ann")) (by rfl) (by rfl)
    (.str (b "ANN")) (by rfl)
  have hs : callSrc [32] (b "name") (b "upper") [32] = b "{{ name.upper() }}" := by decide
  rw [hs] at this
  exact this

/-- **a builtin call with a number as its argument prints its result, from the source bytes on**: for
    every data entry `(k, g)` whose converted value `rv` has a table of functions, every function name
    `fn`, every decimal number `d` that fits in an int64 and every white space after `{{`, around the
    number and before `}}`: when the function of that name answers `v` on `rv` with the integer `d`, the
    template `{{ k.fn(d) }}` renders the printed `v` (`repeat`, `at`, `truncate`, `decimal`, …). -/
theorem builtin_call_with_number_prints_from_source (custom : List ((VType × Bytes) × Nat)) (data : List (Bytes × GoVal)) (env : Env)
    (hd : KeysDistinct data) (h : envFromMap data = .ok env) (k : Bytes) (g : GoVal) (hm : (k, g) ∈ data) (hk : isName k)
    (fn : Bytes) (hfn : isName fn) (d : Bytes) (hdg : isDigits d) (hb : digitsToNat d < 2 ^ 63)
    (g1 g2 g3 g4 : Bytes) (hg1 : allWs g1) (hg2 : allWs g2) (hg3 : allWs g3) (hg4 : allWs g4)
    (rv : Val) (hrv : nativeToObject g = some rv) (htab : hasBuiltinTable rv.type = true) (v : Val)
    (hcall : callBuiltin rv fn [.int (Int64.ofNat (digitsToNat d))] = some (.ok v)) :
    evaluateStringPure custom (callNumSrc g1 k fn g3 d g4 g2) data = .ok v.toStr := by
  have hget := C12.data_get data env hd h k g hm _ hrv
  exact (callNumCode_parses g1 k fn g3 d g4 g2 hg1 hg2 hg3 hg4 hk hfn hdg (by omega)).renders_expr custom data env v h
    fun _ _ ⟨t2, t4, t6, e⟩ => e ▸ call_builtin_evals _ env k fn _ _ _ v hget htab (fun fu => evalExprs_one_int _ env t6 _ (fu + 4)) hcall t2 t4

example : evaluateStringPure [] (b "{{ s.repeat( 3 ) }}") [(b "s", .str (b "ab"))] = .ok (b "ababab") := by
  have := builtin_call_with_number_prints_from_source [] [(b "s", .str (b "ab"))] [[(b "s", .str (b "ab"))]] (List.pairwise_singleton _ _) (by rfl)
    (b "s") (.str (b "ab")) List.mem_cons_self (by decide) (b "repeat") (by decide) (b "3") (by decide) (by decide)
    [32] [32] [32] [32] (by decide) (by decide) (by decide) (by decide) (.str (b "ab")) (by rfl) (by rfl)
    (.str (b "ababab")) (by rfl)
  have hs : callNumSrc [32] (b "s") (b "repeat") [32] (b "3") [32] [32] = b "{{ s.repeat( 3 ) }}" := by decide
  rw [hs] at this
  exact this

/-- **a builtin call with a string literal as its argument prints its result, from the source bytes on**:
    for every data entry `(k, g)` whose converted value `rv` has a table of functions, every function name
    `fn`, every string literal (either quote, no backslash) and any white space after `{{`, around the
    literal and before `}}`: when the function answers `v` on `rv` with the *escaped* literal
    (`literalValue`, C10) as its argument, the template `{{ k.fn("text") }}` renders the printed `v`
    (`split`, `contains`, `join`, `trim`, `append`, `then`, …). -/
theorem builtin_call_with_string_prints_from_source (custom : List ((VType × Bytes) × Nat)) (data : List (Bytes × GoVal)) (env : Env)
    (hd : KeysDistinct data) (h : envFromMap data = .ok env) (k : Bytes) (g : GoVal) (hm : (k, g) ∈ data) (hk : isName k)
    (fn : Bytes) (hfn : isName fn) (q : Byte) (hq : q = 34 ∨ q = 39) (c : Bytes) (hc : PlainStr q c)
    (g1 g2 g3 g4 : Bytes) (hg1 : allWs g1) (hg2 : allWs g2) (hg3 : allWs g3) (hg4 : allWs g4)
    (rv : Val) (hrv : nativeToObject g = some rv) (htab : hasBuiltinTable rv.type = true) (v : Val)
    (hcall : callBuiltin rv fn [.str (literalValue c)] = some (.ok v)) :
    evaluateStringPure custom (callStrSrc g1 k fn g3 q c g4 g2) data = .ok v.toStr := by
  have hget := C12.data_get data env hd h k g hm _ hrv
  exact (callStrCode_parses g1 k fn g3 q c g4 g2 hg1 hg2 hg3 hg4 hk hfn hq hc).renders_expr custom data env v h
    fun _ _ ⟨t2, t4, t6, e⟩ => e ▸ call_builtin_evals _ env k fn _ _ _ v hget htab (fun fu => evalExprs_one_str _ env t6 c (fu + 4)) hcall t2 t4

example : evaluateStringPure [] (b "{{ s.contains('b') }}") [(b "s", .str (b "abc"))] = .ok (b "1") := by
  have := builtin_call_with_string_prints_from_source [] [(b "s", .str (b "abc"))] [[(b "s", .str (b "abc"))]] (List.pairwise_singleton _ _) (by rfl)
    (b "s") (.str (b "abc")) List.mem_cons_self (by decide) (b "contains") (by decide) 39 (Or.inr rfl) (b "b") (by decide)
    [32] [32] [] [] (by decide) (by decide) (by decide) (by decide) (.str (b "abc")) (by rfl) (by rfl)
    (.bool true) (by rfl)
  have hs : callStrSrc [32] (b "s") (b "contains") [] 39 (b "b") [] [32] = b "{{ s.contains('b') }}" := by decide
  rw [hs] at this
  exact this

/-- **`Hi {{ name.upper() }}!`: a builtin call between two runs of text, from the source bytes on**: the
    template `pre {{ k.fn() }} post` — any two runs of text with escapes, any white space inside the
    braces — renders the text of `pre`, the printed result of the built-in `fn` on the converted value of
    the data entry `k`, the text of `post`. -/
theorem builtin_call_prints_in_text (custom : List ((VType × Bytes) × Nat)) (data : List (Bytes × GoVal)) (env : Env)
    (hd : KeysDistinct data) (h : envFromMap data = .ok env) (k : Bytes) (g : GoVal) (hm : (k, g) ∈ data) (hk : isName k)
    (fn : Bytes) (hfn : isName fn) (g1 g2 : Bytes) (hg1 : allWs g1) (hg2 : allWs g2) (rv : Val) (hrv : nativeToObject g = some rv)
    (htab : hasBuiltinTable rv.type = true) (v : Val) (hcall : callBuiltin rv fn [] = some (.ok v))
    (pre post : List Seg) (hitems : GItemsOK [.text pre, .code (callCode g1 k fn g2), .text post]) :
    evaluateStringPure custom (segsSrc pre ++ (callSrc g1 k fn g2 ++ segsSrc post)) data = .ok (segsLit pre ++ v.toStr ++ segsLit post) := by
  have hget := C12.data_get data env hd h k g hm _ hrv
  exact text_code_text custom pre post (callCode g1 k fn g2) data env h v.toStr
    ((callCode_parses g1 k fn g2 hg1 hg2 hk hfn).oneStmt_of_expr env _ v
      fun _ _ ⟨t2, t4, e⟩ => e ▸ call_builtin_evals _ env k fn [] _ [] v hget htab (fun _ => rfl) hcall t2 t4) hitems

example : evaluateStringPure [] (b "Hi {{ name.upper() }}!") [(b "name", .str (b "ann"))] = .ok (b "Hi ANN!") := by
  have hitems : GItemsOK [.text [.plain (b "Hi ")], .code (callCode [32] (b "name") (b "upper") [32]), .text [.plain (b "!")]] :=
    ⟨by decide, by decide, by simp only [afterRunG]; decide, (call_block [32] (b "name") (b "upper") [32] (by decide) (by decide) (by decide) (by decide)).ok,
      by decide, by decide, trivial, trivial⟩
  have := builtin_call_prints_in_text [] [(b "name", .str (b "ann"))] [[(b "name", .str (b "ann"))]] (List.pairwise_singleton _ _) (by rfl)
    (b "name") (.str (b "ann")) List.mem_cons_self (by decide) (b "upper") (by decide) [32] [32] (by decide) (by decide) (.str (b "ann")) (by rfl) (by rfl)
    (.str (b "ANN")) (by rfl) [.plain (b "Hi ")] [.plain (b "!")] hitems
  have hs : segsSrc [.plain (b "Hi ")] ++ (callSrc [32] (b "name") (b "upper") [32] ++ segsSrc [.plain (b "!")]) = b "Hi {{ name.upper() }}!" := by decide
  rw [hs] at this
  exact this

end Tw.C11
