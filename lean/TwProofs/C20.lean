/-
  TwProofs.C20 — custom functions: unique registration, faithful conversion.
-/
import TwModel
import TwProofs.Lemmas.Roundtrip
import TwProofs.C11

namespace Tw.C20
open Tw

abbrev Reg := VType × Bytes × Nat

def lookupReg (cs : List ((VType × Bytes) × Nat)) (ty : VType) (n : Bytes) : Option Nat :=
  (cs.find? fun p => p.1.1 == ty && p.1.2 == n).map (·.2)

/-- a sequence of `Register*Func` calls -/
def registerAll (w : World) : List Reg → World
  | [] => w
  | (ty, n, fid) :: r => registerAll (registerFunc w ty n fid).1 r

def firstReg (regs : List Reg) (ty : VType) (n : Bytes) : Option Nat :=
  (regs.find? fun r => r.1 == ty && r.2.1 == n).map (·.2.2)

theorem lookupReg_append (cs : List ((VType × Bytes) × Nat)) (x : (VType × Bytes) × Nat) (ty : VType) (n : Bytes) :
    lookupReg (cs ++ [x]) ty n =
      match lookupReg cs ty n with
      | some f => some f
      | none => if x.1.1 == ty && x.1.2 == n then some x.2 else none := by
  unfold lookupReg
  rw [List.find?_append]
  cases h : cs.find? (fun p => p.1.1 == ty && p.1.2 == n) with
  | some p => simp
  | none =>
    simp only [Option.none_or, Option.map_none]
    cases hx : (x.1.1 == ty && x.1.2 == n) <;> simp [List.find?, hx]

theorem firstReg_cons (ty' : VType) (n' : Bytes) (fid : Nat) (r : List Reg) (ty : VType) (n : Bytes) :
    firstReg ((ty', n', fid) :: r) ty n = if ty' == ty && n' == n then some fid else firstReg r ty n := by
  unfold firstReg
  rw [List.find?_cons]
  cases ty' == ty && n' == n <;> rfl

/-- registering succeeds exactly when the name is new for that type; a failed attempt changes
    nothing -/
theorem register_once (w : World) (ty : VType) (n : Bytes) (fid : Nat) :
    (lookupReg w.custom ty n = none → (registerFunc w ty n fid).2 = none ∧
        (registerFunc w ty n fid).1.custom = w.custom ++ [((ty, n), fid)]) ∧
    (lookupReg w.custom ty n ≠ none → (registerFunc w ty n fid).2 ≠ none ∧ (registerFunc w ty n fid).1 = w) := by
  unfold registerFunc lookupReg
  cases h : w.custom.find? (fun p => p.1.1 == ty && p.1.2 == n) with
  | none => simp
  | some p => simp

/-- **first writer wins**: after any sequence of registrations, the function found for
    (type, name) is the one already present, or else the one of the *first* registration of that
    (type, name) in the sequence; later attempts never replace it, and registrations for other
    types or names do not interfere -/
theorem register_first_wins (regs : List Reg) : ∀ (w : World) (ty : VType) (n : Bytes),
    lookupReg (registerAll w regs).custom ty n =
      match lookupReg w.custom ty n with
      | some f => some f
      | none => firstReg regs ty n := by
  induction regs with
  | nil => intro w ty n; simp [registerAll, firstReg]; cases lookupReg w.custom ty n <;> rfl
  | cons r rest ih =>
    intro w ty n
    obtain ⟨rty, rn, rfid⟩ := r
    simp only [registerAll]
    rw [ih]
    obtain ⟨hnew, hold⟩ := register_once w rty rn rfid
    by_cases hpres : lookupReg w.custom rty rn = none
    · obtain ⟨_, hc⟩ := hnew hpres
      rw [hc, lookupReg_append]
      cases hl : lookupReg w.custom ty n with
      | some f => rfl
      | none =>
        rw [firstReg_cons]
        cases rty == ty && rn == n <;> rfl
    · obtain ⟨_, hw⟩ := hold hpres
      rw [hw]
      cases hl : lookupReg w.custom ty n with
      | some f => rfl
      | none =>
        -- the attempt was for another (type, name): it cannot be the first registration of (ty, n)
        have hx : (rty == ty && rn == n) = false := by
          cases hb : (rty == ty && rn == n) with
          | false => rfl
          | true =>
            simp only [Bool.and_eq_true, beq_iff_eq] at hb
            obtain ⟨h1, h2⟩ := hb
            subst h1; subst h2
            exact absurd hl hpres
        rw [firstReg_cons, hx]
        rfl

/-- starting from the initial state (no custom functions): the registered function is the one of
    the first registration -/
theorem register_first_wins_initial (regs : List Reg) (fs : Fs) (ty : VType) (n : Bytes) :
    lookupReg (registerAll { fs := fs } regs).custom ty n = firstReg regs ty n := by
  rw [register_first_wins]; rfl

/-- the evaluator finds exactly the registered function (`lookupCustom` = registry lookup), unless
    what was registered is a nil function value -/
theorem evaluator_uses_registry (c : Ctx) (ty : VType) (n : Bytes) :
    lookupCustom c ty n = (lookupReg c.custom ty n).bind fun fid => if fid == nilFn then none else some fid := rfl

theorem evaluator_uses_registry_nonnil (c : Ctx) (ty : VType) (n : Bytes) (fid : Nat) (h : lookupReg c.custom ty n = some fid)
    (hn : fid ≠ nilFn) : lookupCustom c ty n = some fid := by
  rw [evaluator_uses_registry, h]
  simp [hn]

/-- a nil function value takes the name (a later registration is refused like any other) but is not callable -/
theorem nil_function_is_not_callable (c : Ctx) (ty : VType) (n : Bytes) (h : lookupReg c.custom ty n = some nilFn) :
    lookupCustom c ty n = none := by
  rw [evaluator_uses_registry, h]
  simp

/-- a built-in name takes precedence over a custom function of the same name: the evaluator
    consults the custom registry only when `callBuiltin` has no function of that name -/
theorem builtin_before_custom (fuel : Nat) (c : Ctx) (env : Env) (t : Token) (recv : Expr) (fn : Bytes) (rv v : Val)
    (hrecv : evalExpr (fuel + 1) c env recv = .ok rv) (htab : hasBuiltinTable rv.type = true)
    (hb : callBuiltin rv fn [] = some (.ok v)) :
    evalExpr (fuel + 2) c env (.call t recv fn []) = .ok v := by
  rw [show fuel + 2 = (fuel + 1) + 1 from rfl, evalExpr]
  simp [hrecv, htab, evalExprs, hb]

/-- calling an unregistered name is an error naming the function and the receiver type -/
theorem unregistered_error (fuel : Nat) (c : Ctx) (env : Env) (t : Token) (recv : Expr) (fn : Bytes) (rv : Val)
    (hrecv : evalExpr (fuel + 1) c env recv = .ok rv) (htab : hasBuiltinTable rv.type = true)
    (hb : callBuiltin rv fn [] = none) (hc : lookupCustom c rv.type fn = none) :
    evalExpr (fuel + 2) c env (.call t recv fn []) = .err "ErrNoFuncForThisType" t.errorLine [fn, rv.typeName] := by
  rw [show fuel + 2 = (fuel + 1) + 1 from rfl, evalExpr]
  simp [hrecv, htab, evalExprs, hb, hc]

/-- **faithful conversion**: handing a value to a custom function as a plain Go value
    (`Object.Val()`) and converting it back (`NativeToObject`, the path every result takes, shared
    with the data map of C12) yields the value itself — for every value, nested arrays and objects
    included, in which the entries of every object are key-sorted (`WFVal`; that the values the
    model builds are such is not proved) -/
theorem conversion_roundtrip (v : Val) (h : WFVal v) : nativeToObject (Val.toNative v) = some v :=
  native_roundtrip v h

example : lookupReg (registerAll {} [(.STRING, b "f", 0), (.INTEGER, b "f", 1), (.STRING, b "f", 1)]).custom .STRING (b "f") = some 0 := by
  decide
example : lookupReg (registerAll {} [(.STRING, b "f", 0), (.INTEGER, b "f", 1), (.STRING, b "f", 1)]).custom .INTEGER (b "f") = some 1 := by
  decide

/-- **a registered function is called, from the source bytes**: when the value of the data entry `k`
    has no built-in `fn` and a (non-nil) function is registered under `fn` for its type, the
    template `{{ k.fn() }}` renders what that function returns for the converted value -/
theorem custom_call_prints_from_source (custom : List ((VType × Bytes) × Nat)) (data : List (Bytes × GoVal)) (env : Env)
    (hd : KeysDistinct data) (h : envFromMap data = .ok env) (k : Bytes) (g : GoVal) (hm : (k, g) ∈ data) (hk : isName k)
    (fn : Bytes) (hfn : isName fn) (g1 g2 : Bytes) (hg1 : allWs g1) (hg2 : allWs g2) (rv : Val) (hrv : nativeToObject g = some rv)
    (htab : hasBuiltinTable rv.type = true) (hnb : callBuiltin rv fn [] = none) (fid : Nat)
    (hreg : lookupCustom { custom := custom } rv.type fn = some fid) :
    evaluateStringPure custom (callSrc g1 k fn g2) data = .ok (callCustom fid rv []).toStr := by
  have hget := C12.data_get data env hd h k g hm _ hrv
  exact (callCode_parses g1 k fn g2 hg1 hg2 hk hfn).renders_expr custom data env _ h
    fun _ _ ⟨t2, t4, e⟩ => e ▸ call_custom_evals _ env k fn [] _ [] fid hget htab (fun _ => rfl) hnb hreg t2 t4

/-- **the arguments reach a registered function, from the source bytes**: `{{ k.fn(d) }}` with a decimal
    number calls the registered function with the receiver and that one argument — the integer with the
    decimal value of `d` — and renders what it returns -/
theorem custom_call_with_number_prints_from_source (custom : List ((VType × Bytes) × Nat)) (data : List (Bytes × GoVal)) (env : Env)
    (hd : KeysDistinct data) (h : envFromMap data = .ok env) (k : Bytes) (g : GoVal) (hm : (k, g) ∈ data) (hk : isName k)
    (fn : Bytes) (hfn : isName fn) (d : Bytes) (hdg : isDigits d) (hb : digitsToNat d < 2 ^ 63)
    (g1 g2 g3 g4 : Bytes) (hg1 : allWs g1) (hg2 : allWs g2) (hg3 : allWs g3) (hg4 : allWs g4)
    (rv : Val) (hrv : nativeToObject g = some rv) (htab : hasBuiltinTable rv.type = true)
    (hnb : callBuiltin rv fn [.int (Int64.ofNat (digitsToNat d))] = none) (fid : Nat)
    (hreg : lookupCustom { custom := custom } rv.type fn = some fid) :
    evaluateStringPure custom (callNumSrc g1 k fn g3 d g4 g2) data = .ok (callCustom fid rv [.int (Int64.ofNat (digitsToNat d))]).toStr := by
  have hget := C12.data_get data env hd h k g hm _ hrv
  exact (callNumCode_parses g1 k fn g3 d g4 g2 hg1 hg2 hg3 hg4 hk hfn hdg (by omega)).renders_expr custom data env _ h
    fun _ _ ⟨t2, t4, t6, e⟩ => e ▸ call_custom_evals _ env k fn _ _ _ fid hget htab (fun fu => evalExprs_one_int _ env t6 _ (fu + 4)) hnb hreg t2 t4

/-- … and `{{ k.fn("text") }}` with a string literal calls it with the *escaped* text of the literal -/
theorem custom_call_with_string_prints_from_source (custom : List ((VType × Bytes) × Nat)) (data : List (Bytes × GoVal)) (env : Env)
    (hd : KeysDistinct data) (h : envFromMap data = .ok env) (k : Bytes) (g : GoVal) (hm : (k, g) ∈ data) (hk : isName k)
    (fn : Bytes) (hfn : isName fn) (q : Byte) (hq : q = 34 ∨ q = 39) (c : Bytes) (hc : PlainStr q c)
    (g1 g2 g3 g4 : Bytes) (hg1 : allWs g1) (hg2 : allWs g2) (hg3 : allWs g3) (hg4 : allWs g4)
    (rv : Val) (hrv : nativeToObject g = some rv) (htab : hasBuiltinTable rv.type = true)
    (hnb : callBuiltin rv fn [.str (literalValue c)] = none) (fid : Nat)
    (hreg : lookupCustom { custom := custom } rv.type fn = some fid) :
    evaluateStringPure custom (callStrSrc g1 k fn g3 q c g4 g2) data = .ok (callCustom fid rv [.str (literalValue c)]).toStr := by
  have hget := C12.data_get data env hd h k g hm _ hrv
  exact (callStrCode_parses g1 k fn g3 q c g4 g2 hg1 hg2 hg3 hg4 hk hfn hq hc).renders_expr custom data env _ h
    fun _ _ ⟨t2, t4, t6, e⟩ => e ▸ call_custom_evals _ env k fn _ _ _ fid hget htab (fun fu => evalExprs_one_str _ env t6 c (fu + 4)) hnb hreg t2 t4

/-- **a built-in of the same name wins, from the source bytes**: whatever is registered — under the
    same name, for the same type, before or after — `{{ k.fn() }}` renders the built-in's result
    (`C11.builtin_call_prints_from_source` holds for every registry) -/
theorem builtin_shadows_custom_from_source (custom : List ((VType × Bytes) × Nat)) (data : List (Bytes × GoVal)) (env : Env)
    (hd : KeysDistinct data) (h : envFromMap data = .ok env) (k : Bytes) (g : GoVal) (hm : (k, g) ∈ data) (hk : isName k)
    (fn : Bytes) (hfn : isName fn) (g1 g2 : Bytes) (hg1 : allWs g1) (hg2 : allWs g2) (rv : Val) (hrv : nativeToObject g = some rv)
    (htab : hasBuiltinTable rv.type = true) (v : Val) (hcall : callBuiltin rv fn [] = some (.ok v)) :
    evaluateStringPure custom (callSrc g1 k fn g2) data = .ok v.toStr ∧
      evaluateStringPure [] (callSrc g1 k fn g2) data = .ok v.toStr :=
  ⟨C11.builtin_call_prints_from_source custom data env hd h k g hm hk fn hfn g1 g2 hg1 hg2 rv hrv htab v hcall,
   C11.builtin_call_prints_from_source [] data env hd h k g hm hk fn hfn g1 g2 hg1 hg2 rv hrv htab v hcall⟩

example : evaluateStringPure [((.STRING, b "shout"), 0)] (b "{{ name.shout() }}") [(b "name", .str (b "ann"))] = .ok (b "ann|") := by
  have := custom_call_prints_from_source [((.STRING, b "shout"), 0)] [(b "name", .str (b "ann"))] [[(b "name", .str (b "ann"))]]
    (List.pairwise_singleton _ _) (by rfl) (b "name") (.str (b "ann")) List.mem_cons_self (by decide) (b "shout") (by decide) [32] [32] (by decide) (by decide)
    (.str (b "ann")) (by rfl) (by rfl) (by rfl) 0 (by rfl)
  have hs : callSrc [32] (b "name") (b "shout") [32] = b "{{ name.shout() }}" := by decide
  have ho : (callCustom 0 (.str (b "ann")) []).toStr = b "ann|" := by decide
  rw [hs, ho] at this
  exact this

end Tw.C20
