/-
  TwProofs.C06 — a page that uses a layout renders the layout with its reserves filled.

  The loader (`TwModel.Api.loadPage`, transcription of parser_utils.go / ast/program.go) turns a
  page with `@use(L)` into the single statement `@use` whose context carries the layout's
  statements and, per `@reserve` node of the layout, the page's `@insert` of that name.
  Theorems: what the loader builds and which errors it reports; that rendering `@use` is
  rendering the layout's statements; that a `@reserve` renders the bound insert (block or
  expression) evaluated in the environment of the call, and nothing when there is none.
  And from the bytes of the two files, lexer, parser and loader included: `layout_page_renders_from_the_sources`.
-/
import TwModel
import TwProofs.Lemmas.EvalStep
import TwProofs.Lemmas.LoadWhole
import TwProofs.Lemmas.TextLayout

namespace Tw.C06
open Tw

/-- rendering the page is rendering the layout's statements (same context, same data) -/
theorem use_renders_layout (f : Nat) (c : Ctx) (env : Env) (t : Token) (n : Bytes) (L : List Stmt)
    (hl : c.layout = some L) (hu : c.layoutHasUse = false) :
    evalStmt (f + 1) c env (.use t n) = (evalProg f c env L []).bind fun r => .ok ({ text := r.1 }, r.2) := by
  rw [evalStmt_succ]
  simp only [stmtBody, hl, hu, calleesAt_prog]
  rfl

theorem page_renders_layout (f : Nat) (c : Ctx) (env : Env) (t : Token) (n : Bytes) (L : List Stmt)
    (hl : c.layout = some L) (hu : c.layoutHasUse = false) (out : Bytes) (env' : Env)
    (hL : evalProg f c env L [] = .ok (out, env')) :
    evalProg (f + 1 + 1) c env [.use t n] [] = .ok (out, env') := by
  rw [evalProg_cons, use_renders_layout f c env t n L hl hu, hL, Res.bind_ok, Res.bind_ok, evalProg_nil]
  simp

/-- a layout that itself uses a layout is an error -/
theorem layout_with_use_is_error (f : Nat) (c : Ctx) (env : Env) (t : Token) (n : Bytes) (L : List Stmt)
    (hl : c.layout = some L) (hu : c.layoutHasUse = true) :
    evalStmt (f + 1) c env (.use t n) = .err "ErrUseStmtNotAllowed" t.errorLine [] := by
  rw [evalStmt_succ]
  simp only [stmtBody, hl, hu]
  rfl

/-- `@reserve(n)` with a block insert renders the block's text, evaluated with the data of the call -/
theorem reserve_renders_block (f : Nat) (c : Ctx) (env : Env) (t : Token) (n : Bytes) (rid : Nat) (ins : InsertDef)
    (blk : List Stmt) (hb : lookupNat c.inserts rid = some ins) (hblk : ins.block = some blk) :
    evalStmt (f + 1) c env (.reserve t n rid) = (evalBlock f c env blk).bind fun r => .ok ({ text := r.1.text }, r.2) := by
  rw [evalStmt_succ]
  simp only [stmtBody, hb, hblk, calleesAt_block]

/-- … with the expression form, the printed value of the expression -/
theorem reserve_renders_value (f : Nat) (c : Ctx) (env : Env) (t : Token) (n : Bytes) (rid : Nat) (ins : InsertDef)
    (ae : Expr) (hb : lookupNat c.inserts rid = some ins) (hblk : ins.block = none) (harg : ins.arg = some ae) :
    evalStmt (f + 1) c env (.reserve t n rid) = (evalExpr f c env ae).bind fun v => .ok ({ text := v.toStr }, env) := by
  rw [evalStmt_succ]
  simp only [stmtBody, hb, hblk, harg, calleesAt_expr]

/-- … and nothing when the page has no insert of that name -/
theorem reserve_without_insert_renders_nothing (f : Nat) (c : Ctx) (env : Env) (t : Token) (n : Bytes) (rid : Nat)
    (hb : lookupNat c.inserts rid = none) :
    evalStmt (f + 1) c env (.reserve t n rid) = .ok ({}, env) := by
  rw [evalStmt_succ]
  simp only [stmtBody, hb]

/-- an `@insert` renders nothing where it stands (its content goes to the reserve) -/
theorem insert_renders_nothing_in_place (f : Nat) (c : Ctx) (env : Env) (t : Token) (n : Bytes) (a : Option Expr)
    (bl : Option (List Stmt)) : evalStmt (f + 1) c env (.insert t n a bl) = .ok ({}, env) := rfl

/-- the insert bound to a reserve node is the page's insert of the reserve's name (allocation
    numbers of the layout's reserve nodes are distinct) -/
theorem bound_insert (ins : List (Bytes × InsertDef)) :
    ∀ (reserves : List (Bytes × Nat)), reserves.Pairwise (fun x y => x.2 ≠ y.2) → ∀ n rid, (n, rid) ∈ reserves →
      lookupNat (reserves.filterMap fun (n, rid) => (mapGet ins n).map fun i => (rid, i)) rid = mapGet ins n
  | [], _, n, rid, h => by cases h
  | (n0, r0) :: rest, hd, n, rid, hmem => by
    obtain ⟨hhd, htl⟩ := List.pairwise_cons.mp hd
    rcases List.mem_cons.mp hmem with h | h
    · cases h
      -- no later entry has this number: if the head binds nothing, the lookup finds nothing
      have hnone : lookupNat (rest.filterMap fun (n, rid) => (mapGet ins n).map fun i => (rid, i)) r0 = none := by
        unfold lookupNat
        rw [Option.map_eq_none_iff, List.find?_eq_none]
        intro x hx
        obtain ⟨⟨yn, yr⟩, hy, hxy⟩ := List.mem_filterMap.mp hx
        obtain ⟨i, _, rfl⟩ := Option.map_eq_some_iff.mp hxy
        simpa using fun e => hhd (yn, yr) hy e.symm
      cases hg : mapGet ins n0 with
      | none => simpa [hg] using hnone
      | some i => simp [hg, lookupNat]
    · have ih := bound_insert ins rest htl n rid h
      cases hg : mapGet ins n0 with
      | none => simpa [hg] using ih
      | some i =>
        have hne : (r0 == rid) = false := by simpa using hhd (n, rid) h
        simpa [hg, lookupNat, List.find?_cons, hne] using ih

/-- for a layout file that parses: the insert bound to each of its reserve nodes is the page's
    insert of the reserve's name — the allocation numbers the parser gives to `@reserve` nodes are
    pairwise different (`parseFile_whole`), so no hypothesis about them is needed -/
theorem bound_insert_of_parsed_layout (fs : Fs) (lp : Bytes) (lprog : Program) (ins : List (Bytes × InsertDef))
    (hl : parseFile fs lp layoutBase = .ok lprog) (n : Bytes) (rid : Nat) (hm : (n, rid) ∈ lprog.reserves) :
    lookupNat (lprog.reserves.filterMap fun (n, rid) => (mapGet ins n).map fun i => (rid, i)) rid = mapGet ins n :=
  bound_insert ins lprog.reserves (parseFile_whole hl).reserveIds n rid hm

/-- an insert that names no reserve of the layout is reported, with the line of the insert -/
theorem undefined_insert_is_reported (fs : Fs) (c : Cfg) (p : Bytes) (prog lprog : Program) (ut : Token) (lname : Bytes)
    (n : Bytes) (ins : InsertDef)
    (hp : parseFile fs p 0 = .ok prog) (hu : prog.useName = some (ut, lname))
    (hl : parseFile fs (templatePath c lname) layoutBase = .ok lprog)
    (hfind : (sortByKey prog.inserts).find? (fun x => (mapGet lprog.reserves x.1).isNone) = some (n, ins)) :
    loadPage fs c p = .error (failOf "ErrUndefinedInsert" ins.tok.errorLine [n] p) := by
  unfold loadPage
  rw [hp]
  simp only [hu, hl, hfind]

/-- a missing (or unreadable) layout file is reported with the line of the `@use` -/
theorem missing_layout_is_reported (fs : Fs) (c : Cfg) (p : Bytes) (prog : Program) (ut : Token) (lname : Bytes)
    (hp : parseFile fs p 0 = .ok prog) (hu : prog.useName = some (ut, lname))
    (hl : readFile fs (templatePath c lname) = .notExist) :
    loadPage fs c p = .error (osFail ut.errorLine (templatePath c lname)) := by
  unfold loadPage
  rw [hp]
  simp only [hu, parseFile, hl, osFail]
  rfl

/-- two inserts with one name: the parser records the error at the second one -/
theorem duplicate_insert_is_reported (pe : Nat → PS → Expr × PS) (pbody : PS → List Stmt × PS) (p : PS)
    (hok : (p.expectPeek .LPAREN).1 = true)
    (hdup : (mapGet (p.expectPeek .LPAREN).2.next.inserts (p.expectPeek .LPAREN).2.next.cur.lit).isSome = true) :
    parseInsertStmt pe pbody p =
      (.bad, (p.expectPeek .LPAREN).2.next.err p.cur.errorLine "ErrDuplicateInserts" [(p.expectPeek .LPAREN).2.next.cur.lit]) := by
  unfold parseInsertStmt
  simp only []
  rw [if_neg (by rw [hok]; simp), if_pos hdup]

/-- what the loader registers for a page with a layout: the single statement `@use`, the
    layout's statements, the inserts bound to the layout's reserve nodes, the component programs;
    the page's own text outside inserts is not part of it -/
theorem loaded_page_shape (fs : Fs) (c : Cfg) (p : Bytes) (prog lprog : Program) (ut : Token) (lname : Bytes)
    (comps : List (Nat × List Stmt))
    (hp : parseFile fs p 0 = .ok prog) (hu : prog.useName = some (ut, lname))
    (hl : parseFile fs (templatePath c lname) layoutBase = .ok lprog)
    (hfind : (sortByKey prog.inserts).find? (fun x => (mapGet lprog.reserves x.1).isNone) = none)
    (hc : applyComponents fs c prog.components p = .ok comps) (hres : prog.reserves.isEmpty = true) :
    loadPage fs c p = .ok (some
      { stmts := [.use ut lname],
        ctx := { layout := some lprog.stmts, layoutHasUse := lprog.useName.isSome,
                 inserts := lprog.reserves.filterMap fun (n, rid) => (mapGet prog.inserts n).map fun ins => (rid, ins),
                 comps := comps } }) := by
  unfold loadPage
  rw [hp]
  simp only [hu, hl, hfind, hc, hres]
  rfl

/-- a file that declares reserves is a layout: it is not registered as a page -/
theorem layout_files_are_not_pages (fs : Fs) (c : Cfg) (p : Bytes) (prog : Program) (comps : List (Nat × List Stmt))
    (hp : parseFile fs p 0 = .ok prog) (hu : prog.useName = none)
    (hc : applyComponents fs c prog.components p = .ok comps) (hres : prog.reserves.isEmpty = false) :
    loadPage fs c p = .ok none := by
  unfold loadPage
  rw [hp]
  simp only [hu, hc, hres]
  rfl

/-- `~name` in `@use` means `layouts/name` -/
theorem tilde_means_layouts (p : PS) (rest : Bytes) (h : p.cur.lit = 126 :: rest) :
    (aliasPath p "layouts").1 = b "layouts" ++ [47] ++ rest := by
  unfold aliasPath
  simp [h]

def lookupIns (ins : List Ins) (k : Bytes) : Option Bytes := (ins.find? (fun i => i.k == k)).map (·.v)

def lrender (ins : List Ins) : List LItem → Bytes
  | [] => []
  | .text segs :: r => segsLit segs ++ lrender ins r
  | .reserve _ k :: r => (match lookupIns ins k with | some v => literalValue v | none => []) ++ lrender ins r

def lrenderS (ins : List Ins) : List LSpec → Bytes
  | [] => []
  | .text t :: r => t ++ lrenderS ins r
  | .reserve k _ :: r => (match lookupIns ins k with | some v => literalValue v | none => []) ++ lrenderS ins r

theorem lrenderS_lspec (ins : List Ins) : ∀ (items : List LItem) (base : Nat), lrenderS ins (lspec base items) = lrender ins items
  | [], _ => rfl
  | .text segs :: r, base => by simp [lspec, lrenderS, lrender, lrenderS_lspec ins r base]
  | .reserve _ k :: r, base => by simp [lspec, lrenderS, lrender, lrenderS_lspec ins r (base + 1)]

def Bound (tbl : List (Nat × InsertDef)) (ins : List Ins) (specs : List LSpec) : Prop :=
  ∀ k rid, LSpec.reserve k rid ∈ specs →
    match lookupIns ins k with
    | some v => ∃ d, lookupNat tbl rid = some d ∧ d.block = none ∧ ∃ tv, d.arg = some (.str tv v)
    | none => lookupNat tbl rid = none

theorem lspecOf_renders (c : Ctx) (env : Env) (ins : List Ins) {st : Stmt} {sp : LSpec} (h : lspecOf st = some sp)
    (hb : Bound c.inserts ins [sp]) : Renders c env st (lrenderS ins [sp]) 2 := by
  intro f hf
  obtain ⟨g, rfl⟩ : ∃ g, f = g + 2 := ⟨f - 2, by omega⟩
  unfold lspecOf at h
  split at h <;> cases h
  · simp [lrenderS, evalStmt_html]
  · rename_i t k rid
    have hk := hb k rid (by simp)
    cases hl : lookupIns ins k with
    | none =>
      rw [hl] at hk
      simp [lrenderS, hl, reserve_without_insert_renders_nothing (g + 1) c env t k rid hk]
    | some v =>
      rw [hl] at hk
      obtain ⟨d, hd, hblk, tv, harg⟩ := hk
      rw [reserve_renders_value (g + 1) c env t k rid d (.str tv v) hd hblk harg]
      simp [lrenderS, hl, evalExpr, Val.toStr]

theorem evalProg_lspec (c : Ctx) (env : Env) (ins : List Ins) : ∀ (specs : List LSpec) (ss : List Stmt) (fuel : Nat) (acc : Bytes),
    ss.map lspecOf = specs.map some → Bound c.inserts ins specs → specs.length + 3 ≤ fuel →
    evalProg fuel c env ss acc = .ok (acc ++ lrenderS ins specs, env) :=
  fun specs ss fuel acc hs hb hf =>
    (YieldsAll.of_specs (bound := Bound c.inserts ins) (need := fun l => l.length + 3) rfl (fun sp r => by cases sp <;> simp [lrenderS])
      (fun sp r h => ⟨fun k rid hm => h k rid (by simp at hm; simp [hm]), fun k rid hm => h k rid (List.mem_cons_of_mem _ hm)⟩) (by simp)
      (fun sp r => by simp) (fun st sp h hb f hf => lspecOf_renders c env ins h hb f (by simp at hf; omega)) specs ss hs hb).evalProg fuel acc hf

theorem lookupIns_some {ins : List Ins} {k v : Bytes} (h : lookupIns ins k = some v) : ∃ i ∈ ins, i.k = k ∧ i.v = v := by
  unfold lookupIns at h
  simp only [Option.map_eq_some_iff] at h
  obtain ⟨i, hi, hv⟩ := h
  exact ⟨i, List.mem_of_find?_eq_some hi, by simpa using List.find?_some hi, hv⟩

theorem lookupIns_none {ins : List Ins} {k : Bytes} (h : lookupIns ins k = none) : ∀ i ∈ ins, i.k ≠ k := by
  unfold lookupIns at h
  simp only [Option.map_eq_none_iff, List.find?_eq_none] at h
  intro i hi
  simpa using h i hi

/-- for every page
    file `@use("L")@insert("k1", "v1")…@insert("kn", "vn")` (either quote, distinct names, any
    text in the literals that needs no escaping inside the quotes) and every layout file of text
    runs and `@reserve("k")` directives (distinct names, every inserted name reserved), found in
    the file tree where `@use` looks for them, the loader registers the page and rendering it —
    with any data, under any name, with any registered functions — gives the layout's text with, at
    each reserve, the escaped text the page inserts under that name (nothing where the page inserts
    none). -/
theorem layout_page_renders_from_the_sources (fs : Fs) (c : Cfg) (p : Bytes) (q : Byte) (L : Bytes) (ins : List Ins)
    (items : List LItem) (hq : q = 34 ∨ q = 39) (hL : PlainStr q L) (hLne : L ≠ []) (hins : ∀ i ∈ ins, i.OK)
    (hnd : (ins.map Ins.k).Nodup) (hitems : LItemsOK items) (hrnd : (resNames items).Nodup)
    (hres : ∀ i ∈ ins, i.k ∈ resNames items)
    (hP : readFile fs p = .ok (pageSrc q L ins))
    (hLf : readFile fs (templatePath c (layoutName L)) = .ok (layoutSrc items))
    (hsize : items.length + 5 ≤ evalFuel) :
    ∃ pg, loadPage fs c p = .ok (some pg) ∧
      ∀ (w : World) (t : Template) (name : Bytes) (data : List (Bytes × GoVal)) (env : Env),
        mapGet t name = some pg → envFromMap data = .ok env → tplString w t name data = .ok (lrender ins items) := by
  obtain ⟨prog, ut, hpp, huse, hpres, hpcomp, hpins, hpnone, hpkeys⟩ := parse_page q L ins hq hL hLne hins hnd
  obtain ⟨lprog, hlp, hluse, hlstmts, hlres, _⟩ := parse_layout items hitems hrnd layoutBase
  have hpf : parseFile fs p 0 = .ok prog := parseFile_ok_iff.mpr ⟨_, hP, hpp⟩
  have hlf : parseFile fs (templatePath c (layoutName L)) layoutBase = .ok lprog := parseFile_ok_iff.mpr ⟨_, hLf, hlp⟩
  have hfind : (sortByKey prog.inserts).find? (fun x => (mapGet lprog.reserves x.1).isNone) = none := by
    rw [List.find?_eq_none]
    intro x hx
    have hx' : x ∈ prog.inserts := (sortByKey_perm prog.inserts).subset hx
    obtain ⟨i, hi, hxi⟩ := hpkeys x hx'
    obtain ⟨rid, hrid⟩ := names_lspec items layoutBase i.k (hres i hi)
    rw [hxi, hlres i.k rid hrid]
    simp
  have hshape := loaded_page_shape fs c p prog lprog ut (layoutName L) [] hpf huse hlf hfind
    (by rw [hpcomp]; rfl) (by rw [hpres]; rfl)
  refine ⟨_, hshape, ?_⟩
  intro w t name data env hpg hd
  rw [tplString_registered hpg hd]
  have hbound : Bound (lprog.reserves.filterMap fun (n, rid) => (mapGet prog.inserts n).map fun d => (rid, d)) ins (lspec layoutBase items) := by
    intro k rid hm
    have hmem : (k, rid) ∈ lprog.reserves := mapGet_mem (hlres k rid hm)
    have hbi := bound_insert_of_parsed_layout fs _ lprog prog.inserts hlf k rid hmem
    rw [hbi]
    cases hl : lookupIns ins k with
    | none => exact hpnone k (lookupIns_none hl)
    | some v =>
      obtain ⟨i, hi, hik, hiv⟩ := lookupIns_some hl
      obtain ⟨d, hd1, hd2, hd3, tv, hd4⟩ := hpins i hi
      exact ⟨d, by rw [← hik]; exact hd1, hd3, tv, by rw [← hiv]; exact hd4⟩
  obtain ⟨f, hf⟩ : ∃ f, evalFuel = f + 1 + 1 := ⟨evalFuel - 2, by omega⟩
  have hL' := evalProg_lspec
    ({ layout := some lprog.stmts, layoutHasUse := lprog.useName.isSome,
       inserts := (lprog.reserves.filterMap (fun (n, rid) => (mapGet prog.inserts n).map (fun d => (rid, d)))),
       comps := [], custom := w.custom } : Ctx) env ins (lspec layoutBase items) lprog.stmts f [] hlstmts hbound (by
    have := lspec_length items layoutBase
    omega)
  rw [hf, page_renders_layout f _ env ut (layoutName L) lprog.stmts rfl (by simp [hluse]) _ env hL']
  simp [resToOut, lrenderS_lspec]

section example_layout
private def exIns : List Ins := [⟨34, b "title", [32], 34, b "T & Co"⟩, ⟨39, b "body", [], 39, b "Hi"⟩]
private def exItems : List LItem := [.text [.plain (b "<h1>")], .reserve 34 (b "title"), .text [.plain (b "</h1><p>")],
  .reserve 39 (b "body"), .text [.plain (b "</p>")], .reserve 34 (b "none"), .text [.plain (b "!")]]
private def exFs : Fs :=
  [ (b "templates", .dir), (b "templates/layouts", .dir),
    (b "templates/layouts/main.tw.html", .file (b "<h1>@reserve(\"title\")</h1><p>@reserve('body')</p>@reserve(\"none\")!")),
    (b "templates/home.tw.html", .file (b "@use(\"~main\")@insert(\"title\", \"T & Co\")@insert('body','Hi')")) ]

private theorem exPage : pageSrc 34 (b "~main") exIns = b "@use(\"~main\")@insert(\"title\", \"T & Co\")@insert('body','Hi')" := by
  decide +kernel
private theorem exLayout : layoutSrc exItems = b "<h1>@reserve(\"title\")</h1><p>@reserve('body')</p>@reserve(\"none\")!" := by
  decide +kernel

example : pageSrc 34 (b "~main") exIns = b "@use(\"~main\")@insert(\"title\", \"T & Co\")@insert('body','Hi')" := exPage
example : layoutSrc exItems = b "<h1>@reserve(\"title\")</h1><p>@reserve('body')</p>@reserve(\"none\")!" := exLayout

/-- the hypotheses of the theorem hold for a concrete tree; the page renders with the ampersand escaped -/
example : ∃ pg, loadPage exFs defaultCfg (b "templates/home.tw.html") = .ok (some pg) ∧
    ∀ (w : World) (t : Template) (name : Bytes) (data : List (Bytes × GoVal)) (env : Env),
      mapGet t name = some pg → envFromMap data = .ok env → tplString w t name data = .ok (b "<h1>T &amp; Co</h1><p>Hi</p>!") := by
  have h := layout_page_renders_from_the_sources exFs defaultCfg (b "templates/home.tw.html") 34 (b "~main") exIns exItems
    (Or.inl rfl) (by decide +kernel) (by decide +kernel) (by decide +kernel) (by decide +kernel) (by decide +kernel)
    (by decide +kernel) (by decide +kernel) (by rw [exPage]; rfl) (by rw [exLayout]; rfl) (by decide +kernel)
  have h2 : lrender exIns exItems = b "<h1>T &amp; Co</h1><p>Hi</p>!" := by decide +kernel
  rw [h2] at h
  exact h
end example_layout

def demoFs : Fs :=
  [ (b "templates", .dir), (b "templates/layouts", .dir),
    (b "templates/layouts/main.tw.html", .file (b "<h1>@reserve(\"title\")</h1><p>@reserve(\"body\")</p>@reserve(\"none\")!")),
    (b "templates/home.tw.html", .file (b "@use(\"~main\")ignored@insert(\"title\", t + \"!\")@insert(\"body\")Hi {{ name }}@end ignored")) ]

example :
    (match newTemplate { fs := demoFs } none with
      | (w, .ok t) =>
        (match tplString w t (b "home") [(b "name", .str (b "Ann")), (b "t", .str (b "T"))] with
          | .ok out => out == b "<h1>T!</h1><p>Hi Ann</p>!"
          | _ => false)
      | _ => false) = true := by decide +kernel

end Tw.C06
