/-
  TwProofs.Lemmas.ParseShape — what the parser's primitive steps do to the state:
  `next`, `err`, `noteIllegal`, `expectPeek`, `aliasPath`, `slotHeader` and `initParser` drop
  tokens from the front and record errors, nothing else (`Adv`).  The invariants of
  ParseFuel, ParseBadFree and ParseToks each follow from `Adv` in one step.  Then the parser's
  function bodies: a case lemma per body (one hypothesis per branch of the Go function, for any
  `motive`), and the statement parsers written as chains of `expectThen`, so that a proof about
  one of them takes one step per branch or expected token.
-/
import TwProofs.Lemmas.Basics
import TwProofs.Lemmas.ParseRel

namespace Tw

structure Adv (p q : PS) : Prop where
  toks : q.toks <:+ p.toks
  ne : p.toks ≠ [] → q.toks ≠ []
  errs : p.errors ≠ [] → q.errors ≠ []
  oof : q.oof = p.oof
  use : q.useName = p.useName
  comps : q.components = p.components
  ins : q.inserts = p.inserts
  res : q.reserves = p.reserves
  nid : q.nextId = p.nextId

theorem Adv.rfl' (p : PS) : Adv p p := ⟨List.suffix_refl _, id, id, rfl, rfl, rfl, rfl, rfl, rfl⟩

theorem Adv.trans {p q r : PS} (h1 : Adv p q) (h2 : Adv q r) : Adv p r :=
  ⟨h2.toks.trans h1.toks, fun h => h2.ne (h1.ne h), fun h => h2.errs (h1.errs h), h2.oof.trans h1.oof,
    h2.use.trans h1.use, h2.comps.trans h1.comps, h2.ins.trans h1.ins, h2.res.trans h1.res, h2.nid.trans h1.nid⟩

theorem adv_err (p : PS) (l : Nat) (c : String) (a : List Bytes) : Adv p (p.err l c a) :=
  ⟨List.suffix_refl _, id, fun _ => by simp [PS.err], rfl, rfl, rfl, rfl, rfl, rfl⟩

theorem adv_noteIllegal (p : PS) (t : Token) : Adv p (p.noteIllegal t) := by
  unfold PS.noteIllegal
  split
  · exact adv_err _ _ _ _
  · exact Adv.rfl' p

theorem adv_next (p : PS) : Adv p p.next := by
  unfold PS.next
  split
  · rename_i a t r hp
    have h : Adv p { p with toks := t :: r } :=
      ⟨by rw [hp]; exact List.suffix_cons a _, fun _ => List.cons_ne_nil _ _, id, rfl, rfl, rfl, rfl, rfl, rfl⟩
    split
    · exact h.trans (adv_noteIllegal _ _)
    · exact h
  · exact Adv.rfl' p

theorem adv_expectPeek (p : PS) (t : TT) : Adv p (p.expectPeek t).2 := by
  unfold PS.expectPeek
  split
  · exact adv_next p
  · exact adv_err _ _ _ _

theorem expectPeek_fst (p : PS) (t : TT) : (p.expectPeek t).1 = p.peekIs t := by
  unfold PS.expectPeek
  split
  · exact Eq.symm ‹_›
  · exact (Bool.eq_false_iff.mpr ‹_›).symm

theorem next_toks_tail (p : PS) : p.next.toks = if 2 ≤ p.toks.length then p.toks.tail else p.toks := by
  unfold PS.next
  cases hp : p.toks with
  | nil => simp [hp]
  | cons a r =>
    cases r with
    | nil => simp [hp]
    | cons t r' => cases r' <;> simp [noteIllegal_toks]

theorem next_cur (p : PS) : p.next.cur = p.peek := by
  unfold PS.cur PS.peek
  rw [next_toks_tail]
  cases hp : p.toks with
  | nil => rfl
  | cons a r => cases r <;> rfl

theorem expectPeek_cur (p : PS) (t : TT) (h : p.peekIs t = true) : (p.expectPeek t).2.cur.ty = t := by
  rw [expectPeek_ok p t h]
  show p.next.cur.ty = t
  rw [next_cur]
  simpa [PS.peekIs] using h

theorem adv_aliasPath (p : PS) (s : String) : Adv p (aliasPath p s).2 := by
  unfold aliasPath
  dsimp only
  split
  · exact adv_err _ _ _ _
  · split <;> exact Adv.rfl' p

theorem adv_slotHeader (p : PS) : Adv p (slotHeader p).2 := by
  unfold slotHeader
  split
  · have e := ((adv_next p).trans (adv_next _)).trans (adv_expectPeek p.next.next .RPAREN)
    generalize p.next.next.expectPeek .RPAREN = q at e ⊢
    dsimp only
    split <;> exact e
  · exact Adv.rfl' p

theorem adv_initParser (toks : List Token) (base : Nat) :
    Adv ({ toks := toks, nextId := base } : PS) (initParser toks base) := by
  unfold initParser
  dsimp only
  split
  · exact (adv_noteIllegal _ _).trans (adv_noteIllegal _ _)
  · exact adv_noteIllegal _ _

theorem if_bnot {α} (c : Bool) (x y : α) : (if (!c) = true then x else y) = if c = true then y else x := by
  cases c <;> rfl

section
variable {pe : Nat → PS → Expr × PS} {pl : TT → PS → List Expr × PS}
  {po : Token → List (Bytes × Expr) → PS → Expr × PS} {p : PS} {motive : Expr × PS → Prop}

theorem prefixBody_cases
    (ident : motive (.ident p.cur p.cur.lit, p)) (int : ∀ v, motive (.int p.cur v, p))
    (float : ∀ v, motive (.float p.cur v, p)) (err : ∀ l c a, motive (.bad, p.err l c a))
    (str : motive (.str p.cur p.cur.lit, p)) (nil : motive (.nil p.cur, p)) (bool : ∀ v, motive (.bool p.cur v, p))
    (pre : p.cur.ty = .SUB ∨ p.cur.ty = .NOT →
      motive (.pre p.cur p.cur.lit (pe PREFIX p.next).1, (pe PREFIX p.next).2))
    (paren : p.cur.ty = .LPAREN → motive ((pe LOWEST p.next).1, ((pe LOWEST p.next).2.expectPeek .RPAREN).2))
    (parenErr : p.cur.ty = .LPAREN → ¬((pe LOWEST p.next).2.expectPeek .RPAREN).1 = true →
      motive (.bad, ((pe LOWEST p.next).2.expectPeek .RPAREN).2))
    (arr : p.cur.ty = .LBRACKET → motive (.arr p.cur (pl .RBRACKET p).1, (pl .RBRACKET p).2))
    (obj0 : motive (.obj p.cur [], p.next))
    (obj : p.cur.ty = .LBRACE → motive (po p.cur [] p.next)) :
    ∀ r, prefixBody pe pl po p = some r → motive r := by
  intro r h
  unfold prefixBody at h
  split at h
  · cases h; exact ident
  · split at h <;> cases h
    · exact int _
    · exact err _ _ _
  · split at h <;> cases h
    · exact float _
    · exact err _ _ _
  · cases h; exact str
  · cases h; exact nil
  · cases h; exact bool _
  · cases h; exact bool _
  · cases h; exact pre (Or.inl ‹_›)
  · cases h; exact pre (Or.inr ‹_›)
  · split at h <;> cases h
    · exact paren ‹_›
    · exact parenErr ‹_› ‹_›
  · cases h; exact arr ‹_›
  · split at h <;> cases h
    · exact obj0
    · exact obj ‹_›
  · cases h

/-- `p.cur` is the operator token -/
theorem infixBody_cases {left : Expr}
    (binErr : motive (.bad, p.next.err p.next.cur.errorLine "ErrExpectedExpression" []))
    (bin : motive (.inf p.cur p.cur.lit left (pe p.curPrecedence p.next).1, (pe p.curPrecedence p.next).2))
    (ternErr : ¬((pe TERNARY p.next).2.expectPeek .COLON).1 = true →
      motive (.bad, ((pe TERNARY p.next).2.expectPeek .COLON).2))
    (tern : motive (.tern p.cur left (pe TERNARY p.next).1
      (pe LOWEST ((pe TERNARY p.next).2.expectPeek .COLON).2.next).1,
      (pe LOWEST ((pe TERNARY p.next).2.expectPeek .COLON).2.next).2))
    (index : motive (.index p.cur left (pe LOWEST p.next).1, ((pe LOWEST p.next).2.expectPeek .RBRACKET).2))
    (indexErr : ¬((pe LOWEST p.next).2.expectPeek .RBRACKET).1 = true →
      motive (.bad, ((pe LOWEST p.next).2.expectPeek .RBRACKET).2))
    (post : motive (.post p.cur p.cur.lit left, p))
    (dotErr : ¬(p.expectPeek .IDENT).1 = true → motive (.bad, (p.expectPeek .IDENT).2))
    (call : (p.expectPeek .IDENT).2.peekIs .LPAREN = true →
      motive (.call (p.expectPeek .IDENT).2.cur left (p.expectPeek .IDENT).2.cur.lit
        (pl .RPAREN ((p.expectPeek .IDENT).2.expectPeek .LPAREN).2).1,
        (pl .RPAREN ((p.expectPeek .IDENT).2.expectPeek .LPAREN).2).2))
    (dot : motive (.dot p.cur left (p.expectPeek .IDENT).2.cur.lit, (p.expectPeek .IDENT).2)) :
    motive (infixBody pe pl left p) := by
  unfold infixBody
  simp only [if_bnot]
  exact iteInduction (fun _ => iteInduction (fun _ => binErr) fun _ => bin) fun _ =>
    iteInduction (fun _ => iteInduction (fun _ => tern) ternErr) fun _ =>
    iteInduction (fun _ => iteInduction (fun _ => index) indexErr) fun _ =>
    iteInduction (fun _ => post) fun _ => iteInduction (fun _ => iteInduction call fun _ => dot) dotErr

end

section
variable {f : Nat} {p : PS}

theorem prattLoop_cases {motive : Expr × PS → Prop} {prec : Nat} {left : Expr} (stop : motive (left, p))
    (step : hasInfix p.peek.ty = true →
      motive (prattLoop f prec (infixBody (parseExpression f) (parseExprList f) left p.next).1
        (infixBody (parseExpression f) (parseExprList f) left p.next).2)) :
    motive (prattLoop (f + 1) prec left p) := by
  rw [prattLoop_succ]
  simp only [if_bnot]
  exact iteInduction (fun _ => stop) fun _ => iteInduction step fun _ => stop

variable {motive : List Expr × PS → Prop} {endTok : TT}

theorem parseExprList_cases (empty : motive ([], p.next))
    (first : motive (exprListLoop f endTok [(parseExpression f LOWEST p.next).1] (parseExpression f LOWEST p.next).2)) :
    motive (parseExprList (f + 1) endTok p) := by
  rw [parseExprList_succ]
  exact iteInduction (fun _ => empty) fun _ => first

/-- the list is closed at `q`: at `p`, or behind a trailing comma; or it goes on behind a comma -/
theorem exprListLoop_cases {acc : List Expr}
    (close : ∀ q, Adv p q → motive (acc, (q.expectPeek endTok).2) ∧ motive ([], (q.expectPeek endTok).2))
    (more : p.peekIs .COMMA = true →
      motive (exprListLoop f endTok (acc ++ [(parseExpression f LOWEST p.next.next).1])
        (parseExpression f LOWEST p.next.next).2)) :
    motive (exprListLoop (f + 1) endTok acc p) := by
  rw [exprListLoop_succ]
  exact iteInduction (fun h => iteInduction (fun _ => iteInduction (fun _ => (close _ (adv_next p)).1) fun _ => (close _ (adv_next p)).2)
    fun _ => more h) fun _ => iteInduction (fun _ => (close _ (Adv.rfl' p)).1) fun _ => (close _ (Adv.rfl' p)).2

/-- `p0` is the state at the value: behind `key :` or, without a colon, at the key itself -/
theorem parseObjLoop_cases {motive : Expr × PS → Prop} {t : Token} {pairs : List (Bytes × Expr)}
    (done : motive (.obj t pairs, p)) (err : ∀ l c a, motive (.bad, p.err l c a))
    (last : ∀ p0, Adv p p0 →
      motive (.obj t (mapSet pairs p.cur.lit (parseExpression f LOWEST p0).1), (parseExpression f LOWEST p0).2.next))
    (commaErr : ∀ p0, Adv p p0 → ¬((parseExpression f LOWEST p0).2.expectPeek .COMMA).1 = true →
      motive (.bad, ((parseExpression f LOWEST p0).2.expectPeek .COMMA).2))
    (next : ∀ p0, Adv p p0 → ((parseExpression f LOWEST p0).2.expectPeek .COMMA).1 = true →
      motive (parseObjLoop f t (mapSet pairs p.cur.lit (parseExpression f LOWEST p0).1)
        ((parseExpression f LOWEST p0).2.expectPeek .COMMA).2.next)) :
    motive (parseObjLoop (f + 1) t pairs p) := by
  have a : Adv p (if p.peekIs .COLON then p.next.next else p) :=
    iteInduction (fun _ => (adv_next p).trans (adv_next _)) fun _ => Adv.rfl' p
  rw [parseObjLoop_succ]
  simp only [if_bnot]
  exact iteInduction (fun _ => done) fun _ => iteInduction (fun _ => err _ _ _) fun _ =>
    iteInduction (fun _ => last _ a) fun _ => iteInduction (next _ a) (commaErr _ a)

end

def expectThen (t : TT) (p : PS) (k : PS → Stmt × PS) : Stmt × PS :=
  if (p.expectPeek t).1 then k (p.expectPeek t).2 else (.bad, (p.expectPeek t).2)

/-- what `parseForStmt` and `parseEachStmt` make of the result of `parseLoopBody` -/
def loopResult (mk : List Stmt → Option (List Stmt) → Stmt) :
    Option (List Stmt × Option (List Stmt)) × PS → Stmt × PS
  | (some (body, alt), q) => (mk body alt, q)
  | (none, q) => (.bad, q)

def insertResult (t : Token) (name : Bytes) (arg : Option Expr) (block : Option (List Stmt)) (q : PS) : Stmt × PS :=
  (.insert t name arg block, { q with inserts := mapSet q.inserts name { tok := t, name, arg, block } })

section
variable (pe : Nat → PS → Expr × PS) (pbody : PS → List Stmt × PS)
  (ptail : Token → Expr → List Stmt → List (Expr × List Stmt) → PS → Stmt × PS)

/- Each equation is checked by unfolding, `dsimp only` (which turns the pattern `let`s into
   projections), `if_bnot` (the model tests `!ok`, `expectThen` tests `ok`) and a syntactic `rfl`;
   `rfl` alone makes the kernel compare terms that double at every pair. -/

theorem parseCondDirective_eq (p : PS) (mk : Token → Expr → Stmt) : parseCondDirective pe p mk =
    expectThen .LPAREN p fun p1 => (mk p.cur (pe LOWEST p1.next).1, (pe LOWEST p1.next).2) := by
  unfold parseCondDirective expectThen
  dsimp only
  simp only [if_bnot]

theorem parseIfStmt_eq (p : PS) : parseIfStmt pe pbody ptail p =
    expectThen .LPAREN p fun p1 => expectThen .RPAREN (pe LOWEST p1.next).2 fun p3 =>
      ptail p.cur (pe LOWEST p1.next).1 (pbody p3).1 [] (pbody p3).2 := by
  unfold parseIfStmt expectThen
  dsimp only
  simp only [if_bnot]

theorem loopResult_eq (p : PS) (mk : List Stmt → Option (List Stmt) → Stmt) :
    loopResult mk (parseLoopBody pbody p) =
      expectThen .END (loopElse pbody (pbody p).2).2 fun q => (mk (pbody p).1 (loopElse pbody (pbody p).2).1, q) := by
  unfold parseLoopBody expectThen
  dsimp only
  cases ((loopElse pbody (pbody p).2).2.expectPeek .END).1 <;> rfl

theorem parseForStmt_eq (p : PS) : parseForStmt pe pbody p =
    expectThen .LPAREN p fun p1 => expectThen .SEMI (forClause pe .SEMI p1).2 fun p3 =>
    expectThen .SEMI (forCond pe p3).2 fun p5 => expectThen .RPAREN (forClause pe .RPAREN p5).2 fun p7 =>
    loopResult (.forS p.cur (forClause pe .SEMI p1).1 (forCond pe p3).1 (forClause pe .RPAREN p5).1)
      (parseLoopBody pbody p7) := by
  unfold parseForStmt expectThen
  dsimp only
  simp only [if_bnot]
  rfl

theorem parseEachStmt_eq (p : PS) : parseEachStmt pe pbody p =
    expectThen .LPAREN p fun p1 => expectThen .IN p1.next fun p3 =>
    expectThen .RPAREN (pe LOWEST p3.next).2 fun p5 =>
    loopResult (.eachS p.cur p1.next.cur.lit (pe LOWEST p3.next).1) (parseLoopBody pbody p5) := by
  unfold parseEachStmt expectThen
  dsimp only
  simp only [if_bnot]
  rfl

theorem parseInsertStmt_eq (p : PS) : parseInsertStmt pe pbody p =
    expectThen .LPAREN p fun p1 =>
      if (mapGet p1.next.inserts p1.next.cur.lit).isSome then
        (.bad, p1.next.err p.cur.errorLine "ErrDuplicateInserts" [p1.next.cur.lit])
      else if p1.next.peekIs .COMMA then
        insertResult p.cur p1.next.cur.lit
          (if (pe LOWEST p1.next.next.next).1.isBad then none else some (pe LOWEST p1.next.next.next).1) none
          (pe LOWEST p1.next.next.next).2
      else expectThen .RPAREN p1.next fun p3 =>
        insertResult p.cur p1.next.cur.lit none (some (pbody p3).1) (pbody p3).2 := by
  unfold parseInsertStmt expectThen insertResult
  dsimp only
  simp only [if_bnot]

theorem ifTailBody_eq (t : Token) (c : Expr) (cons : List Stmt) (alts : List (Expr × List Stmt)) (p : PS) :
    ifTailBody pe pbody ptail t c cons alts p =
      if p.peekIs .ELSE_IF then
        expectThen .RPAREN (pe LOWEST (p.expectPeek .ELSE_IF).2.next.next).2 fun p4 =>
          ptail t c cons (alts ++ [((pe LOWEST (p.expectPeek .ELSE_IF).2.next.next).1, (pbody p4).1)]) (pbody p4).2
      else if p.peekIs .ELSE then
        if (pbody p.next).2.peekIs .ELSE_IF then
          (.bad, (pbody p.next).2.err (pbody p.next).2.peek.errorLine "ErrElseifCannotFollowElse" [])
        else expectThen .END (pbody p.next).2 fun q => (.ifS t c cons alts (some (pbody p.next).1), q)
      else expectThen .END p fun q => (.ifS t c cons alts none, q) := by
  unfold ifTailBody expectThen
  dsimp only
  simp only [if_bnot]

end

section
variable {pe : Nat → PS → Expr × PS} {pl : TT → PS → List Expr × PS} {pst : PS → Stmt × PS}
  {pbody : PS → List Stmt × PS} {pblock : List Stmt → PS → List Stmt × PS}
  {ptail : Token → Expr → List Stmt → List (Expr × List Stmt) → PS → Stmt × PS}
  {pslots : List SlotUse → PS → List SlotUse × PS} {p : PS}

/-- `q` is the state at the expression, resp. behind it (the closing braces may have been skipped) -/
theorem parseEmbeddedCode_cases {motive : Stmt × PS → Prop}
    (err : ∀ q l c a, Adv p q → motive (.bad, q.err l c a))
    (assign : ∀ q, Adv p q → motive (.assign p.next.cur p.next.cur.lit (pe LOWEST q).1, (pe LOWEST q).2))
    (expr : ∀ q, Adv (pe LOWEST p.next).2 q → motive (.expr (pe LOWEST p.next).2.cur (pe LOWEST p.next).1, q)) :
    motive (parseEmbeddedCode pe p) := by
  have a := ((adv_next p).trans (adv_expectPeek p.next .ASSIGN)).trans (adv_next _)
  unfold parseEmbeddedCode
  dsimp only
  exact iteInduction (fun _ => err _ _ _ _ (adv_next p)) fun _ => iteInduction
    (fun _ => iteInduction (fun _ => err _ _ _ _ a) fun _ => assign _ a) fun _ =>
      expr _ (iteInduction (fun _ => adv_next _) fun _ => Adv.rfl' _)

theorem statementBody_cases {motive : Stmt × PS → Prop}
    (html : motive (.html p.cur, p)) (code : motive (parseEmbeddedCode pe p))
    (ifS : motive (parseIfStmt pe pbody ptail p)) (forS : motive (parseForStmt pe pbody p))
    (eachS : motive (parseEachStmt pe pbody p))
    (use : motive (expectThen .LPAREN p fun p1 => (.use p.cur (aliasPath p1.next "layouts").1,
      { (aliasPath p1.next "layouts").2 with useName := some (p.cur, (aliasPath p1.next "layouts").1) })))
    (reserve : motive (expectThen .LPAREN p fun p1 => (.reserve p.cur p1.next.cur.lit p1.next.nextId,
      { p1.next with reserves := mapSet p1.next.reserves p1.next.cur.lit p1.next.nextId, nextId := p1.next.nextId + 1 })))
    (insert : motive (parseInsertStmt pe pbody p))
    (breakIf : motive (parseCondDirective pe p .breakIf)) (continueIf : motive (parseCondDirective pe p .continueIf))
    (component : motive (parseComponentStmt pe pslots p))
    (slot0 : motive (.slot p.cur [] none, p))
    (slot : motive (.slot p.cur p.next.next.cur.lit none, (p.next.next.expectPeek .RPAREN).2))
    (slotErr : motive (.bad, (p.next.next.expectPeek .RPAREN).2))
    (dump : motive (expectThen .LPAREN p fun p1 => (.dump p.cur (pl .RPAREN p1).1, (pl .RPAREN p1).2)))
    (brk : motive (.brk p.cur, p)) (cont : motive (.cont p.cur, p)) (other : motive (.bad, p)) :
    motive (statementBody pe pl pbody ptail pslots p) := by
  unfold statementBody
  dsimp only
  split
  · exact html
  · exact code
  · exact code
  · exact ifS
  · exact forS
  · exact eachS
  · rw [if_bnot]
    exact use
  · rw [if_bnot]
    exact reserve
  · exact insert
  · exact breakIf
  · exact continueIf
  · exact component
  · exact iteInduction (fun _ => slot0) fun _ => iteInduction (fun _ => slot) fun _ => slotErr
  · rw [if_bnot]
    exact dump
  · exact brk
  · exact cont
  · exact other

/-- the slots are parsed at `q`: behind `p`, or behind a whitespace-only text token as well -/
theorem componentSlots_cases {motive : List SlotUse × PS → Prop} (none : motive ([], p))
    (slots : ∀ q, Adv p q → motive (pslots [] q)) : motive (componentSlots pslots p) := by
  unfold componentSlots
  exact iteInduction (fun _ => slots _ (adv_next p)) fun _ => iteInduction
    (fun _ => iteInduction (fun _ => slots _ ((adv_next p).trans (adv_next _))) fun _ => none) fun _ => none

theorem blockStmtBody_cases {motive : List Stmt × PS → Prop} {acc : List Stmt}
    (done : motive (acc, p)) (err : ∀ l c a, motive (acc, p.err l c a))
    (last : ¬p.curIs .EOF = true → motive (if (pst p).1.isBad then acc else acc ++ [(pst p).1], (pst p).2))
    (more : ¬p.curIs .EOF = true →
      motive (pblock (if (pst p).1.isBad then acc else acc ++ [(pst p).1]) (pst p).2.next)) :
    motive (blockStmtBody pst pblock acc p) := by
  unfold blockStmtBody
  dsimp only
  exact iteInduction (fun _ => done) fun _ => iteInduction (fun _ => err _ _ _) fun h => iteInduction (fun _ => err _ _ _) fun _ =>
    iteInduction (fun _ => last h) fun _ => more h

theorem parseProgramLoop_cases {motive : Option (List Stmt) × PS → Prop} {f : Nat} {acc : List Stmt}
    (eof : motive (some acc, p)) (illegal : ∀ l c a, motive (none, (parseStatement f p).2.err l c a))
    (more : ¬p.curIs .EOF = true → motive (parseProgramLoop f
      (if (parseStatement f p).1.isBad then acc else acc ++ [(parseStatement f p).1]) (parseStatement f p).2.next)) :
    motive (parseProgramLoop (f + 1) acc p) := by
  unfold parseProgramLoop
  dsimp only
  exact iteInduction (fun _ => eof) fun h => iteInduction (fun _ => illegal _ _ _) fun _ => more h

end

/-- the unexpected-EOF check only records an error -/
theorem finishParse_adv (ic : Bool) (first : Token) (stmts : Option (List Stmt)) (p1 : PS) :
    ∃ p2, Adv p1 p2 ∧ finishParse ic first stmts p1 = finishParse false first stmts p2 := by
  cases stmts with
  | none => exact ⟨p1, Adv.rfl' p1, rfl⟩
  | some ss =>
    cases ic with
    | false => exact ⟨p1, Adv.rfl' p1, rfl⟩
    | true => exact ⟨_, adv_err p1 p1.cur.errorLine "ErrUnexpectedEOF" [], rfl⟩

theorem finishParse_false (first : Token) (stmts : Option (List Stmt)) (p : PS) :
    finishParse false first stmts p =
      if p.oof then .oof
      else match p.errors with
        | e :: _ => .err e
        | [] => .ok { tok := first, stmts := stmts.getD [], useName := p.useName, components := p.components,
                      inserts := p.inserts, reserves := p.reserves, nextId := p.nextId } := by
  cases stmts <;> rfl

theorem parseSource_ne_lexPanic (src : Bytes) (base : Nat) (hnp : ∀ lr, tokenize src = some lr → lr.panicked = false) :
    parseSource src base ≠ .lexPanic := by
  intro h
  unfold parseSource at h
  split at h
  · cases h
  · rename_i lr htok
    obtain ⟨p2, _, e⟩ := finishParse_adv lr.insideCode (initParser lr.toks base).cur
      (parseProgramLoop (parseFuel lr.toks) [] (initParser lr.toks base)).1 (parseProgramLoop (parseFuel lr.toks) [] (initParser lr.toks base)).2
    rw [hnp lr htok, e, finishParse_false] at h
    simp only [Bool.false_eq_true, if_false] at h
    split at h
    · cases h
    · split at h <;> cases h

theorem finishParse_eq_ok {ic : Bool} {first : Token} {stmts : Option (List Stmt)} {p1 : PS} {prog : Program}
    (h : finishParse ic first stmts p1 = .ok prog) :
    p1.errors = [] ∧ p1.oof = false ∧
      prog = { tok := first, stmts := stmts.getD [], useName := p1.useName, components := p1.components,
               inserts := p1.inserts, reserves := p1.reserves, nextId := p1.nextId } := by
  obtain ⟨p2, a, e⟩ := finishParse_adv ic first stmts p1
  rw [e, finishParse_false] at h
  split at h
  · cases h
  · rename_i ho
    split at h
    · cases h
    · rename_i he
      cases h
      exact ⟨Classical.byContradiction fun hne => a.errs hne he, by rw [← a.oof]; simpa using ho,
        by rw [a.use, a.comps, a.ins, a.res, a.nid]⟩

end Tw
