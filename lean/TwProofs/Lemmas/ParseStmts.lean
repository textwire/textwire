/-
  TwProofs.Lemmas.ParseStmts — the statement parser as a relation on token lists, in the manner of
  ParseRel: `StmtAt N ts st ts'` (from every state whose tokens are `ts`, with fuel `N` or more,
  `parseStatement` returns `st`, leaves the tokens `ts'` and touches nothing else), `BodyAt` and `BlockAt`
  for `parseBody` and `parseBlockStmt`, `IfTailAt` for the `@elseif`/`@else`/`@end` part of an `@if`,
  `LoopBodyAt` for what follows the header of a loop, `RestAt` for what `parseBody` and `parseBlockStmt` do alike behind a token.
  One rule per production; the statements that write to the parser's tables (`@use`, `@reserve`, `@insert`,
  `@component`) are not of this form and are stated on their own (ParseDir).  Then the statement loop of
  `parseSource`, one turn at a time, from any state, and what `parseSource` does around it (`parseSource_tokens`).
-/
import TwProofs.Lemmas.ParseShape
namespace Tw

theorem curIs_of (p : PS) (t : Token) (r : List Token) (hp : p.toks = t :: r) (ty : TT) : p.curIs ty = (t.ty == ty) := by
  simp [PS.curIs, PS.cur, hp]

theorem parseStatement_succ (f : Nat) (p : PS) : parseStatement (f + 1) p =
    statementBody (parseExpression f) (parseExprList f) (parseBody f) (parseIfTail f) (parseSlots f) p := rfl
theorem parseBody_succ (f : Nat) (p : PS) : parseBody (f + 1) p = bodyBody (parseBlockStmt f) p := rfl
theorem parseBlockStmt_succ (f : Nat) (acc : List Stmt) (p : PS) :
    parseBlockStmt (f + 1) acc p = blockStmtBody (parseStatement f) (parseBlockStmt f) acc p := rfl
theorem parseIfTail_succ (f : Nat) (t : Token) (c : Expr) (cons : List Stmt) (alts : List (Expr × List Stmt)) (p : PS) :
    parseIfTail (f + 1) t c cons alts p = ifTailBody (parseExpression f) (parseBody f) (parseIfTail f) t c cons alts p := rfl

def StmtAt (N : Nat) (ts : List Token) (st : Stmt) (ts' : List Token) : Prop :=
  ∀ f, N ≤ f → ∀ p : PS, parseStatement f (p.withToks ts) = (st, p.withToks ts')

def BodyAt (N : Nat) (ts : List Token) (ss : List Stmt) (ts' : List Token) : Prop :=
  ∀ f, N ≤ f → ∀ p : PS, parseBody f (p.withToks ts) = (ss, p.withToks ts')

def BlockAt (N : Nat) (ts : List Token) (ss : List Stmt) (ts' : List Token) : Prop :=
  ∀ f, N ≤ f → ∀ (acc : List Stmt) (p : PS), parseBlockStmt f acc (p.withToks ts) = (acc ++ ss, p.withToks ts')

def IfTailAt (N : Nat) (t : Token) (c : Expr) (cons : List Stmt) (alts : List (Expr × List Stmt)) (ts : List Token) (st : Stmt)
    (ts' : List Token) : Prop :=
  ∀ f, N ≤ f → ∀ p : PS, parseIfTail f t c cons alts (p.withToks ts) = (st, p.withToks ts')

def BlockEnd (t : Token) : Prop := t.ty = .ELSE ∨ t.ty = .ELSE_IF ∨ t.ty = .END

theorem BlockEnd.end {t : Token} (h : t.ty = .END) : BlockEnd t := .inr (.inr h)
theorem BlockEnd.else {t : Token} (h : t.ty = .ELSE) : BlockEnd t := .inl h
theorem BlockEnd.elseif {t : Token} (h : t.ty = .ELSE_IF) : BlockEnd t := .inr (.inl h)
theorem BlockEnd.noIll {t : Token} (h : BlockEnd t) : t.ty ≠ .ILLEGAL := by
  rcases h with h | h | h <;> rw [h] <;> decide

theorem BlockEnd.not_of_ty {t : Token} {ty : TT} (h : t.ty = ty) (hty : ty ≠ .ELSE ∧ ty ≠ .ELSE_IF ∧ ty ≠ .END := by decide) : ¬ BlockEnd t := by
  subst h; rintro (h | h | h) <;> simp [h] at hty

theorem BlockEnd.peek {t : Token} (h : BlockEnd t) (p : PS) (a : Token) (r : List Token) :
    ((p.withToks (a :: t :: r)).peekIs .ELSE || (p.withToks (a :: t :: r)).peekIs .ELSE_IF || (p.withToks (a :: t :: r)).peekIs .END) = true := by
  rcases h with h | h | h <;> simp [withToks_peekIs, h]

theorem BlockEnd.peek_not {t : Token} (h : ¬ BlockEnd t) (p : PS) (a : Token) (r : List Token) :
    ((p.withToks (a :: t :: r)).peekIs .ELSE || (p.withToks (a :: t :: r)).peekIs .ELSE_IF || (p.withToks (a :: t :: r)).peekIs .END) = false := by
  have : t.ty ≠ .ELSE ∧ t.ty ≠ .ELSE_IF ∧ t.ty ≠ .END := ⟨fun e => h (.inl e), fun e => h (.inr (.inl e)), fun e => h (.inr (.inr e))⟩
  simp [withToks_peekIs, this]

theorem expectThen_on (p : PS) (a c : Token) (r : List Token) {k : PS → Stmt × PS} {ty : TT} (hc : c.ty = ty) (h : NoIll r) :
    expectThen ty (p.withToks (a :: c :: r)) k = k (p.withToks (c :: r)) := by
  unfold expectThen
  rw [withToks_expectPeek p a c r hc h]
  rfl

theorem StmtAt.on {N : Nat} {ts ts' : List Token} {st : Stmt} (h : StmtAt N ts st ts') {f : Nat} (hf : N ≤ f) {p : PS}
    (hp : p.toks = ts) : parseStatement f p = (st, { p with toks := ts' }) := by
  have := h f hf p
  rwa [withToks_self hp] at this

theorem StmtAt.mono {N M : Nat} {ts ts' : List Token} {st : Stmt} (h : StmtAt N ts st ts') (hNM : N ≤ M) : StmtAt M ts st ts' :=
  fun f hf => h f (Nat.le_trans hNM hf)

theorem BodyAt.mono {N M : Nat} {ts ts' : List Token} {ss : List Stmt} (h : BodyAt N ts ss ts') (hNM : N ≤ M) : BodyAt M ts ss ts' :=
  fun f hf => h f (Nat.le_trans hNM hf)

theorem BodyAt.on {N : Nat} {ts ts' : List Token} {ss : List Stmt} (h : BodyAt N ts ss ts') {f : Nat} (hf : N ≤ f) {p : PS}
    (hp : p.toks = ts) : parseBody f p = (ss, { p with toks := ts' }) := by
  have := h f hf p
  rwa [withToks_self hp] at this

theorem BlockAt.mono {N M : Nat} {ts ts' : List Token} {ss : List Stmt} (h : BlockAt N ts ss ts') (hNM : N ≤ M) : BlockAt M ts ss ts' :=
  fun f hf => h f (Nat.le_trans hNM hf)

theorem BlockAt.on {N : Nat} {ts ts' : List Token} {ss : List Stmt} (h : BlockAt N ts ss ts') {f : Nat} (hf : N ≤ f) {p : PS}
    (hp : p.toks = ts) (acc : List Stmt) : parseBlockStmt f acc p = (acc ++ ss, { p with toks := ts' }) := by
  have := h f hf acc p
  rwa [withToks_self hp] at this

theorem IfTailAt.mono {N M : Nat} {t : Token} {c : Expr} {cons : List Stmt} {alts : List (Expr × List Stmt)} {ts ts' : List Token} {st : Stmt}
    (h : IfTailAt N t c cons alts ts st ts') (hNM : N ≤ M) : IfTailAt M t c cons alts ts st ts' :=
  fun f hf p => h f (Nat.le_trans hNM hf) p

theorem IfTailAt.on {N : Nat} {t : Token} {c : Expr} {cons : List Stmt} {alts : List (Expr × List Stmt)} {ts ts' : List Token} {st : Stmt}
    (h : IfTailAt N t c cons alts ts st ts') {f : Nat} (hf : N ≤ f) {p : PS} (hp : p.toks = ts) :
    parseIfTail f t c cons alts p = (st, { p with toks := ts' }) := by
  have := h f hf p
  rwa [withToks_self hp] at this

theorem StmtAt.html {t : Token} {r : List Token} (h : t.ty = .HTML) : StmtAt 1 (t :: r) (.html t) (t :: r) := by
  intro f hf p
  obtain ⟨g, rfl⟩ : ∃ g, f = g + 1 := ⟨f - 1, by omega⟩
  rw [parseStatement_succ]
  unfold statementBody
  simp only [withToks_cur, h]

theorem StmtAt.skip {t : Token} {r : List Token} (h : t.ty = .RPAREN ∨ t.ty = .RBRACES) : StmtAt 1 (t :: r) .bad (t :: r) := by
  intro f hf p
  obtain ⟨g, rfl⟩ : ∃ g, f = g + 1 := ⟨f - 1, by omega⟩
  rw [parseStatement_succ]
  unfold statementBody
  rcases h with h | h <;> simp only [withToks_cur, h]

/-- `hna` reads `mid.headD t2` because `PS.peek` of a one-token list is that token. -/
theorem parseStatement_expr {g : Nat} {p : PS} {t1 t2 tl t7 : Token} {mid tail : List Token} {e : Expr} (h1 : t1.ty = .LBRACES)
    (h2 : t2.ty ≠ .RBRACES) (hna : t2.ty = .IDENT → (mid.headD t2).ty ≠ .ASSIGN) (h7 : t7.ty = .RBRACES)
    (hrest : NoIll mid) (hk : NoIll tail)
    (hex : parseExpression g LOWEST (p.withToks (t2 :: mid)) = (e, p.withToks (tl :: t7 :: tail))) :
    parseStatement (g + 1) (p.withToks (t1 :: t2 :: mid)) = (.expr tl e, p.withToks (t7 :: tail)) := by
  rw [parseStatement_succ]
  unfold statementBody
  simp only [withToks_cur, h1]
  unfold parseEmbeddedCode
  have c2 : (t2.ty == .IDENT && (p.withToks (t2 :: mid)).peekIs .ASSIGN) = false := by
    cases hi : t2.ty == .IDENT with
    | false => rfl
    | true =>
      have := hna (by simpa using hi)
      cases mid with
      | nil => simpa [PS.peekIs, PS.peek, PS.withToks] using this
      | cons a r => simpa [withToks_peekIs] using this
  simp only [withToks_next p t1 t2 mid hrest, withToks_curIs, withToks_cur, beq_eq_false_iff_ne.mpr h2, Bool.false_eq_true, if_false,
    hex, withToks_next p tl t7 tail hk]
  rw [if_neg (by rw [c2]; exact Bool.false_ne_true)]
  simp [withToks_peekIs, h7]

theorem StmtAt.expr {N : Nat} {t1 t2 tl t7 : Token} {mid tail : List Token} {e : Expr} (h1 : t1.ty = .LBRACES)
    (h2 : t2.ty ≠ .RBRACES) (hna : t2.ty = .IDENT → (mid.headD t2).ty ≠ .ASSIGN) (h7 : t7.ty = .RBRACES)
    (hrest : NoIll mid) (hk : NoIll tail) (hex : ParsesAt N LOWEST (t2 :: mid) e (tl :: t7 :: tail)) :
    StmtAt (N + 1) (t1 :: t2 :: mid) (.expr tl e) (t7 :: tail) := by
  intro f hf p
  obtain ⟨g, rfl⟩ : ∃ g, f = g + 1 := ⟨f - 1, by omega⟩
  exact parseStatement_expr h1 h2 hna h7 hrest hk (hex g (by omega) p)

theorem StmtAt.expr_of_ty {N : Nat} {t1 t2 tl t7 : Token} {mid tail : List Token} {e : Expr} {ty : TT} (h1 : t1.ty = .LBRACES)
    (h2 : t2.ty = ty) (h7 : t7.ty = .RBRACES) (hrest : NoIll mid) (hk : NoIll tail)
    (hex : ParsesAt N LOWEST (t2 :: mid) e (tl :: t7 :: tail)) (hty : ty ≠ .RBRACES ∧ ty ≠ .IDENT := by decide) :
    StmtAt (N + 1) (t1 :: t2 :: mid) (.expr tl e) (t7 :: tail) :=
  .expr h1 (h2 ▸ hty.1) (fun e => absurd (h2 ▸ e) hty.2) h7 hrest hk hex

theorem StmtAt.expr_name {N : Nat} {t1 t2 t3 tl t7 : Token} {mid tail : List Token} {e : Expr} (h1 : t1.ty = .LBRACES)
    (h2 : t2.ty = .IDENT) (h3 : t3.ty ≠ .ASSIGN) (h7 : t7.ty = .RBRACES) (hrest : NoIll (t3 :: mid)) (hk : NoIll tail)
    (hex : ParsesAt N LOWEST (t2 :: t3 :: mid) e (tl :: t7 :: tail)) :
    StmtAt (N + 1) (t1 :: t2 :: t3 :: mid) (.expr tl e) (t7 :: tail) :=
  .expr h1 (by rw [h2]; decide) (fun _ => h3) h7 hrest hk hex

theorem StmtAt.atom {t1 t2 t3 : Token} {tail : List Token} {a : Expr} (h1 : t1.ty = .LBRACES) (ha : atomExpr t2 = some a)
    (h3 : t3.ty = .RBRACES) (hk : NoIll tail) : StmtAt 3 (t1 :: t2 :: t3 :: tail) (.expr t2 a) (t3 :: tail) :=
  .expr h1 (atomExpr_ty_ne ha) (fun _ => by simp [h3]) h3 (.of_ty h3 hk) hk (.one ha (.rbraces h3))

theorem StmtAt.print {t1 t2 t3 : Token} {tail : List Token} (h1 : t1.ty = .LBRACES) (h2 : t2.ty = .IDENT) (h3 : t3.ty = .RBRACES)
    (hk : NoIll tail) : StmtAt 3 (t1 :: t2 :: t3 :: tail) (.expr t2 (.ident t2 t2.lit)) (t3 :: tail) :=
  .atom h1 (atomExpr_ident h2) h3 hk

/-- `{{ n = e }}`: the cursor ends on the last token of `e` -/
theorem StmtAt.assign {N : Nat} {t1 t2 t3 t4 : Token} {mid ts' : List Token} {e : Expr} (h1 : t1.ty = .LBRACES)
    (h2 : t2.ty = .IDENT) (h3 : t3.ty = .ASSIGN) (h4 : t4.ty ≠ .RBRACES) (hrest : NoIll (t4 :: mid))
    (hex : ParsesAt N LOWEST (t4 :: mid) e ts') :
    StmtAt (N + 1) (t1 :: t2 :: t3 :: t4 :: mid) (.assign t2 t2.lit e) ts' := by
  intro f hf p
  obtain ⟨g, rfl⟩ : ∃ g, f = g + 1 := ⟨f - 1, by omega⟩
  have c3 := NoIll.cons (t := t3) (by rw [h3]; decide) hrest
  rw [parseStatement_succ]
  unfold statementBody
  simp only [withToks_cur, h1]
  unfold parseEmbeddedCode
  have k : (p.withToks (t2 :: t3 :: t4 :: mid)).peekIs .ASSIGN = true := by simp [withToks_peekIs, h3]
  simp only [withToks_next p t1 t2 _ c3, withToks_curIs, withToks_cur, h2, k, expectPeek_ok _ .ASSIGN k, withToks_next p t2 t3 _ hrest,
    withToks_next p t3 t4 _ hrest.tail, beq_eq_false_iff_ne.mpr h4, beq_self_eq_true, Bool.and_self, Bool.false_eq_true, if_false, if_true,
    hex g (by omega) p, show (TT.IDENT == TT.RBRACES) = false from rfl]

theorem StmtAt.assign_atom {t1 t2 t3 t4 t5 : Token} {tail : List Token} {a : Expr} (h1 : t1.ty = .LBRACES) (h2 : t2.ty = .IDENT)
    (h3 : t3.ty = .ASSIGN) (ha : atomExpr t4 = some a) (h5 : t5.ty = .RBRACES) (hk : NoIll tail) :
    StmtAt 3 (t1 :: t2 :: t3 :: t4 :: t5 :: tail) (.assign t2 t2.lit a) (t4 :: t5 :: tail) :=
  .assign h1 h2 h3 (atomExpr_ty_ne ha) (.cons (atomExpr_ty_ne ha) (.of_ty h5 hk)) (.one ha (.rbraces h5))

theorem BodyAt.empty {t tn : Token} {r : List Token} (h : BlockEnd tn) : BodyAt 1 (t :: tn :: r) [] (t :: tn :: r) := by
  intro f hf p
  obtain ⟨g, rfl⟩ : ∃ g, f = g + 1 := ⟨f - 1, by omega⟩
  rw [parseBody_succ]
  unfold bodyBody
  rw [if_pos (h.peek p t r)]

theorem BodyAt.block {N : Nat} {t tn : Token} {r : List Token} {ss : List Stmt} {ts' : List Token} (h : ¬ BlockEnd tn) (hrest : NoIll r)
    (hb : BlockAt N (tn :: r) ss ts') : BodyAt (N + 1) (t :: tn :: r) ss ts' := by
  intro f hf p
  obtain ⟨g, rfl⟩ : ∃ g, f = g + 1 := ⟨f - 1, by omega⟩
  rw [parseBody_succ]
  unfold bodyBody
  rw [if_neg (by rw [BlockEnd.peek_not h]; exact Bool.false_ne_true), withToks_next p t tn r hrest, hb g (by omega) [] p]
  rfl

/-- what `parseBlockStmt` tests before it parses a statement -/
def StartsStmt (t : Token) : Prop := t.ty ≠ .END ∧ t.ty ≠ .EOF ∧ t.ty ≠ .ILLEGAL

theorem StartsStmt.of_ty {t : Token} {ty : TT} (h : t.ty = ty) (hty : ty ≠ .END ∧ ty ≠ .EOF ∧ ty ≠ .ILLEGAL := by decide) : StartsStmt t := by
  subst h; exact hty

theorem blockStmtBody_turn {pst : PS → Stmt × PS} {pblock : List Stmt → PS → List Stmt × PS} {acc : List Stmt} {p : PS} {tf : Token}
    {r : List Token} (hs : StartsStmt tf) :
    blockStmtBody pst pblock acc (p.withToks (tf :: r)) =
      if ((pst (p.withToks (tf :: r))).2.peekIs .ELSE || (pst (p.withToks (tf :: r))).2.peekIs .ELSE_IF ||
          (pst (p.withToks (tf :: r))).2.peekIs .END) = true then
        (if (pst (p.withToks (tf :: r))).1.isBad then acc else acc ++ [(pst (p.withToks (tf :: r))).1], (pst (p.withToks (tf :: r))).2)
      else pblock (if (pst (p.withToks (tf :: r))).1.isBad then acc else acc ++ [(pst (p.withToks (tf :: r))).1])
        (pst (p.withToks (tf :: r))).2.next := by
  unfold blockStmtBody
  simp only [withToks_curIs, beq_eq_false_iff_ne.mpr hs.1, beq_eq_false_iff_ne.mpr hs.2.1, beq_eq_false_iff_ne.mpr hs.2.2,
    Bool.false_eq_true, if_false]

theorem block_turn (f : Nat) (acc : List Stmt) (p p1 : PS) (s : Stmt) (h1 : p.curIs .END = false) (h2 : p.curIs .EOF = false)
    (h3 : p.curIs .ILLEGAL = false) (hst : parseStatement f p = (s, p1)) :
    parseBlockStmt (f + 1) acc p =
      if (p1.peekIs .ELSE || p1.peekIs .ELSE_IF || p1.peekIs .END) = true then ((if s.isBad then acc else acc ++ [s]), p1)
      else parseBlockStmt f (if s.isBad then acc else acc ++ [s]) p1.next := by
  rw [parseBlockStmt_succ]
  unfold blockStmtBody
  simp only [h1, h2, h3, Bool.false_eq_true, if_false, hst]

theorem BlockAt.last {N : Nat} {tf tl tn : Token} {r rest : List Token} {st : Stmt} (hs : StartsStmt tf)
    (hst : StmtAt N (tf :: r) st (tl :: tn :: rest)) (hbad : st.isBad = false) (hn : BlockEnd tn) :
    BlockAt (N + 1) (tf :: r) [st] (tl :: tn :: rest) := by
  intro f hf acc p
  obtain ⟨g, rfl⟩ : ∃ g, f = g + 1 := ⟨f - 1, by omega⟩
  rw [parseBlockStmt_succ, blockStmtBody_turn hs, hst g (by omega) p, if_pos (hn.peek p tl rest), hbad]
  rfl

theorem BlockAt.cons {N1 N2 : Nat} {tf tl tn : Token} {r rest : List Token} {st : Stmt} {ss : List Stmt} {ts' : List Token}
    (hs : StartsStmt tf) (hst : StmtAt N1 (tf :: r) st (tl :: tn :: rest)) (hbad : st.isBad = false) (hn : ¬ BlockEnd tn)
    (hrest : NoIll rest) (hb : BlockAt N2 (tn :: rest) ss ts') :
    BlockAt (max N1 N2 + 1) (tf :: r) (st :: ss) ts' := by
  intro f hf acc p
  obtain ⟨g, rfl⟩ : ∃ g, f = g + 1 := ⟨f - 1, by omega⟩
  rw [parseBlockStmt_succ, blockStmtBody_turn hs, hst g (by omega) p, if_neg (by rw [BlockEnd.peek_not hn]; exact Bool.false_ne_true), hbad,
    withToks_next p tl tn rest hrest, hb g (by omega) _ p]
  simp

/-- behind a token `t` that stands in front of a block, or is the last token of a statement in one, `parseBody` and
    `parseBlockStmt` do the same: they stop if a block end follows, else step on and parse the block that starts there -/
inductive RestAt : Nat → List Token → List Stmt → List Token → Prop
  | stop {N : Nat} {t tn : Token} {rest : List Token} (h : BlockEnd tn) : RestAt N (t :: tn :: rest) [] (t :: tn :: rest)
  | next {N : Nat} {t tn : Token} {rest : List Token} {ss : List Stmt} {ts' : List Token} (h : ¬ BlockEnd tn) (hr : NoIll rest)
      (hb : BlockAt N (tn :: rest) ss ts') : RestAt N (t :: tn :: rest) ss ts'

theorem BodyAt.of_rest {N : Nat} {ts ts' : List Token} {ss : List Stmt} (h : RestAt N ts ss ts') : BodyAt (N + 1) ts ss ts' := by
  cases h with
  | stop h => exact (BodyAt.empty h).mono (by omega)
  | next h hr hb => exact .block h hr hb

theorem BlockAt.of_rest {N1 N2 : Nat} {tf : Token} {r ts1 ts' : List Token} {st : Stmt} {ss : List Stmt} (hs : StartsStmt tf)
    (hst : StmtAt N1 (tf :: r) st ts1) (hbad : st.isBad = false) (h : RestAt N2 ts1 ss ts') :
    BlockAt (max N1 N2 + 1) (tf :: r) (st :: ss) ts' := by
  cases h with
  | stop h => exact (BlockAt.last hs hst hbad h).mono (by omega)
  | next h hr hb => exact .cons hs hst hbad h hr hb

/-- ")" or "}}" left behind by the statement before it -/
theorem BlockAt.skip_rest {N : Nat} {tf : Token} {k ts' : List Token} {ss : List Stmt} (h : tf.ty = .RPAREN ∨ tf.ty = .RBRACES)
    (hr : RestAt N (tf :: k) ss ts') : BlockAt (max 1 N + 1) (tf :: k) ss ts' := by
  intro f hf acc p
  obtain ⟨g, rfl⟩ : ∃ g, f = g + 1 := ⟨f - 1, by omega⟩
  rw [parseBlockStmt_succ, blockStmtBody_turn (h.elim (.of_ty ·) (.of_ty ·)), StmtAt.skip h g (by omega) p]
  cases hr with
  | stop hn =>
    rw [if_pos (hn.peek p tf _), List.append_nil]
    rfl
  | next hn hrest hb =>
    rw [if_neg (by rw [BlockEnd.peek_not hn]; exact Bool.false_ne_true), withToks_next p tf _ _ hrest]
    exact hb g (by omega) acc p

theorem RestAt.block {N : Nat} {t tn : Token} {rest ts' : List Token} {ss : List Stmt} (h : RestAt N (t :: tn :: rest) ss ts')
    (hn : ¬ BlockEnd tn) : BlockAt N (tn :: rest) ss ts' := by
  cases h with
  | stop h => exact absurd h hn
  | next _ _ hb => exact hb

theorem BodyAt.one_text {tp th tn : Token} {rest : List Token} (hth : th.ty = .HTML) (htn : BlockEnd tn) (hrest : NoIll (tn :: rest)) :
    BodyAt 3 (tp :: th :: tn :: rest) [.html th] (th :: tn :: rest) :=
  .block (BlockEnd.not_of_ty hth) hrest (.last (.of_ty hth) (.html hth) rfl htn)

theorem IfTailAt.end {t tl tn : Token} {c : Expr} {cons : List Stmt} {alts : List (Expr × List Stmt)} {rest : List Token}
    (hn : tn.ty = .END) (hrest : NoIll rest) :
    IfTailAt 1 t c cons alts (tl :: tn :: rest) (.ifS t c cons alts none) (tn :: rest) := by
  intro f hf p
  obtain ⟨g, rfl⟩ : ∃ g, f = g + 1 := ⟨f - 1, by omega⟩
  rw [parseIfTail_succ, ifTailBody_eq]
  simp only [withToks_peekIs, hn, show (TT.END == TT.ELSE_IF) = false from rfl, show (TT.END == TT.ELSE) = false from rfl,
    Bool.false_eq_true, if_false, expectThen_on p tl tn rest hn hrest]

theorem IfTailAt.else {N : Nat} {t tl tn tl' te : Token} {c : Expr} {cons alt : List Stmt} {alts : List (Expr × List Stmt)}
    {rest rest' : List Token} (hn : tn.ty = .ELSE) (hrest : NoIll rest) (hb : BodyAt N (tn :: rest) alt (tl' :: te :: rest'))
    (he : te.ty = .END) (hrest' : NoIll rest') :
    IfTailAt (N + 1) t c cons alts (tl :: tn :: rest) (.ifS t c cons alts (some alt)) (te :: rest') := by
  intro f hf p
  obtain ⟨g, rfl⟩ : ∃ g, f = g + 1 := ⟨f - 1, by omega⟩
  rw [parseIfTail_succ, ifTailBody_eq]
  simp only [withToks_peekIs, hn, show (TT.ELSE == TT.ELSE_IF) = false from rfl, beq_self_eq_true, Bool.false_eq_true, if_false, if_true,
    withToks_next p tl tn rest hrest, hb g (by omega) p, he, show (TT.END == TT.ELSE_IF) = false from rfl,
    expectThen_on p tl' te rest' he hrest']

/-- nothing is asked of `tp`, the "(" after `@elseif`: Go's `parseElseIfStmt` steps over two tokens without looking at them -/
theorem IfTailAt.elseif {N1 N2 N3 : Nat} {t tl tn tp tx t4 : Token} {c ec : Expr} {cons body : List Stmt}
    {alts : List (Expr × List Stmt)} {rc rest ts2 ts3 : List Token} {st : Stmt} (hn : tn.ty = .ELSE_IF) (hc : NoIll (tp :: rc))
    (hec : ParsesAt N1 LOWEST rc ec (tx :: t4 :: rest)) (h4 : t4.ty = .RPAREN) (hrest : NoIll rest)
    (hb : BodyAt N2 (t4 :: rest) body ts2) (ht : IfTailAt N3 t c cons (alts ++ [(ec, body)]) ts2 st ts3) :
    IfTailAt (max (max N1 N2) N3 + 1) t c cons alts (tl :: tn :: tp :: rc) st ts3 := by
  obtain ⟨r0, rr, rfl⟩ := List.exists_cons_of_ne_nil hec.starts.1
  intro f hf p
  obtain ⟨g, rfl⟩ : ∃ g, f = g + 1 := ⟨f - 1, by omega⟩
  rw [parseIfTail_succ, ifTailBody_eq]
  simp only [withToks_peekIs, hn, beq_self_eq_true, if_true, withToks_expectPeek p tl tn (tp :: r0 :: rr) hn hc,
    withToks_next p tn tp _ hc.tail, withToks_next p tp r0 rr hc.tail.tail, hec g (by omega) p, expectThen_on p tx t4 rest h4 hrest,
    hb g (by omega) p]
  exact ht g (by omega) p

theorem StmtAt.ifS {N1 N2 N3 : Nat} {t1 t2 tx t4 : Token} {c : Expr} {cons : List Stmt} {rc rest ts2 ts3 : List Token} {st : Stmt}
    (h1 : t1.ty = .IF) (h2 : t2.ty = .LPAREN) (hc : NoIll rc)
    (hcond : ParsesAt N1 LOWEST rc c (tx :: t4 :: rest)) (h4 : t4.ty = .RPAREN) (hrest : NoIll rest)
    (hb : BodyAt N2 (t4 :: rest) cons ts2) (ht : IfTailAt N3 t1 c cons [] ts2 st ts3) :
    StmtAt (max (max N1 N2) N3 + 1) (t1 :: t2 :: rc) st ts3 := by
  obtain ⟨r0, rr, rfl⟩ := List.exists_cons_of_ne_nil hcond.starts.1
  intro f hf p
  obtain ⟨g, rfl⟩ : ∃ g, f = g + 1 := ⟨f - 1, by omega⟩
  rw [parseStatement_succ]
  unfold statementBody
  simp only [withToks_cur, h1]
  rw [parseIfStmt_eq]
  rw [expectThen_on p t1 t2 (r0 :: rr) h2 hc, withToks_next p t2 r0 rr hc.tail, hcond g (by omega) p]
  simp only [withToks_cur, expectThen_on p tx t4 rest h4 hrest, hb g (by omega) p]
  exact ht g (by omega) p

def LoopBodyAt (N : Nat) (ts : List Token) (body : List Stmt) (alt : Option (List Stmt)) (ts' : List Token) : Prop :=
  ∀ f, N ≤ f → ∀ p : PS, parseLoopBody (parseBody f) (p.withToks ts) = (some (body, alt), p.withToks ts')

theorem LoopBodyAt.end {N : Nat} {tl te : Token} {body : List Stmt} {ts rest' : List Token}
    (hb : BodyAt N ts body (tl :: te :: rest')) (he : te.ty = .END) (hrest' : NoIll rest') :
    LoopBodyAt N ts body none (te :: rest') := by
  intro f hf p
  unfold parseLoopBody loopElse
  simp only [hb f hf p, withToks_peekIs, he, show (TT.END == TT.ELSE) = false from rfl, Bool.false_eq_true, if_false,
    withToks_expectPeek p tl te rest' he hrest', if_true]

theorem LoopBodyAt.else {N1 N2 : Nat} {tl tel tl' te : Token} {body alt : List Stmt} {ts rest' rest'' : List Token}
    (hb : BodyAt N1 ts body (tl :: tel :: rest')) (hel : tel.ty = .ELSE) (hrest' : NoIll rest')
    (ha : BodyAt N2 (tel :: rest') alt (tl' :: te :: rest'')) (he : te.ty = .END) (hrest'' : NoIll rest'') :
    LoopBodyAt (max N1 N2) ts body (some alt) (te :: rest'') := by
  intro f hf p
  unfold parseLoopBody loopElse
  simp only [hb f (by omega) p, withToks_peekIs, hel, beq_self_eq_true, if_true, withToks_next p tl tel rest' hrest', ha f (by omega) p,
    withToks_expectPeek p tl' te rest'' he hrest'']

/-- the loop variable `t3` need only not be ILLEGAL, since its kind is never tested -/
theorem StmtAt.each {N1 N2 : Nat} {t1 t2 t3 t4 tx t6 : Token} {arr : Expr} {body : List Stmt} {alt : Option (List Stmt)}
    {rc rest ts' : List Token}
    (h1 : t1.ty = .EACH) (h2 : t2.ty = .LPAREN) (h4 : t4.ty = .IN) (hc : NoIll rc) (h3 : t3.ty ≠ .ILLEGAL)
    (harr : ParsesAt N1 LOWEST rc arr (tx :: t6 :: rest)) (h6 : t6.ty = .RPAREN) (hrest : NoIll rest)
    (hb : LoopBodyAt N2 (t6 :: rest) body alt ts') :
    StmtAt (max N1 N2 + 1) (t1 :: t2 :: t3 :: t4 :: rc) (.eachS t1 t3.lit arr body alt) ts' := by
  obtain ⟨r0, rr, rfl⟩ := List.exists_cons_of_ne_nil harr.starts.1
  intro f hf p
  obtain ⟨g, rfl⟩ : ∃ g, f = g + 1 := ⟨f - 1, by omega⟩
  have c4 := NoIll.cons (t := t4) (by rw [h4]; decide) hc
  rw [parseStatement_succ]
  unfold statementBody
  simp only [withToks_cur, h1]
  rw [parseEachStmt_eq, expectThen_on p t1 t2 (t3 :: t4 :: r0 :: rr) h2 (.cons h3 c4), withToks_next p t2 t3 _ c4,
    expectThen_on p t3 t4 (r0 :: rr) h4 hc, withToks_next p t4 r0 rr hc.tail, harr g (by omega) p, expectThen_on p tx t6 rest h6 hrest,
    hb g (by omega) p]
  rfl

theorem next_toks (p : PS) (t t2 : Token) (r : List Token) (hp : p.toks = t :: t2 :: r) (h : NoIll r) :
    p.next = { p with toks := t2 :: r } := by
  obtain ⟨toks, e, u, c, i, rs, n, o⟩ := p
  subst hp
  exact withToks_next ⟨[], e, u, c, i, rs, n, o⟩ t t2 r h

theorem loop_turn_next (f : Nat) (acc : List Stmt) (p p1 : PS) (st : Stmt) (hcur : p.curIs .EOF = false)
    (hst : parseStatement f p = (st, p1)) (hill : p1.curIs .ILLEGAL = false) :
    parseProgramLoop (f + 1) acc p = parseProgramLoop f (if st.isBad then acc else acc ++ [st]) p1.next := by
  rw [parseProgramLoop]
  simp only [hcur, Bool.false_eq_true, if_false, hst, hill]

theorem loop_eof (f : Nat) (acc : List Stmt) (p : PS) (e : Token) (r : List Token) (hp : p.toks = e :: r) (he : e.ty = .EOF) :
    parseProgramLoop (f + 1) acc p = (some acc, p) := by
  rw [parseProgramLoop, curIs_of p e r hp, he]
  rfl

/-- a turn of the statement loop on a statement that is kept, read off `parseStatement` at the state `p` (the statements
    that write to the parser's tables; `loop_stmt` is the case of a `StmtAt`) -/
theorem loop_turn_of {tf tl tn : Token} {r rest : List Token} {st : Stmt} {p p1 : PS} {f : Nat} (hst : parseStatement f p = (st, p1))
    (hp : p.toks = tf :: r) (hf : tf.ty ≠ .EOF) (hbad : st.isBad = false) (hp1 : p1.toks = tl :: tn :: rest) (hl : tl.ty ≠ .ILLEGAL)
    (hrest : NoIll rest) (acc : List Stmt) :
    parseProgramLoop (f + 1) acc p = parseProgramLoop f (acc ++ [st]) { p1 with toks := tn :: rest } := by
  rw [loop_turn_next f acc p p1 st (by rw [curIs_of p tf r hp]; simpa using hf) hst (by rw [curIs_of p1 tl _ hp1]; simpa using hl), hbad,
    next_toks p1 tl tn rest hp1 hrest]
  rfl

theorem loop_cons_of {tf tl : Token} {r k : List Token} {st : Stmt} {p p1 : PS} {f : Nat} (hst : parseStatement f p = (st, p1))
    (hp : p.toks = tf :: r) (hf : tf.ty ≠ .EOF) (hbad : st.isBad = false) (hp1 : p1.toks = tl :: k) (hl : tl.ty ≠ .ILLEGAL) (hne : k ≠ [])
    (hk : NoIll k) {acc stmts : List Stmt} {pf : PS}
    (hloop : parseProgramLoop f (acc ++ [st]) { p1 with toks := k } = (some (acc ++ [st] ++ stmts), pf)) :
    parseProgramLoop (f + 1) acc p = (some (acc ++ st :: stmts), pf) := by
  obtain ⟨tn, rest, rfl⟩ := List.exists_cons_of_ne_nil hne
  rw [loop_turn_of hst hp hf hbad hp1 hl hk.tail, hloop, List.append_assoc]
  rfl

theorem loop_stmt {N : Nat} {tf tl tn : Token} {r rest : List Token} {st : Stmt} (hst : StmtAt N (tf :: r) st (tl :: tn :: rest))
    {p : PS} (hp : p.toks = tf :: r) (hf : tf.ty ≠ .EOF) (hbad : st.isBad = false) (hl : tl.ty ≠ .ILLEGAL) (hrest : NoIll rest)
    {f : Nat} (hN : N ≤ f) (acc : List Stmt) :
    parseProgramLoop (f + 1) acc p = parseProgramLoop f (acc ++ [st]) { p with toks := tn :: rest } :=
  loop_turn_of (hst.on hN hp) hp hf hbad rfl hl hrest acc

theorem loop_cons {N : Nat} {tf tl : Token} {r k : List Token} {st : Stmt} (hst : StmtAt N (tf :: r) st (tl :: k))
    {p : PS} (hp : p.toks = tf :: r) (hf : tf.ty ≠ .EOF) (hbad : st.isBad = false) (hl : tl.ty ≠ .ILLEGAL) (hne : k ≠ []) (hk : NoIll k)
    {f : Nat} (hN : N ≤ f) {acc stmts : List Stmt} {pf : PS}
    (hloop : parseProgramLoop f (acc ++ [st]) { p with toks := k } = (some (acc ++ [st] ++ stmts), pf)) :
    parseProgramLoop (f + 1) acc p = (some (acc ++ st :: stmts), pf) :=
  loop_cons_of (hst.on hN hp) hp hf hbad rfl hl hne hk hloop

theorem loop_skip {t : Token} {k : List Token} {p : PS} (hp : p.toks = t :: k) (h : t.ty = .RPAREN ∨ t.ty = .RBRACES) (hne : k ≠ [])
    (hk : NoIll k) {f : Nat} (hf : 1 ≤ f) (acc : List Stmt) :
    parseProgramLoop (f + 1) acc p = parseProgramLoop f acc { p with toks := k } := by
  obtain ⟨tn, rest, rfl⟩ := List.exists_cons_of_ne_nil hne
  have hs : t.ty ≠ .EOF ∧ t.ty ≠ .ILLEGAL := by rcases h with h | h <;> rw [h] <;> exact ⟨by decide, by decide⟩
  rw [loop_turn_next f acc p _ .bad (by rw [curIs_of p t _ hp]; simpa using hs.1) ((StmtAt.skip h).on hf hp)
    (by simpa [PS.curIs, PS.cur] using hs.2)]
  exact congrArg _ (withToks_next p t tn rest hk.tail)

/-- the statement loop on the last token, in the form the loops over a list of items end with -/
theorem loop_nil {p : PS} {e : Token} (hp : p.toks = [e]) (he : e.ty = .EOF) {f : Nat} (hf : 1 ≤ f) (acc : List Stmt) :
    parseProgramLoop f acc p = (some (acc ++ []), { p with toks := [e] }) := by
  obtain ⟨g, rfl⟩ : ∃ g, f = g + 1 := ⟨f - 1, by omega⟩
  rw [loop_eof g acc p e [] hp he, List.append_nil]
  cases p
  cases hp
  rfl

/-- the loop over a statement that ends with its cursor on the token before ")" (as `@use`,
    `@reserve` and the expression form of `@insert` do) -/
theorem loop_stmt_rparen (f : Nat) (acc : List Stmt) (p p1 : PS) (st : Stmt) (tf ta t4 tn : Token) (r rest : List Token)
    (hp : p.toks = tf :: r) (hf : tf.ty ≠ .EOF)
    (hst : parseStatement (f + 2) p = (st, p1)) (hbad : st.isBad = false)
    (hp1 : p1.toks = ta :: t4 :: tn :: rest) (ha : ta.ty ≠ .ILLEGAL) (h4 : t4.ty = .RPAREN) (hclean : Clean (tn :: rest)) :
    parseProgramLoop (f + 3) acc p = parseProgramLoop (f + 1) (acc ++ [st]) { p1 with toks := tn :: rest } :=
  (loop_turn_of hst hp hf hbad hp1 ha hclean acc).trans
    (loop_skip rfl (.inl h4) (List.cons_ne_nil _ _) hclean (Nat.le_add_left 1 f) _)

theorem loop_cons_rparen {tf tl t4 : Token} {r k : List Token} {st : Stmt} {p p1 : PS} {f : Nat} (hst : parseStatement (f + 1) p = (st, p1))
    (hp : p.toks = tf :: r) (hf : tf.ty ≠ .EOF) (hbad : st.isBad = false) (hp1 : p1.toks = tl :: t4 :: k) (hl : tl.ty ≠ .ILLEGAL)
    (h4 : t4.ty = .RPAREN) (hne : k ≠ []) (hk : NoIll k) (h1 : 1 ≤ f) {acc stmts : List Stmt} {pf : PS}
    (hloop : parseProgramLoop f (acc ++ [st]) { p1 with toks := k } = (some (acc ++ [st] ++ stmts), pf)) :
    parseProgramLoop (f + 2) acc p = (some (acc ++ st :: stmts), pf) := by
  obtain ⟨g, rfl⟩ : ∃ g, f = g + 1 := ⟨f - 1, by omega⟩
  obtain ⟨tn, rest, rfl⟩ := List.exists_cons_of_ne_nil hne
  rw [loop_stmt_rparen g acc p p1 st tf tl t4 tn r rest hp hf hst hbad hp1 hl h4 hk, hloop, List.append_assoc]
  rfl

theorem loop_stmt_rbraces (f : Nat) (acc : List Stmt) (st : Stmt) (tf ta t5 tn : Token) (r rest : List Token)
    (hf : tf.ty ≠ .EOF) (hst : parseStatement (f + 2) ({ toks := tf :: r } : PS) = (st, { toks := ta :: t5 :: tn :: rest })) (hbad : st.isBad = false)
    (ha : ta.ty ≠ .ILLEGAL) (h5 : t5.ty = .RBRACES) (hclean : Clean (tn :: rest)) :
    parseProgramLoop (f + 3) acc ({ toks := tf :: r } : PS) = parseProgramLoop (f + 1) (acc ++ [st]) { toks := tn :: rest } :=
  (loop_turn_of hst rfl hf hbad rfl ha hclean acc).trans
    (loop_skip rfl (.inr h5) (List.cons_ne_nil _ _) hclean (Nat.le_add_left 1 f) _)

theorem initParser_clean_base (l : List Token) (base : Nat) (h : NoIll l) : initParser l base = { toks := l, nextId := base } := by
  have hn : ∀ x ∈ l, (x.ty == TT.ILLEGAL) = false := fun x hx => by simpa using h x hx
  cases l with
  | nil => simp [initParser, PS.noteIllegal, PS.cur, eofTok]
  | cons t r =>
    have h1 := hn t (by simp)
    cases r with
    | nil => simp [initParser, PS.noteIllegal, PS.cur, h1]
    | cons t2 r2 =>
      have h2 := hn t2 (by simp)
      simp [initParser, PS.noteIllegal, PS.cur, PS.peek, h1, h2]

theorem parseSource_tokens {src : Bytes} {toks : List Token} {e : Token} {base : Nat}
    (htok : tokenize src = some { toks := toks ++ [e], insideCode := false, panicked := false }) (hcl : NoIll (toks ++ [e]))
    {stmts : List Stmt} {p1 : PS}
    (h1 : parseProgramLoop (parseFuel (toks ++ [e])) [] ({ toks := toks ++ [e], nextId := base } : PS) = (some stmts, p1))
    (herr : p1.errors = []) (hoof : p1.oof = false) :
    parseSource src base =
      .ok { tok := (toks ++ [e]).headD e, stmts := stmts, useName := p1.useName, components := p1.components,
            inserts := p1.inserts, reserves := p1.reserves, nextId := p1.nextId } := by
  unfold parseSource
  rw [htok]
  simp only [Bool.false_eq_true, if_false]
  rw [initParser_clean_base _ base hcl, h1]
  have hcur : ({ toks := toks ++ [e], nextId := base } : PS).cur = (toks ++ [e]).headD e := by cases toks <;> rfl
  rw [hcur, finishParse_false, hoof, herr]
  rfl

end Tw
