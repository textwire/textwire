/-
  TwProofs.Lemmas.TextPrecedence — binding powers and parentheses, from the source bytes to the parsed program and its
  value (C01).  `{{ a op1 b op2 d }}` for three integer literals groups by binding power, equal powers to the left
  (`arith3Tree`, `arith3Code_parses`): stated for any two one-byte operators with what `Op1` (Lemmas/CodeSteps) lists, of
  which the arithmetic operators (`Op1.of_arith`) and the comparisons `<`, `>` (`Op1.of_cmp`) are instances.
  `{{ a op1 ( b op2 d ) }}`: parentheses override the binding powers (`parenCode_parses`, arithmetic operators only);
  `{{ ( digits ) }}`: redundant parentheses change nothing (`parenIntCode_parses`).
-/
import TwProofs.Lemmas.TextArith
namespace Tw
open Lx

/-- `{{ g1 a g3 c1 g4 b g5 c2 g6 d g2 }}` -/
def arith3Src (g1 a g3 : Bytes) (c1 : Byte) (g4 b' g5 : Bytes) (c2 : Byte) (g6 d g2 : Bytes) : Bytes :=
  [123, 123] ++ g1 ++ a ++ g3 ++ [c1] ++ g4 ++ b' ++ g5 ++ [c2] ++ g6 ++ d ++ g2 ++ [125, 125]

def arith3Keys (a : Bytes) (c1 : Byte) (ty1 : TT) (b' : Bytes) (c2 : Byte) (ty2 : TT) (d : Bytes) : List (TT × Bytes) :=
  [(.LBRACES, [123, 123]), (.INT, a), (ty1, [c1]), (.INT, b'), (ty2, [c2]), (.INT, d), (.RBRACES, [125, 125])]

def arith3Lexemes (g1 a g3 : Bytes) {c1 : Byte} {ty1 : TT} {pr1 : Nat} (hop1 : Op1 c1 ty1 pr1) (g4 b' g5 : Bytes) {c2 : Byte} {ty2 : TT} {pr2 : Nat}
    (hop2 : Op1 c2 ty2 pr2) (g6 d : Bytes) : List (Bytes × Lexeme) :=
  [(g1, .int a), (g3, .op c1 ty1 pr1 hop1), (g4, .int b'), (g5, .op c2 ty2 pr2 hop2), (g6, .int d)]

def arith3Code (g1 a g3 : Bytes) (c1 : Byte) (ty1 : TT) (g4 b' g5 : Bytes) (c2 : Byte) (ty2 : TT) (g6 d g2 : Bytes) : Code :=
  { src := arith3Src g1 a g3 c1 g4 b' g5 c2 g6 d g2, keys := arith3Keys a c1 ty1 b' c2 ty2 d }

theorem arith3_block (g1 a g3 : Bytes) {c1 : Byte} {ty1 : TT} {pr1 : Nat} (g4 b' g5 : Bytes) {c2 : Byte} {ty2 : TT} {pr2 : Nat} (g6 d g2 : Bytes)
    (hg1 : allWs g1) (hg2 : allWs g2) (hg3 : allWs g3) (hg4 : allWs g4) (hg5 : allWs g5) (hg6 : allWs g6)
    (ha : isDigits a) (hbd : isDigits b') (hdd : isDigits d) (hop1 : Op1 c1 ty1 pr1) (hop2 : Op1 c2 ty2 pr2) (dir : Bool) :
    Block dir (arith3Code g1 a g3 c1 ty1 g4 b' g5 c2 ty2 g6 d g2) (arith3Lexemes g1 a g3 hop1 g4 b' g5 hop2 g6 d) g2 where
  src tl := by simp only [arith3Code, arith3Src, List.append_assoc, List.cons_append, List.nil_append]; rfl
  keys := rfl
  gap := hg2
  first _ _ h := by cases h
  lexemes _ := ⟨hg1, Lexeme.int_before ha hg3 hop1.not_digit hop1.ne_dot,
    hg3, ⟨gap_digits_head_ne hg4 hbd hop1.not_ws hop1.not_digit, gap_digits_head_ne hg4 hbd (by decide) (by decide)⟩,
    hg4, Lexeme.int_before hbd hg5 hop2.not_digit hop2.ne_dot,
    hg5, ⟨gap_digits_head_ne hg6 hdd hop2.not_ws hop2.not_digit, gap_digits_head_ne hg6 hdd (by decide) (by decide)⟩,
    hg6, Lexeme.int_before hdd hg2 rfl (by decide), trivial⟩

def arith3Tree (pr1 pr2 : Nat) (t2 t3 t4 t5 t6 : Token) (va vb vd : Int64) : Expr :=
  if pr1 < pr2 then .inf t3 t3.lit (.int t2 va) (.inf t5 t5.lit (.int t4 vb) (.int t6 vd))
  else .inf t5 t5.lit (.inf t3 t3.lit (.int t2 va) (.int t4 vb)) (.int t6 vd)

theorem ParsesAt.bin3 {t2 t3 t4 t5 t6 t7 : Token} {tail : List Token} {va vb vd : Int64}
    {c1 : Byte} {ty1 : TT} {pr1 : Nat} {c2 : Byte} {ty2 : TT} {pr2 : Nat} (hop1 : Op1 c1 ty1 pr1) (hop2 : Op1 c2 ty2 pr2)
    (h2 : t2.ty = .INT) (h3 : t3.ty = ty1) (h4 : t4.ty = .INT) (h5 : t5.ty = ty2) (h6 : t6.ty = .INT) (h7 : t7.ty = .RBRACES)
    (hva : parseInt64 t2.lit = some va) (hvb : parseInt64 t4.lit = some vb) (hvd : parseInt64 t6.lit = some vd)
    (hclean : NoIll (t4 :: t5 :: t6 :: t7 :: tail)) :
    ParsesAt 6 LOWEST (t2 :: t3 :: t4 :: t5 :: t6 :: t7 :: tail) (arith3Tree pr1 pr2 t2 t3 t4 t5 t6 va vb vd) (t6 :: t7 :: tail) := by
  subst h3 h5
  obtain rfl := hop1.prec_eq
  obtain rfl := hop2.prec_eq
  have last : ∀ pr, ParsesAt 2 pr (t6 :: t7 :: tail) (.int t6 vd) (t6 :: t7 :: tail) := fun _ => .one (atomExpr_int h6 hvd) (.rbraces h7)
  unfold arith3Tree
  split
  next hlt =>
    -- the second operator binds tighter: it takes `b`
    exact .mono (.atom (atomExpr_int h2 hva) (.op hop1.isBinary hop1.lowest_lt hclean
      (.atom (atomExpr_int h4 hvb) (.op hop2.isBinary hlt (hclean.drop 2) (last _) (.stop (.rbraces h7))))
      (.stop (.rbraces h7)))) (by omega)
  next hlt =>
    -- the first operator keeps `b`; the second one applies to the result
    exact .mono (.atom (atomExpr_int h2 hva) (.op hop1.isBinary hop1.lowest_lt hclean
      (.one (atomExpr_int h4 hvb) (.le (Nat.le_of_not_lt hlt)))
      (.op hop2.isBinary hop2.lowest_lt (hclean.drop 2) (last _) (.stop (.rbraces h7))))) (by omega)

theorem arith3Code_parses (g1 a g3 : Bytes) (c1 : Byte) (ty1 : TT) (pr1 : Nat) (g4 b' g5 : Bytes) (c2 : Byte) (ty2 : TT) (pr2 : Nat) (g6 d g2 : Bytes)
    (hg1 : allWs g1) (hg2 : allWs g2) (hg3 : allWs g3) (hg4 : allWs g4) (hg5 : allWs g5) (hg6 : allWs g6)
    (ha : isDigits a) (hbd : isDigits b') (hdd : isDigits d) (hop1 : Op1 c1 ty1 pr1) (hop2 : Op1 c2 ty2 pr2)
    (hba : digitsToNat a ≤ 9223372036854775807) (hbb : digitsToNat b' ≤ 9223372036854775807) (hbd' : digitsToNat d ≤ 9223372036854775807) :
    ParsesAs (arith3Code g1 a g3 c1 ty1 g4 b' g5 c2 ty2 g6 d g2) (fun st => ∃ t6 e, st = .expr t6 e ∧ ∃ t2 t3 t4 t5, t3.lit = [c1] ∧ t5.lit = [c2] ∧
      e = arith3Tree pr1 pr2 t2 t3 t4 t5 t6 (Int64.ofNat (digitsToNat a)) (Int64.ofNat (digitsToNat b')) (Int64.ofNat (digitsToNat d))) :=
  (arith3_block g1 a g3 g4 b' g5 g6 d g2 hg1 hg2 hg3 hg4 hg5 hg6 ha hbd hdd hop1 hop2 false).parsesAs nofun
    fun t2 ty2' lit2 t3 ty3 lit3 t4 ty4 lit4 t5 ty5 lit5 _ ty6 lit6 _ _ ty7 cl =>
      ⟨_, _, _, Nat.le_of_ble_eq_true rfl, .bin3 hop1 hop2 ty2' ty3 ty4 ty5 ty6 ty7 (parseInt64_lit lit2 ha hba)
        (parseInt64_lit lit4 hbd hbb) (parseInt64_lit lit6 hdd hbd') (cl.drop 2), t2, t3, t4, t5, lit3, lit5, rfl⟩

theorem arith3_evals_right (c : Ctx) (env : Env) (t2 t3 t4 t5 t6 : Token) (op1 op2 : Bytes) (a b' d y : Int64) (v : Val)
    (h1 : ∀ line, intInfix op2 b' d line = .ok (.int y)) (h2 : ∀ line, intInfix op1 a y line = .ok v) (fu : Nat) :
    evalExpr (fu + 7) c env (.inf t3 op1 (.int t2 a) (.inf t5 op2 (.int t4 b') (.int t6 d))) = .ok v := by
  rw [evalExpr_inf_int (fu + 6) c env t3 op1 _ _ a y (evalExpr_int ..)
    ((evalExpr_inf_int (fu + 5) c env t5 op2 _ _ b' d (evalExpr_int ..) (evalExpr_int ..)).trans (h1 _)), h2]

theorem arith3_evals_left (c : Ctx) (env : Env) (t2 t3 t4 t5 t6 : Token) (op1 op2 : Bytes) (a b' d x : Int64) (v : Val)
    (h1 : ∀ line, intInfix op1 a b' line = .ok (.int x)) (h2 : ∀ line, intInfix op2 x d line = .ok v) (fu : Nat) :
    evalExpr (fu + 7) c env (.inf t5 op2 (.inf t3 op1 (.int t2 a) (.int t4 b')) (.int t6 d)) = .ok v := by
  rw [evalExpr_inf_int (fu + 6) c env t5 op2 _ _ x d
    ((evalExpr_inf_int (fu + 5) c env t3 op1 _ _ a b' (evalExpr_int ..) (evalExpr_int ..)).trans (h1 _)) (evalExpr_int ..), h2]

def CmpOp (c : Byte) (ty : TT) : Prop := (c = 60 ∧ ty = .LTHAN) ∨ (c = 62 ∧ ty = .GTHAN)

theorem CmpOp.isSym {c : Byte} {ty : TT} {z : Byte} (h : CmpOp c ty) (hz : z ≠ 61) (dir : Bool) : IsSym dir c ty z := by
  rcases h with ⟨rfl, rfl⟩ | ⟨rfl, rfl⟩
  · exact Or.inr (Or.inr ⟨61, .LTHAN_EQ, by decide, hz⟩)
  · exact Or.inr (Or.inr ⟨61, .GTHAN_EQ, by decide, hz⟩)

theorem Op1.of_cmp {c : Byte} {ty : TT} (h : CmpOp c ty) : Op1 c ty LESS_GREATER :=
  ⟨by rcases h with ⟨rfl, rfl⟩ | ⟨rfl, rfl⟩ <;> decide, fun s g x hh hg hr _ hx => code_sym_step s c ty g x hh hg hr (h.isSym hx _)⟩

/-- `{{ g1 a g3 c1 g4 ( g5 b g6 c2 g7 d g8 ) g2 }}` -/
def parenSrc (g1 a g3 : Bytes) (c1 : Byte) (g4 g5 b' g6 : Bytes) (c2 : Byte) (g7 d g8 g2 : Bytes) : Bytes :=
  [123, 123] ++ g1 ++ a ++ g3 ++ [c1] ++ g4 ++ [40] ++ g5 ++ b' ++ g6 ++ [c2] ++ g7 ++ d ++ g8 ++ [41] ++ g2 ++ [125, 125]

def parenKeys (a : Bytes) (c1 : Byte) (ty1 : TT) (b' : Bytes) (c2 : Byte) (ty2 : TT) (d : Bytes) : List (TT × Bytes) :=
  [(.LBRACES, [123, 123]), (.INT, a), (ty1, [c1]), (.LPAREN, [40]), (.INT, b'), (ty2, [c2]), (.INT, d), (.RPAREN, [41]), (.RBRACES, [125, 125])]

def parenLexemes (g1 a g3 : Bytes) (c1 : Byte) (ty1 : TT) (g4 g5 b' g6 : Bytes) (c2 : Byte) (ty2 : TT) (g7 d g8 : Bytes) : List (Bytes × Lexeme) :=
  [(g1, .int a), (g3, .sym c1 ty1), (g4, .sym 40 .LPAREN), (g5, .int b'), (g6, .sym c2 ty2), (g7, .int d), (g8, .sym 41 .RPAREN)]

def parenCode (g1 a g3 : Bytes) (c1 : Byte) (ty1 : TT) (g4 g5 b' g6 : Bytes) (c2 : Byte) (ty2 : TT) (g7 d g8 g2 : Bytes) : Code :=
  { src := parenSrc g1 a g3 c1 g4 g5 b' g6 c2 g7 d g8 g2, keys := parenKeys a c1 ty1 b' c2 ty2 d }

/-- for `ArithOp`, where `arith3_block` takes any `Op1`: the first operator stands in front of "(", and that it is not "("
    itself (`ArithOp.ne_lparen`) is not among `Op1.facts`.  `pr1`, `pr2` only type `hop1`, `hop2`.  `Block false`: "(" and ")"
    are `IsSym` outside a directive only. -/
theorem paren_block (g1 a g3 : Bytes) (c1 : Byte) (ty1 : TT) (pr1 : Nat) (g4 g5 b' g6 : Bytes) (c2 : Byte) (ty2 : TT) (pr2 : Nat) (g7 d g8 g2 : Bytes)
    (hg1 : allWs g1) (hg2 : allWs g2) (hg3 : allWs g3) (hg4 : allWs g4) (hg5 : allWs g5) (hg6 : allWs g6) (hg7 : allWs g7) (hg8 : allWs g8)
    (ha : isDigits a) (hbd : isDigits b') (hdd : isDigits d) (hop1 : ArithOp c1 ty1 pr1) (hop2 : ArithOp c2 ty2 pr2) :
    Block false (parenCode g1 a g3 c1 ty1 g4 g5 b' g6 c2 ty2 g7 d g8 g2) (parenLexemes g1 a g3 c1 ty1 g4 g5 b' g6 c2 ty2 g7 d g8) g2 where
  src tl := by show parenSrc _ _ _ _ _ _ _ _ _ _ _ _ _ ++ tl = _; unfold parenSrc; simp only [List.append_assoc, List.cons_append, List.nil_append]; rfl
  keys := rfl
  gap := hg2
  first _ _ h := by cases h
  lexemes _ := ⟨hg1, Lexeme.int_before ha hg3 hop1.not_digit hop1.ne_dot,
    hg3, hop1.isSym (head_ne_of_all (u := 40 :: _) hg4 hop1.not_ws (fun _ => hop1.ne_lparen)) false,
    hg4, isSym_lparen _,
    hg5, Lexeme.int_before hbd hg6 hop2.not_digit hop2.ne_dot,
    hg6, hop2.isSym (gap_digits_head_ne hg7 hdd hop2.not_ws hop2.not_digit) false,
    hg7, Lexeme.int_before hdd hg8 rfl (by decide),
    hg8, isSym_rparen _, trivial⟩

theorem ParsesAt.op_paren {t2 t3 t4 t5 t6 t7 t8 t9 : Token} {tail : List Token} {va vb vd : Int64}
    {c1 : Byte} {ty1 : TT} {pr1 : Nat} {c2 : Byte} {ty2 : TT} {pr2 : Nat} (hop1 : Op1 c1 ty1 pr1) (hop2 : Op1 c2 ty2 pr2)
    (h2 : t2.ty = .INT) (h3 : t3.ty = ty1) (h4 : t4.ty = .LPAREN) (h5 : t5.ty = .INT) (h6 : t6.ty = ty2) (h7 : t7.ty = .INT)
    (h8 : t8.ty = .RPAREN) (h9 : t9.ty = .RBRACES)
    (hva : parseInt64 t2.lit = some va) (hvb : parseInt64 t5.lit = some vb) (hvd : parseInt64 t7.lit = some vd)
    (hclean : NoIll (t4 :: t5 :: t6 :: t7 :: t8 :: t9 :: tail)) :
    ParsesAt 7 LOWEST (t2 :: t3 :: t4 :: t5 :: t6 :: t7 :: t8 :: t9 :: tail)
      (.inf t3 t3.lit (.int t2 va) (.inf t6 t6.lit (.int t5 vb) (.int t7 vd))) (t8 :: t9 :: tail) := by
  subst h3 h6
  obtain rfl := hop1.prec_eq
  obtain rfl := hop2.prec_eq
  exact .atom (atomExpr_int h2 hva) (.op hop1.isBinary hop1.lowest_lt hclean
    (.paren h4 h8 (hclean.drop 2) (hclean.drop 5)
      (.atom (atomExpr_int h5 hvb) (.op hop2.isBinary hop2.lowest_lt (hclean.drop 3)
        (.one (atomExpr_int h7 hvd) (.rparen h8)) (.stop (.rparen h8))))
      (.stop (.rbraces h9)))
    (.stop (.rbraces h9)))

theorem parenCode_parses (g1 a g3 : Bytes) (c1 : Byte) (ty1 : TT) (pr1 : Nat) (g4 g5 b' g6 : Bytes) (c2 : Byte) (ty2 : TT) (pr2 : Nat)
    (g7 d g8 g2 : Bytes)
    (hg1 : allWs g1) (hg2 : allWs g2) (hg3 : allWs g3) (hg4 : allWs g4) (hg5 : allWs g5) (hg6 : allWs g6) (hg7 : allWs g7) (hg8 : allWs g8)
    (ha : isDigits a) (hbd : isDigits b') (hdd : isDigits d) (hop1 : ArithOp c1 ty1 pr1) (hop2 : ArithOp c2 ty2 pr2)
    (hba : digitsToNat a ≤ 9223372036854775807) (hbb : digitsToNat b' ≤ 9223372036854775807) (hbd' : digitsToNat d ≤ 9223372036854775807) :
    ParsesAs (parenCode g1 a g3 c1 ty1 g4 g5 b' g6 c2 ty2 g7 d g8 g2) (fun st => ∃ t8 e, st = .expr t8 e ∧ ∃ t2 t3 t5 t6 t7,
      e = .inf t3 [c1] (.int t2 (Int64.ofNat (digitsToNat a)))
        (.inf t6 [c2] (.int t5 (Int64.ofNat (digitsToNat b'))) (.int t7 (Int64.ofNat (digitsToNat d))))) :=
  (paren_block g1 a g3 c1 ty1 pr1 g4 g5 b' g6 c2 ty2 pr2 g7 d g8 g2 hg1 hg2 hg3 hg4 hg5 hg6 hg7 hg8 ha hbd hdd hop1 hop2).parsesAs nofun
    fun t2 ty2' lit2 t3 ty3 lit3 _ ty4 _ t5 ty5 lit5 t6 ty6 lit6 t7 ty7 lit7 _ ty8 _ _ _ ty9 cl =>
      ⟨_, _, _, Nat.le_of_ble_eq_true rfl, .op_paren (.of_arith hop1) (.of_arith hop2) ty2' ty3 ty4 ty5 ty6 ty7 ty8 ty9 (parseInt64_lit lit2 ha hba)
        (parseInt64_lit lit5 hbd hbb) (parseInt64_lit lit7 hdd hbd') (cl.drop 2), t2, t3, t5, t6, t7, by rw [lit3, lit6]; rfl⟩

/-- `{{ g1 ( g3 d g4 ) g2 }}` -/
def parenIntSrc (g1 g3 d g4 g2 : Bytes) : Bytes := [123, 123] ++ g1 ++ [40] ++ g3 ++ d ++ g4 ++ [41] ++ g2 ++ [125, 125]

def parenIntKeys (d : Bytes) : List (TT × Bytes) :=
  [(.LBRACES, [123, 123]), (.LPAREN, [40]), (.INT, d), (.RPAREN, [41]), (.RBRACES, [125, 125])]

def parenIntLexemes (g1 g3 d g4 : Bytes) : List (Bytes × Lexeme) :=
  [(g1, .sym 40 .LPAREN), (g3, .int d), (g4, .sym 41 .RPAREN)]

def parenIntCode (g1 g3 d g4 g2 : Bytes) : Code := { src := parenIntSrc g1 g3 d g4 g2, keys := parenIntKeys d }

theorem parenInt_block (g1 g3 d g4 g2 : Bytes) (hg1 : allWs g1) (hg2 : allWs g2) (hg3 : allWs g3) (hg4 : allWs g4) (hd : isDigits d) :
    Block false (parenIntCode g1 g3 d g4 g2) (parenIntLexemes g1 g3 d g4) g2 where
  src tl := by simp only [parenIntCode, parenIntSrc, List.append_assoc, List.cons_append, List.nil_append]; rfl
  keys := rfl
  gap := hg2
  first _ _ h := by cases h
  lexemes _ := ⟨hg1, isSym_lparen _, hg3, Lexeme.int_before hd hg4 rfl (by decide), hg4, isSym_rparen _, trivial⟩

theorem ParsesAt.paren_int {t2 t3 t4 t5 : Token} {tail : List Token} {v : Int64} (h2 : t2.ty = .LPAREN) (h3 : t3.ty = .INT)
    (h4 : t4.ty = .RPAREN) (h5 : t5.ty = .RBRACES) (hv : parseInt64 t3.lit = some v) (hclean : NoIll (t4 :: t5 :: tail)) :
    ParsesAt 3 LOWEST (t2 :: t3 :: t4 :: t5 :: tail) (.int t3 v) (t4 :: t5 :: tail) :=
  .paren (rest := t3 :: t4 :: t5 :: tail) h2 h4 hclean hclean.tail (.one (atomExpr_int h3 hv) (.rparen h4)) (.stop (.rbraces h5))

theorem parenIntCode_parses (g1 g3 d g4 g2 : Bytes) (hg1 : allWs g1) (hg2 : allWs g2) (hg3 : allWs g3) (hg4 : allWs g4) (hd : isDigits d)
    (hb : digitsToNat d ≤ 9223372036854775807) :
    ParsesAs (parenIntCode g1 g3 d g4 g2) (fun st => ∃ t4 e, st = .expr t4 e ∧ ∃ t3, e = .int t3 (Int64.ofNat (digitsToNat d))) :=
  (parenInt_block g1 g3 d g4 g2 hg1 hg2 hg3 hg4 hd).parsesAs nofun fun _ ty2 _ t3 ty3 lit3 _ ty4 _ _ _ ty5 cl =>
    ⟨_, _, _, Nat.le_of_ble_eq_true rfl, .paren_int ty2 ty3 ty4 ty5 (parseInt64_lit lit3 hd hb) (cl.drop 2), t3, rfl⟩

/-! Statements in their own right about the same shapes, each read off the shape's `x_block` or its rule (`ParsesAt.bin3`, `.op_paren`,
    `.paren_int`).  No from-source proof uses them. -/

theorem lex_arith3 (s : Lx) (g1 a g3 : Bytes) (c1 : Byte) (ty1 : TT) (pr1 : Nat) (g4 b' g5 : Bytes) (c2 : Byte) (ty2 : TT) (pr2 : Nat)
    (g6 d g2 tl : Bytes) (hh : s.isHTML = true) (hb : s.braces = 0)
    (hg1 : allWs g1) (hg2 : allWs g2) (hg3 : allWs g3) (hg4 : allWs g4) (hg5 : allWs g5) (hg6 : allWs g6)
    (ha : isDigits a) (hbd : isDigits b') (hdd : isDigits d) (hop1 : ArithOp c1 ty1 pr1) (hop2 : ArithOp c2 ty2 pr2)
    (hr : s.rest = arith3Src g1 a g3 c1 g4 b' g5 c2 g6 d g2 ++ tl) :
    ∃ toks s7, Run s toks s7 ∧ toks.map key = arith3Keys a c1 ty1 b' c2 ty2 d ∧ s7.rest = tl ∧ s7.prev = 125 ∧
      mode s7 = (true, s.isDirective, s.parens, 0, s.panicked) :=
  (arith3_block g1 a g3 g4 b' g5 g6 d g2 hg1 hg2 hg3 hg4 hg5 hg6 ha hbd hdd (.of_arith hop1) (.of_arith hop2) _).lex rfl hh hb hr

theorem prattLoop_stop_rbraces (f prec : Nat) (left : Expr) (t tn : Token) (rest : List Token) (h : tn.ty = .RBRACES) :
    prattLoop (f + 1) prec left ({ toks := t :: tn :: rest } : PS) = (left, { toks := t :: tn :: rest }) :=
  (LoopsAt.stop (.rbraces h)).on (by omega) rfl

theorem parse_expr_stmt_of (g : Nat) (t1 t2 tl t7 : Token) (mid tail : List Token) (e : Expr) (h1 : t1.ty = .LBRACES) (h2 : t2.ty = .INT)
    (h7 : t7.ty = .RBRACES) (hclean : ∀ x ∈ t2 :: mid, x.ty ≠ .ILLEGAL) (hclean2 : ∀ x ∈ tl :: t7 :: tail, x.ty ≠ .ILLEGAL)
    (hex : parseExpression g LOWEST ({ toks := t2 :: mid } : PS) = (e, { toks := tl :: t7 :: tail })) :
    parseStatement (g + 1) ({ toks := t1 :: t2 :: mid } : PS) = (.expr tl e, { toks := t7 :: tail }) :=
  parseStatement_expr (p := { toks := [] }) h1 (by rw [h2]; decide) (fun e => by rw [h2] at e; cases e) h7 (NoIll.tail hclean)
    (NoIll.drop hclean2 2) hex

theorem parse_bin3_expr (k : Nat) (t2 t3 t4 t5 t6 t7 : Token) (tail : List Token) (va vb vd : Int64)
    (c1 : Byte) (ty1 : TT) (pr1 : Nat) (c2 : Byte) (ty2 : TT) (pr2 : Nat) (hop1 : Op1 c1 ty1 pr1) (hop2 : Op1 c2 ty2 pr2)
    (h2 : t2.ty = .INT) (h3 : t3.ty = ty1) (h4 : t4.ty = .INT) (h5 : t5.ty = ty2) (h6 : t6.ty = .INT) (h7 : t7.ty = .RBRACES)
    (hva : parseInt64 t2.lit = some va) (hvb : parseInt64 t4.lit = some vb) (hvd : parseInt64 t6.lit = some vd)
    (hclean : ∀ x ∈ tail, x.ty ≠ .ILLEGAL) :
    parseExpression (k + 6) LOWEST ({ toks := t2 :: t3 :: t4 :: t5 :: t6 :: t7 :: tail } : PS) =
      (arith3Tree pr1 pr2 t2 t3 t4 t5 t6 va vb vd, { toks := t6 :: t7 :: tail }) :=
  (ParsesAt.bin3 hop1 hop2 h2 h3 h4 h5 h6 h7 hva hvb hvd
    (.of_ty h4 (.cons (h5 ▸ hop2.ne_illegal) (.of_ty h6 (.of_ty h7 hclean))))).on (by omega) rfl

theorem parse_arith3_expr (k : Nat) (t2 t3 t4 t5 t6 t7 : Token) (tail : List Token) (va vb vd : Int64)
    (c1 : Byte) (ty1 : TT) (pr1 : Nat) (c2 : Byte) (ty2 : TT) (pr2 : Nat) (hop1 : ArithOp c1 ty1 pr1) (hop2 : ArithOp c2 ty2 pr2)
    (h2 : t2.ty = .INT) (h3 : t3.ty = ty1) (h4 : t4.ty = .INT) (h5 : t5.ty = ty2) (h6 : t6.ty = .INT) (h7 : t7.ty = .RBRACES)
    (hva : parseInt64 t2.lit = some va) (hvb : parseInt64 t4.lit = some vb) (hvd : parseInt64 t6.lit = some vd)
    (hclean : ∀ x ∈ tail, x.ty ≠ .ILLEGAL) :
    parseExpression (k + 6) LOWEST ({ toks := t2 :: t3 :: t4 :: t5 :: t6 :: t7 :: tail } : PS) =
      (arith3Tree pr1 pr2 t2 t3 t4 t5 t6 va vb vd, { toks := t6 :: t7 :: tail }) :=
  parse_bin3_expr k t2 t3 t4 t5 t6 t7 tail va vb vd c1 ty1 pr1 c2 ty2 pr2 (.of_arith hop1) (.of_arith hop2) h2 h3 h4 h5 h6 h7 hva hvb hvd hclean

theorem codeStepDesc_cmpop (s : Lx) (c : Byte) (ty : TT) (x : Bytes) (hop : CmpOp c ty) (hr : s.rest = c :: x) (hx : x.headD 0 ≠ 61) :
    codeStepDesc s = { st := s, n := 1, ty := ty, lit := [c] } :=
  codeStepDesc_sym s c ty x hr (hop.isSym hx _)

theorem lex_paren (s : Lx) (g1 a g3 : Bytes) (c1 : Byte) (ty1 : TT) (pr1 : Nat) (g4 g5 b' g6 : Bytes) (c2 : Byte) (ty2 : TT) (pr2 : Nat)
    (g7 d g8 g2 tl : Bytes) (hh : s.isHTML = true) (hb : s.braces = 0) (hdir : s.isDirective = false)
    (hg1 : allWs g1) (hg2 : allWs g2) (hg3 : allWs g3) (hg4 : allWs g4) (hg5 : allWs g5) (hg6 : allWs g6) (hg7 : allWs g7) (hg8 : allWs g8)
    (ha : isDigits a) (hbd : isDigits b') (hdd : isDigits d) (hop1 : ArithOp c1 ty1 pr1) (hop2 : ArithOp c2 ty2 pr2)
    (hr : s.rest = parenSrc g1 a g3 c1 g4 g5 b' g6 c2 g7 d g8 g2 ++ tl) :
    ∃ toks s9, Run s toks s9 ∧ toks.map key = parenKeys a c1 ty1 b' c2 ty2 d ∧ s9.rest = tl ∧ s9.prev = 125 ∧
      mode s9 = (true, false, s.parens, 0, s.panicked) :=
  (paren_block g1 a g3 c1 ty1 pr1 g4 g5 b' g6 c2 ty2 pr2 g7 d g8 g2 hg1 hg2 hg3 hg4 hg5 hg6 hg7 hg8 ha hbd hdd hop1 hop2).lex hdir hh hb hr

theorem prattLoop_stop_rparen (f prec : Nat) (left : Expr) (t tn : Token) (rest : List Token) (h : tn.ty = .RPAREN) :
    prattLoop (f + 1) prec left ({ toks := t :: tn :: rest } : PS) = (left, { toks := t :: tn :: rest }) :=
  (LoopsAt.stop (.rparen h)).on (by omega) rfl

theorem parse_paren_expr (k : Nat) (t2 t3 t4 t5 t6 t7 t8 t9 : Token) (tail : List Token) (va vb vd : Int64)
    (c1 : Byte) (ty1 : TT) (pr1 : Nat) (c2 : Byte) (ty2 : TT) (pr2 : Nat) (hop1 : ArithOp c1 ty1 pr1) (hop2 : ArithOp c2 ty2 pr2)
    (h2 : t2.ty = .INT) (h3 : t3.ty = ty1) (h4 : t4.ty = .LPAREN) (h5 : t5.ty = .INT) (h6 : t6.ty = ty2) (h7 : t7.ty = .INT)
    (h8 : t8.ty = .RPAREN) (h9 : t9.ty = .RBRACES)
    (hva : parseInt64 t2.lit = some va) (hvb : parseInt64 t5.lit = some vb) (hvd : parseInt64 t7.lit = some vd)
    (hclean : ∀ x ∈ tail, x.ty ≠ .ILLEGAL) :
    parseExpression (k + 7) LOWEST ({ toks := t2 :: t3 :: t4 :: t5 :: t6 :: t7 :: t8 :: t9 :: tail } : PS) =
      (.inf t3 t3.lit (.int t2 va) (.inf t6 t6.lit (.int t5 vb) (.int t7 vd)), { toks := t8 :: t9 :: tail }) :=
  (ParsesAt.op_paren (.of_arith hop1) (.of_arith hop2) h2 h3 h4 h5 h6 h7 h8 h9 hva hvb hvd
    (.of_ty h4 (.of_ty h5 (.cons (h6 ▸ hop2.ne_illegal) (.of_ty h7 (.of_ty h8 (.of_ty h9 hclean))))))).on (by omega) rfl

theorem lex_parenInt (s : Lx) (g1 g3 d g4 g2 tl : Bytes) (hh : s.isHTML = true) (hb : s.braces = 0) (hdir : s.isDirective = false)
    (hg1 : allWs g1) (hg2 : allWs g2) (hg3 : allWs g3) (hg4 : allWs g4) (hd : isDigits d) (hr : s.rest = parenIntSrc g1 g3 d g4 g2 ++ tl) :
    ∃ toks s5, Run s toks s5 ∧ toks.map key = parenIntKeys d ∧ s5.rest = tl ∧ s5.prev = 125 ∧
      mode s5 = (true, false, s.parens, 0, s.panicked) :=
  (parenInt_block g1 g3 d g4 g2 hg1 hg2 hg3 hg4 hd).lex hdir hh hb hr

theorem parse_parenInt_expr (k : Nat) (t2 t3 t4 t5 : Token) (tail : List Token) (v : Int64) (h2 : t2.ty = .LPAREN) (h3 : t3.ty = .INT)
    (h4 : t4.ty = .RPAREN) (h5 : t5.ty = .RBRACES) (hv : parseInt64 t3.lit = some v) (hclean : ∀ x ∈ tail, x.ty ≠ .ILLEGAL) :
    parseExpression (k + 3) LOWEST ({ toks := t2 :: t3 :: t4 :: t5 :: tail } : PS) = (.int t3 v, { toks := t4 :: t5 :: tail }) :=
  (ParsesAt.paren_int h2 h3 h4 h5 hv (.of_ty h4 (.of_ty h5 hclean))).on (by omega) rfl

end Tw
