/-
  TwProofs.C08 — lexing and parsing terminate on every input and end in a program or an error.
-/
import TwProofs.Lemmas.LexNoPanic
import TwProofs.Lemmas.ParseFuel

namespace Tw.C08
open Tw Tw.Lx

/-- every `NextToken` body (the part of the Go function before its tail call) either returns EOF
    or leaves strictly fewer bytes: no byte string makes the lexer stand still -/
theorem nextToken_progress (s : Lx) :
    ((∃ t, (nextStep s).1 = .tok t ∧ t.ty = .EOF) ∧ (nextStep s).2.rest.length ≤ s.rest.length) ∨
    ((nextStep s).2.rest.length < s.rest.length ∧ ∀ t, (nextStep s).1 = .tok t → t.ty ≠ .EOF) :=
  nextStep_progress rfl

/-- **the lexer terminates**: with fuel `remaining bytes + 1` the token loop returns, from every
    state -/
theorem lexer_terminates (fuel : Nat) (s : Lx) (h : s.rest.length + 1 ≤ fuel) : (lexAll fuel s).isSome = true :=
  lexAll_terminates fuel s h

/-- `tokenize` (what `parser.New` + the parser's `nextToken` calls consume) is total on byte strings -/
theorem tokenize_total (inp : Bytes) : (tokenize inp).isSome = true := Tw.tokenize_total inp

/-- the token list always ends with EOF: the parser can never be handed an endless stream (that
    this EOF sits at the end of the input is C19's `token_list_is_fully_tiled`) -/
theorem token_list_ends_with_eof (inp : Bytes) (r : LexResult) (h : tokenize inp = some r) :
    ∃ ts e, r.toks = ts ++ [e] ∧ e.ty = .EOF := by
  obtain ⟨sf, hl, _⟩ := tokenize_some h
  exact lexAll_ends_eof hl

/-- **the parser terminates**: the model parser is a recursion on fuel, and with the fuel its driver
    gives it (four units per token and a constant) no call ever reaches fuel zero — for every byte
    string, `parseSource` never answers "out of fuel".  The measure: the token list never grows,
    always ends in EOF, every loop iteration and every descent that closes a cycle of the call
    graph (loop → expression, block → block, `@elseif` → `@elseif`, slot → slot, …) comes after a
    token was consumed, and the chains that descend without consuming (expression → loop,
    body → block → statement, object loop → expression for `{a}`) are of bounded length
    (`expr_adq`, `stmt_adq`, `parseProgramLoop_adq`). -/
theorem parser_never_out_of_fuel (src : Bytes) (base : Nat) : parseSource src base ≠ .oof :=
  parseSource_ne_oof src base (fun r h => token_list_ends_with_eof src r h) (Tw.tokenize_total src)

/-- `parseSource` answers neither "out of fuel" (`parser_never_out_of_fuel`) nor with the lexer's
    panic outcome (`tokenize_no_panic`): for every byte string lexing and parsing end in a program
    or in an error -/
theorem parse_always_answers (src : Bytes) (base : Nat) :
    (∃ prog, parseSource src base = .ok prog) ∨ (∃ e, parseSource src base = .err e) := by
  have h1 := parser_never_out_of_fuel src base
  have h2 := parseSource_ne_lexPanic src base (tokenize_no_panic src)
  cases h : parseSource src base with
  | ok prog => exact Or.inl ⟨prog, rfl⟩
  | err e => exact Or.inr ⟨e, rfl⟩
  | oof => exact absurd h h1
  | lexPanic => exact absurd h h2

/-- every error line is ≥ 1 (`Token.ErrorLine` adds one to a zero-based line) -/
theorem errorLine_pos (t : Token) : 1 ≤ t.errorLine := by simp [Token.errorLine]

/-! non-vacuity: a directive, an object, a string and a comment left open at the end of the input are rejected -/

example : (match parseSource (b "@if(true)x") with | .err e => e.code == "ErrWrongNextToken" | _ => false) = true := by decide +kernel
example : (match parseSource (b "{{ {a: 1") with | .err _ => true | _ => false) = true := by decide +kernel
example : (match parseSource (b "{{ \"abc") with | .err e => e.code == "ErrUnexpectedEOF" | _ => false) = true := by decide +kernel
example : (match parseSource (b "{{-- --}\\@end") with | .err e => e.code == "ErrUnexpectedEOF" | _ => false) = true := by decide +kernel

end Tw.C08
