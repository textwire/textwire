/-
  TwProofs.Lemmas.EachElse — `@each(x in xs) body @else other @end`, both bodies of `AItem`s, from the source bytes
  to the parsed program (C03): one piece of code (`eachElseCode_ok`) that is one statement (`eachElse_parses`, a `ParsesAs`),
  so that `parse_each_else_source` is `parseSource_one`.  C03.lean evaluates the statement.
-/
import TwProofs.Lemmas.TextEach
import TwProofs.Lemmas.ScopeTop
namespace Tw
open Lx

def noAssign : List AItem → Bool
  | [] => true
  | .assign _ _ _ _ _ _ _ :: _ => false
  | _ :: r => noAssign r

def apieces : List AItem → List Piece
  | [] => []
  | .text t :: r => .text t :: apieces r
  | .print _ n _ :: r => .hole n :: apieces r
  | .assign _ _ _ _ _ _ _ :: r => apieces r

theorem amatch_simple : ∀ (stmts : List Stmt) (body : List AItem), AMatch stmts body → noAssign body = true →
    simpleBlock stmts = true ∧ piecesOf stmts = apieces body := by
  intro stmts body hm
  induction hm with
  | nil => intro _; exact ⟨rfl, rfl⟩
  | text t txt ss r hlit _ ih =>
    intro hn
    obtain ⟨h1, h2⟩ := ih (by simpa [noAssign] using hn)
    exact ⟨by simpa [simpleBlock] using h1, by simp [piecesOf, apieces, hlit, h2]⟩
  | print t t2 g1 n g2 ss r _ ih =>
    intro hn
    obtain ⟨h1, h2⟩ := ih (by simpa [noAssign] using hn)
    exact ⟨by simpa [simpleBlock] using h1, by simp [piecesOf, apieces, h2]⟩
  | assign t tv g1 n g2 g3 q v g4 ss r _ _ => intro hn; simp [noAssign] at hn

/-- the first bytes behind `@else` are not "if" -/
def elseStartOK : List AItem → Prop
  | .text t :: _ => ¬ (t.headD 0 = 105 ∧ (t.drop 1).headD 0 = 102)
  | _ => True

instance elseStartOK.dec : (l : List AItem) → Decidable (elseStartOK l)
  | [] => isTrue trivial
  | .text t :: _ => by unfold elseStartOK; exact inferInstance
  | .print _ _ _ :: _ => isTrue trivial
  | .assign _ _ _ _ _ _ _ :: _ => isTrue trivial

/-- `@each( g1 x g2 in g3 xs g4 ) body @else ebody @end` -/
def eachElseSrc (g1 x g2 g3 xs g4 : Bytes) (body ebody : List AItem) : Bytes :=
  kwEach ++ ([40] ++ (g1 ++ (x ++ (g2 ++ (kwIn ++ (g3 ++ (xs ++ (g4 ++ (41 :: (asrc body ++ (kwElse ++ (asrc ebody ++ kwEnd))))))))))))

def eachElseKeys (x xs : Bytes) (body ebody : List AItem) : List (TT × Bytes) :=
  [(.EACH, kwEach), (.LPAREN, [40]), (.IDENT, x), (.IN, kwIn), (.IDENT, xs), (.RPAREN, [41])] ++
    (akeys body ++ ((.ELSE, kwElse) :: (akeys ebody ++ [(.END, kwEnd)])))

def eachElseCode (g1 x g2 g3 xs g4 : Bytes) (body ebody : List AItem) : Code :=
  { src := eachElseSrc g1 x g2 g3 xs g4 body ebody, keys := eachElseKeys x xs body ebody }

structure EachElseOK (g1 x g2 g3 xs g4 : Bytes) (body ebody : List AItem) : Prop where
  hg1 : allWs g1
  hg2 : allWs g2
  hg2n : g2 ≠ []
  hg3 : allWs g3
  hg3n : g3 ≠ []
  hg4 : allWs g4
  hx : isName x
  hxs : isName xs
  hbody : AOK body
  hebody : AOK ebody
  hstart : elseStartOK ebody

theorem else_not_if (ebody : List AItem) (hok : AOK ebody) (hst : elseStartOK ebody) (tl : Bytes) :
    ¬ ((asrc ebody ++ (kwEnd ++ tl)).headD 0 = 105 ∧ ((asrc ebody ++ (kwEnd ++ tl)).drop 1).headD 0 = 102) := by
  cases ebody with
  | nil => simp [asrc, kwEnd]
  | cons it r =>
    cases it with
    | text t =>
      obtain ⟨_, hne, hnt, _⟩ := hok
      rw [show asrc (.text t :: r) ++ (kwEnd ++ tl) = t ++ (asrc r ++ (kwEnd ++ tl)) from List.append_assoc _ _ _]
      exact not_if_append hne hst ((Stops.kw isKw_end tl).abody r hnt)
    | print g1 n g2 => simp [asrc, AItem.src]
    | assign g1 n g2 g3 q v g4 => simp [asrc, AItem.src, assignSrc]

theorem eachElseCode_ok (g1 x g2 g3 xs g4 : Bytes) (body ebody : List AItem) (h : EachElseOK g1 x g2 g3 xs g4 body ebody) :
    (eachElseCode g1 x g2 g3 xs g4 body ebody).OK := by
  refine .of_run ?_ ?_
  · intro tl
    have := Stops.kw isKw_each (([40] ++ (g1 ++ (x ++ (g2 ++ (kwIn ++ (g3 ++ (xs ++ (g4 ++ (41 :: (asrc body ++ (kwElse ++ (asrc ebody ++ kwEnd)))))))))))) ++ tl)
    simpa [eachElseCode, eachElseSrc, List.append_assoc] using this
  · intro s tl hr hh hb hpa hd hpv
    have hr' : s.rest = kwEach ++ ([40] ++ (g1 ++ (x ++ (g2 ++ (kwIn ++ (g3 ++ (xs ++ (g4 ++ (41 :: (asrc body ++ (kwElse ++ (asrc ebody ++ (kwEnd ++ tl))))))))))))) := by
      rw [hr]; simp [eachElseCode, eachElseSrc, List.append_assoc]
    obtain ⟨t1, t2, t3, t4, t5, t6, s6, run6, k1, k2, k3, k4, k5, k6, r6, pv6, m6⟩ :=
      lex_each_header s g1 x g2 g3 xs g4 _ hh hpv hpa h.hg1 h.hg2 h.hg2n h.hg3 h.hg3n h.hg4 h.hx h.hxs hr'
    obtain ⟨f1, f2, f3, f4, f5⟩ := mode_fields m6
    obtain ⟨ts, sb, runb, kb, rb, hhb, bb, db, pvb, pb, pab⟩ := lexRun_abody _ (Stops.kw isKw_else (asrc ebody ++ (kwEnd ++ tl))) body h.hbody s6 r6 f1
      (by rw [f4]; exact hb) f2 (by rw [pv6]; decide)
    obtain ⟨t7, s7, st7, k7, ne7, r7, pv7, m7⟩ := else_step sb _ hhb pvb rb (else_not_if ebody h.hebody h.hstart tl)
    obtain ⟨v1, v2, v3, v4, v5⟩ := mode_fields m7
    obtain ⟨ts2, sc, runc, kc, rc, hhc, bc, dc, pvc, pc, pac⟩ := lexRun_abody _ (Stops.kw isKw_end tl) ebody h.hebody s7 r7 v1 (by rw [v4, bb]) v2 pv7
    obtain ⟨t8, s8, st8, k8, ne8, r8, pv8, m8⟩ := end_step sc tl hhc pvc rc
    exact ⟨[t1, t2, t3, t4, t5, t6] ++ ts ++ [t7] ++ ts2 ++ [t8], s8, Run.snoc (Run.append (Run.snoc (Run.append run6 runb) st7 ne7) runc) st8 ne8,
      by simp [eachElseCode, eachElseKeys, k1, k2, k3, k4, k5, k6, kb, k7, kc, k8, List.append_assoc], r8, pv8,
      by rw [m8, pac, v3, pab, f3, bc, pc, v5, pb, f5]⟩

theorem parseBody_aitems (tp tEnd : Token) (rest : List Token) (hEnd : tEnd.ty = .END ∨ tEnd.ty = .ELSE) (hrest : ∀ x ∈ rest, x.ty ≠ .ILLEGAL)
    (body : List AItem) (bt : List Token) (hb : bt.map key = akeys body) (g : Nat) :
    ∃ stmts last, parseBody (g + 2 * body.length + 7) ({ toks := tp :: (bt ++ tEnd :: rest) } : PS) =
      (stmts, ({ toks := last :: tEnd :: rest } : PS)) ∧ AMatch stmts body := by
  obtain ⟨stmts, last, h, hm⟩ := BodyAt.aitems (tp := tp) (hEnd.elim .end .else) hrest body bt hb
  exact ⟨stmts, last, h.on (by omega) rfl, hm⟩

theorem StmtAt.each_else_aitems {t1 t2 t3 t4 t5 t6 tElse tEnd : Token} {body ebody : List AItem} {bt et rest : List Token}
    (h1 : t1.ty = .EACH) (h2 : t2.ty = .LPAREN) (h3 : t3.ty = .IDENT) (h4 : t4.ty = .IN) (h5 : t5.ty = .IDENT) (h6 : t6.ty = .RPAREN)
    (hElse : tElse.ty = .ELSE) (hEnd : tEnd.ty = .END) (hb : bt.map key = akeys body) (he : et.map key = akeys ebody) (hrest : NoIll rest) :
    ∃ stmts estmts, StmtAt (2 * body.length + 2 * ebody.length + 4) (t1 :: t2 :: t3 :: t4 :: t5 :: t6 :: (bt ++ tElse :: (et ++ tEnd :: rest)))
        (.eachS t1 t3.lit (.ident t5 t5.lit) stmts (some estmts)) (tEnd :: rest) ∧ AMatch stmts body ∧ AMatch estmts ebody := by
  have cT : NoIll (et ++ tEnd :: rest) := NoIll.of_akeys he (.end hEnd) hrest
  have cB : NoIll (bt ++ tElse :: (et ++ tEnd :: rest)) := NoIll.of_akeys hb (.else hElse) cT
  obtain ⟨stmts, last, hbody, hm1⟩ := BodyAt.aitems (tp := t6) (.else hElse) cT body bt hb
  obtain ⟨estmts, last2, hebody, hm2⟩ := BodyAt.aitems (tp := tElse) (.end hEnd) hrest ebody et he
  exact ⟨stmts, estmts, (StmtAt.each h1 h2 h4 (.of_ty h5 (.of_ty h6 cB)) (by simp [h3]) (.ident_rparen h5 h6) h6 cB
    (.else hbody hElse cT hebody hEnd hrest)).mono (by omega), hm1, hm2⟩

theorem parse_each_else_stmt (g : Nat) (t1 t2 t3 t4 t5 t6 tElse tEnd : Token) (body ebody : List AItem) (bt et rest : List Token)
    (h1 : t1.ty = .EACH) (h2 : t2.ty = .LPAREN) (h3 : t3.ty = .IDENT) (h4 : t4.ty = .IN) (h5 : t5.ty = .IDENT) (h6 : t6.ty = .RPAREN)
    (hElse : tElse.ty = .ELSE) (hEnd : tEnd.ty = .END) (hb : bt.map key = akeys body) (he : et.map key = akeys ebody)
    (hrest : ∀ x ∈ rest, x.ty ≠ .ILLEGAL) :
    ∃ stmts estmts, parseStatement (g + 2 * body.length + 2 * ebody.length + 9)
        ({ toks := t1 :: t2 :: t3 :: t4 :: t5 :: t6 :: (bt ++ tElse :: (et ++ tEnd :: rest)) } : PS) =
        (.eachS t1 t3.lit (.ident t5 t5.lit) stmts (some estmts), { toks := tEnd :: rest }) ∧ AMatch stmts body ∧ AMatch estmts ebody := by
  obtain ⟨stmts, estmts, hst, hm⟩ := StmtAt.each_else_aitems h1 h2 h3 h4 h5 h6 hElse hEnd hb he hrest
  exact ⟨stmts, estmts, hst.on (by omega) rfl, hm⟩

theorem eachElse_parses (g1 x g2 g3 xs g4 : Bytes) (body ebody : List AItem) (h : EachElseOK g1 x g2 g3 xs g4 body ebody) :
    ParsesAs (eachElseCode g1 x g2 g3 xs g4 body ebody) (fun st => ∃ t1 t5 stmts estmts,
      st = .eachS t1 x (.ident t5 xs) stmts (some estmts) ∧ AMatch stmts body ∧ AMatch estmts ebody) := by
  refine ⟨eachElseCode_ok g1 x g2 g3 xs g4 body ebody h, ⟨_, _, rfl, by decide⟩,
    clean_of_all (by simp [eachElseCode, eachElseKeys, all_of_clean (akeys_clean _)]), ?_⟩
  intro g toks tn rest hk hcl
  obtain ⟨t1, _, rfl, ty1, _, hk⟩ := map_key_cons hk
  obtain ⟨t2, _, rfl, ty2, _, hk⟩ := map_key_cons hk
  obtain ⟨t3, _, rfl, ty3, lit3, hk⟩ := map_key_cons hk
  obtain ⟨t4, _, rfl, ty4, _, hk⟩ := map_key_cons hk
  obtain ⟨t5, _, rfl, ty5, lit5, hk⟩ := map_key_cons hk
  obtain ⟨t6, _, rfl, ty6, _, hk⟩ := map_key_cons hk
  obtain ⟨bt, _, rfl, hkb, hk⟩ := (List.map_eq_append_iff (L₁ := akeys body)).mp hk
  obtain ⟨tElse, _, rfl, hElse, _, hk⟩ := map_key_cons hk
  obtain ⟨et, _, rfl, hke, hk⟩ := List.map_eq_append_iff.mp hk
  obtain ⟨tEnd, _, rfl, hEnd, _, hk⟩ := map_key_cons hk
  cases List.map_eq_nil_iff.mp hk
  have lit3 : t3.lit = x := lit3
  have lit5 : t5.lit = xs := lit5
  obtain ⟨stmts, estmts, hst, hm1, hm2⟩ := StmtAt.each_else_aitems ty1 ty2 ty3 ty4 ty5 ty6 hElse hEnd hkb hke hcl
  refine ⟨.eachS t1 t3.lit (.ident t5 t5.lit) stmts (some estmts), tEnd, ?_, by simp [hEnd], rfl, t1, t5, stmts, estmts, by rw [lit3, lit5], hm1, hm2⟩
  have := akeys_length body
  have := akeys_length ebody
  simpa using hst.on (f := g + 4 * (eachElseCode g1 x g2 g3 xs g4 body ebody).keys.length) (by simp [eachElseCode, eachElseKeys]; omega) rfl

theorem parse_each_else_source (g1 x g2 g3 xs g4 : Bytes) (body ebody : List AItem) (h : EachElseOK g1 x g2 g3 xs g4 body ebody) :
    ∃ prog t1 t5 stmts estmts, parseSource (eachElseSrc g1 x g2 g3 xs g4 body ebody) = .ok prog ∧
      prog.stmts = [.eachS t1 x (.ident t5 xs) stmts (some estmts)] ∧ AMatch stmts body ∧ AMatch estmts ebody := by
  obtain ⟨_, t, hp, t1, t5, stmts, estmts, rfl, hm1, hm2⟩ := parseSource_one (eachElse_parses g1 x g2 g3 xs g4 body ebody h)
  exact ⟨_, t1, t5, stmts, estmts, hp, rfl, hm1, hm2⟩

end Tw
