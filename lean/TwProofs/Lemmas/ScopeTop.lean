/-
  TwProofs.Lemmas.ScopeTop — the template language of C04.  First the parser on a body of text, prints and
  assignments (`AItem`): one statement per item, which is what `AMatch` says (`RestAt.aitems`; an assignment leaves the
  cursor on its literal and the block steps over the "}}"), and on `@if(name) body @end` around such a body
  (`StmtAt.if_aitems`).  Then the language itself, `SItem`: text, `{{ name }}`,
  `{{ name = "text" }}` and `@if(name) body @end`.  It lexes as a language of `GItem`s (`SItem.g`); the statement loop
  over its keys gives `parse_sitems`: the parsed program matches the items (`SMatch`).
-/
import TwProofs.Lemmas.ScopeLex
namespace Tw
open Lx

theorem parse_assign_stmt (g : Nat) (t1 t2 t3 t4 t5 : Token) (tail : List Token) (h1 : t1.ty = .LBRACES) (h2 : t2.ty = .IDENT)
    (h3 : t3.ty = .ASSIGN) (h4 : t4.ty = .STR) (h5 : t5.ty = .RBRACES) (hclean : ∀ x ∈ tail, x.ty ≠ .ILLEGAL) :
    parseStatement (g + 3) ({ toks := t1 :: t2 :: t3 :: t4 :: t5 :: tail } : PS) =
      (.assign t2 t2.lit (.str t4 t4.lit), { toks := t4 :: t5 :: tail }) :=
  (StmtAt.assign_atom h1 h2 h3 (atomExpr_str h4) h5 hclean).on (by omega) rfl

inductive AMatch : List Stmt → List AItem → Prop
  | nil : AMatch [] []
  | text (t : Token) (txt : Bytes) (ss : List Stmt) (r : List AItem) : t.lit = txt → AMatch ss r → AMatch (.html t :: ss) (.text txt :: r)
  | print (t t2 : Token) (g1 n g2 : Bytes) (ss : List Stmt) (r : List AItem) : AMatch ss r →
      AMatch (.expr t (.ident t2 n) :: ss) (.print g1 n g2 :: r)
  | assign (t tv : Token) (g1 n g2 g3 : Bytes) (q : Byte) (v g4 : Bytes) (ss : List Stmt) (r : List AItem) : AMatch ss r →
      AMatch (.assign t n (.str tv v) :: ss) (.assign g1 n g2 g3 q v g4 :: r)

theorem AMatch.length_eq {ss : List Stmt} {body : List AItem} (h : AMatch ss body) : ss.length = body.length := by
  induction h <;> simp [*]

theorem akeys_clean (body : List AItem) : ∀ x ∈ akeys body, x.1 ≠ .ILLEGAL := by
  refine clean_of_all ?_
  induction body with
  | nil => rfl
  | cons it r ih => cases it <;> simp [akeys, assignKeys, ih]

theorem NoIll.of_akeys {body : List AItem} {bt rest : List Token} {tEnd : Token} (hk : bt.map key = akeys body) (hEnd : BlockEnd tEnd)
    (hrest : NoIll rest) : NoIll (bt ++ tEnd :: rest) :=
  .append (.of_keys hk (akeys_clean body)) (.cons hEnd.noIll hrest)

theorem RestAt.aitems {tEnd : Token} {rest : List Token} (hEnd : BlockEnd tEnd) (hrest : NoIll rest) :
    ∀ (body : List AItem) (bt : List Token) (tl : Token), bt.map key = akeys body →
      ∃ stmts last, RestAt (2 * body.length + 2) (tl :: (bt ++ tEnd :: rest)) stmts (last :: tEnd :: rest) ∧ AMatch stmts body
  | [], bt, tl, hk => by
    cases List.map_eq_nil_iff.mp hk
    exact ⟨[], tl, .stop hEnd, .nil⟩
  | .text txt :: r, bt, tl, hk => by
    obtain ⟨t, bt', rfl, (ht : t.ty = .HTML), hlit, hkr⟩ := map_key_cons hk
    obtain ⟨ss, last, hr, hm⟩ := RestAt.aitems hEnd hrest r bt' t hkr
    exact ⟨_, last, .next (BlockEnd.not_of_ty ht) (NoIll.of_akeys hkr hEnd hrest)
      ((BlockAt.of_rest (.of_ty ht) (.html ht) rfl hr).mono (by rw [List.length_cons]; omega)), .text t txt ss r hlit hm⟩
  | .print g1 n g2 :: r, bt, tl, hk => by
    obtain ⟨t1, _, rfl, (ty1 : t1.ty = .LBRACES), _, hk⟩ := map_key_cons hk
    obtain ⟨t2, _, rfl, (ty2 : t2.ty = .IDENT), (lit2 : t2.lit = n), hk⟩ := map_key_cons hk
    obtain ⟨t3, bt', rfl, (ty3 : t3.ty = .RBRACES), _, hkr⟩ := map_key_cons hk
    subst lit2
    have hcl := NoIll.of_akeys hkr hEnd hrest
    obtain ⟨ss, last, hr, hm⟩ := RestAt.aitems hEnd hrest r bt' t3 hkr
    exact ⟨_, last, .next (BlockEnd.not_of_ty ty1) (.of_ty ty2 (.of_ty ty3 hcl))
      ((BlockAt.of_rest (.of_ty ty1) (.print ty1 ty2 ty3 hcl) rfl hr).mono (by rw [List.length_cons]; omega)), .print t2 t2 g1 _ g2 ss r hm⟩
  | .assign g1 n g2 g3 q v g4 :: r, bt, tl, hk => by
    obtain ⟨t1, _, rfl, (ty1 : t1.ty = .LBRACES), _, hk⟩ := map_key_cons hk
    obtain ⟨t2, _, rfl, (ty2 : t2.ty = .IDENT), (lit2 : t2.lit = n), hk⟩ := map_key_cons hk
    obtain ⟨t3, _, rfl, (ty3 : t3.ty = .ASSIGN), _, hk⟩ := map_key_cons hk
    obtain ⟨t4, _, rfl, (ty4 : t4.ty = .STR), (lit4 : t4.lit = v), hk⟩ := map_key_cons hk
    obtain ⟨t5, bt', rfl, (ty5 : t5.ty = .RBRACES), _, hkr⟩ := map_key_cons hk
    subst lit2 lit4
    have hcl := NoIll.of_akeys hkr hEnd hrest
    obtain ⟨ss, last, hr, hm⟩ := RestAt.aitems hEnd hrest r bt' t5 hkr
    exact ⟨_, last, .next (BlockEnd.not_of_ty ty1) (.of_ty ty2 (.of_ty ty3 (.of_ty ty4 (.of_ty ty5 hcl))))
      ((BlockAt.of_rest (.of_ty ty1) (.assign_atom ty1 ty2 ty3 (atomExpr_str ty4) ty5 hcl) rfl
        (.next (BlockEnd.not_of_ty ty5) hcl (.skip_rest (.inr ty5) hr))).mono (by rw [List.length_cons]; omega)),
      .assign t2 t4 g1 _ g2 g3 q _ g4 ss r hm⟩

theorem BodyAt.aitems {tp tEnd : Token} {rest : List Token} (hEnd : BlockEnd tEnd) (hrest : NoIll rest) (body : List AItem) (bt : List Token)
    (hb : bt.map key = akeys body) :
    ∃ stmts last, BodyAt (2 * body.length + 3) (tp :: (bt ++ tEnd :: rest)) stmts (last :: tEnd :: rest) ∧ AMatch stmts body := by
  obtain ⟨stmts, last, hr, hm⟩ := RestAt.aitems hEnd hrest body bt tp hb
  exact ⟨stmts, last, .of_rest hr, hm⟩

theorem parseBlock_aitems (tEnd : Token) (rest : List Token) (hEnd : tEnd.ty = .END ∨ tEnd.ty = .ELSE) (hrest : ∀ x ∈ rest, x.ty ≠ .ILLEGAL) :
    ∀ (body : List AItem) (bt : List Token) (acc : List Stmt) (f : Nat), body ≠ [] → bt.map key = akeys body → 2 * body.length + 5 ≤ f →
      ∃ stmts last, parseBlockStmt f acc ({ toks := bt ++ tEnd :: rest } : PS) = (acc ++ stmts, { toks := last :: tEnd :: rest }) ∧
        AMatch stmts body := by
  intro body bt acc f hne hk hf
  -- a body that is not empty starts with a text token or with "{{", neither of which ends a block
  obtain ⟨tn, bt', rfl, hn⟩ : ∃ tn bt', bt = tn :: bt' ∧ ¬ BlockEnd tn := by
    cases body with
    | nil => exact absurd rfl hne
    | cons it r =>
      cases it with
      | text _ =>
        obtain ⟨tn, bt', rfl, (ty : tn.ty = .HTML), _, _⟩ := map_key_cons hk
        exact ⟨tn, bt', rfl, BlockEnd.not_of_ty ty⟩
      | print _ _ _ =>
        obtain ⟨tn, bt', rfl, (ty : tn.ty = .LBRACES), _, _⟩ := map_key_cons hk
        exact ⟨tn, bt', rfl, BlockEnd.not_of_ty ty⟩
      | assign _ _ _ _ _ _ _ =>
        obtain ⟨tn, bt', rfl, (ty : tn.ty = .LBRACES), _, _⟩ := map_key_cons hk
        exact ⟨tn, bt', rfl, BlockEnd.not_of_ty ty⟩
  obtain ⟨stmts, last, hr, hm⟩ := RestAt.aitems (hEnd.elim .end .else) hrest body (tn :: bt') tn hk
  exact ⟨stmts, last, (hr.block hn).on (by omega) rfl acc, hm⟩

theorem StmtAt.if_aitems {t1 t2 t3 t4 tEnd : Token} {body : List AItem} {bt rest : List Token} (h1 : t1.ty = .IF) (h2 : t2.ty = .LPAREN)
    (h3 : t3.ty = .IDENT) (h4 : t4.ty = .RPAREN) (hEnd : tEnd.ty = .END) (hb : bt.map key = akeys body) (hrest : NoIll rest) :
    ∃ stmts, StmtAt (2 * body.length + 4) (t1 :: t2 :: t3 :: t4 :: (bt ++ tEnd :: rest)) (.ifS t1 (.ident t3 t3.lit) stmts [] none)
      (tEnd :: rest) ∧ AMatch stmts body := by
  have cB : NoIll (bt ++ tEnd :: rest) := NoIll.of_akeys hb (.end hEnd) hrest
  obtain ⟨stmts, last, hbody, hm⟩ := BodyAt.aitems (tp := t4) (.end hEnd) hrest body bt hb
  exact ⟨stmts, (StmtAt.ifS h1 h2 (.of_ty h3 (.of_ty h4 cB)) (.ident_rparen h3 h4) h4 cB hbody (.end hEnd hrest)).mono (by omega), hm⟩

theorem parse_ifb_stmt (g : Nat) (t1 t2 t3 t4 tEnd : Token) (body : List AItem) (bt rest : List Token)
    (h1 : t1.ty = .IF) (h2 : t2.ty = .LPAREN) (h3 : t3.ty = .IDENT) (h4 : t4.ty = .RPAREN) (hEnd : tEnd.ty = .END)
    (hb : bt.map key = akeys body) (hrest : ∀ x ∈ rest, x.ty ≠ .ILLEGAL) :
    ∃ stmts, parseStatement (g + 2 * body.length + 8) ({ toks := t1 :: t2 :: t3 :: t4 :: (bt ++ tEnd :: rest) } : PS) =
        (.ifS t1 (.ident t3 t3.lit) stmts [] none, { toks := tEnd :: rest }) ∧ AMatch stmts body := by
  obtain ⟨stmts, hst, hm⟩ := StmtAt.if_aitems h1 h2 h3 h4 hEnd hb hrest
  exact ⟨stmts, hst.on (by omega) rfl, hm⟩

inductive SItem where
  | text (segs : List Seg)
  | print (g1 n g2 : Bytes)
  | assign (g1 n g2 g3 : Bytes) (q : Byte) (v g4 : Bytes)
  | ifb (g1 c g2 : Bytes) (body : List AItem)

def SItem.g : SItem → GItem
  | .text segs => .text segs
  | .print g1 n g2 => .code (printCode g1 n g2)
  | .assign g1 n g2 g3 q v g4 => .code (assignCode g1 n g2 g3 q v g4)
  | .ifb g1 c g2 body => .code (ifbCode g1 c g2 body)

def scopeSrc (items : List SItem) : Bytes := gsrc (items.map SItem.g)

def afterRunS (segs : List Seg) : List SItem → Prop
  | [] => True
  | .text _ :: _ => False
  | _ :: _ => lastOr (segsSrc segs) 0 ≠ 92

def SItemsOK : List SItem → Prop
  | [] => True
  | .text segs :: r => startsRun segs ∧ SegsOK segs (scopeSrc r) ∧ afterRunS segs r ∧ SItemsOK r
  | .print g1 n g2 :: r => allWs g1 ∧ allWs g2 ∧ isName n ∧ SItemsOK r
  | .assign g1 n g2 g3 q v g4 :: r =>
    allWs g1 ∧ allWs g2 ∧ allWs g3 ∧ allWs g4 ∧ isName n ∧ (q = 34 ∨ q = 39) ∧ PlainStr q v ∧ SItemsOK r
  | .ifb g1 c g2 body :: r => allWs g1 ∧ allWs g2 ∧ isName c ∧ AOK body ∧ SItemsOK r

instance afterRunS.dec (segs : List Seg) : (r : List SItem) → Decidable (afterRunS segs r)
  | [] => isTrue trivial
  | .text _ :: _ => isFalse (by simp [afterRunS])
  | .print _ _ _ :: _ => by unfold afterRunS; exact inferInstance
  | .assign _ _ _ _ _ _ _ :: _ => by unfold afterRunS; exact inferInstance
  | .ifb _ _ _ _ :: _ => by unfold afterRunS; exact inferInstance

instance SItemsOK.dec : (items : List SItem) → Decidable (SItemsOK items)
  | [] => isTrue trivial
  | .text segs :: r => by have := SItemsOK.dec r; unfold SItemsOK; exact inferInstance
  | .print g1 n g2 :: r => by have := SItemsOK.dec r; unfold SItemsOK; exact inferInstance
  | .assign g1 n g2 g3 q v g4 :: r => by have := SItemsOK.dec r; unfold SItemsOK; exact inferInstance
  | .ifb g1 c g2 body :: r => by have := SItemsOK.dec r; unfold SItemsOK; exact inferInstance

theorem SItemsOK.gitems : ∀ items : List SItem, SItemsOK items → GItemsOK (items.map SItem.g) :=
  gitemsOK_map SItem.g SItemsOK (fun i r h => by
    cases i with
    | text segs =>
      obtain ⟨hst, hsegs, hafter, hr⟩ := h
      exact ⟨hr, hst, hsegs, by cases r with | nil => trivial | cons j _ => cases j <;> exact hafter⟩
    | print g1 n g2 =>
      obtain ⟨hg1, hg2, hn, hr⟩ := h
      exact ⟨hr, printCode_ok g1 n g2 hg1 hg2 hn⟩
    | assign g1 n g2 g3 q v g4 =>
      obtain ⟨hg1, hg2, hg3, hg4, hn, hq, hp, hr⟩ := h
      exact ⟨hr, assignCode_ok g1 n g2 g3 q v g4 hg1 hg2 hg3 hg4 hn hq hp⟩
    | ifb g1 c g2 body =>
      obtain ⟨hg1, hg2, hc, hbody, hr⟩ := h
      exact ⟨hr, ifbCode_ok g1 c g2 body hg1 hg2 hc hbody⟩)

def skeys : List SItem → List (TT × Bytes)
  | [] => []
  | .text segs :: r => (.HTML, segsLit segs) :: skeys r
  | .print g1 n g2 :: r => (printCode g1 n g2).keys ++ skeys r
  | .assign g1 n g2 g3 q v g4 :: r => assignKeys n v ++ skeys r
  | .ifb g1 c g2 body :: r => (ifbCode g1 c g2 body).keys ++ skeys r

theorem gkeys_sitems : ∀ items : List SItem, gkeys (items.map SItem.g) = skeys items :=
  gkeys_map SItem.g skeys rfl (fun i r => by cases i <;> simp [skeys, SItem.g, assignCode, gkeys])

theorem skeys_clean (items : List SItem) : ∀ x ∈ skeys items, x.1 ≠ .ILLEGAL := by
  refine clean_of_all ?_
  induction items with
  | nil => rfl
  | cons it r ih => cases it <;> simp [skeys, printCode, assignKeys, ifbCode, ih, all_of_clean (akeys_clean _)]

inductive SMatch : List Stmt → List SItem → Prop
  | nil : SMatch [] []
  | text (t : Token) (segs : List Seg) (ss : List Stmt) (r : List SItem) : t.lit = segsLit segs → SMatch ss r →
      SMatch (.html t :: ss) (.text segs :: r)
  | print (t t2 : Token) (g1 n g2 : Bytes) (ss : List Stmt) (r : List SItem) : SMatch ss r →
      SMatch (.expr t (.ident t2 n) :: ss) (.print g1 n g2 :: r)
  | assign (t tv : Token) (g1 n g2 g3 : Bytes) (q : Byte) (v g4 : Bytes) (ss : List Stmt) (r : List SItem) : SMatch ss r →
      SMatch (.assign t n (.str tv v) :: ss) (.assign g1 n g2 g3 q v g4 :: r)
  | ifb (t1 t3 : Token) (g1 c g2 : Bytes) (body : List AItem) (bs : List Stmt) (ss : List Stmt) (r : List SItem) : AMatch bs body → SMatch ss r →
      SMatch (.ifS t1 (.ident t3 c) bs [] none :: ss) (.ifb g1 c g2 body :: r)

/-- as `xpfuel`, the grade of the item's rule and its turns of the loop, or more: `StmtAt.assign_atom` is graded 3 and takes
    two turns, the second steps over its "}}"; a print has 5 where the 4 of `xpfuel` would do; `StmtAt.if_aitems` is graded
    `2 * body.length + 4` -/
def spfuel : List SItem → Nat
  | [] => 1
  | .text _ :: r => 2 + spfuel r
  | .print _ _ _ :: r => 5 + spfuel r
  | .assign _ _ _ _ _ _ _ :: r => 5 + spfuel r
  | .ifb _ _ _ body :: r => 2 * body.length + 10 + spfuel r

theorem parseLoop_sitems : ∀ (items : List SItem) (toks : List Token) (e : Token) (acc : List Stmt) (f : Nat),
    toks.map key = skeys items → e.ty = .EOF → spfuel items ≤ f →
    ∃ stmts, parseProgramLoop f acc ({ toks := toks ++ [e] } : PS) = (some (acc ++ stmts), { toks := [e] }) ∧ SMatch stmts items
  | [], toks, e, acc, f, hk, he, hf => by
    cases List.map_eq_nil_iff.mp hk
    obtain ⟨g, rfl⟩ : ∃ g, f = g + 1 := ⟨f - 1, by simp [spfuel] at hf; omega⟩
    exact ⟨[], by rw [loop_eof g acc _ e [] rfl he, List.append_nil]; rfl, .nil⟩
  | .text segs :: r, toks, e, acc, f, hk, he, hf => by
    obtain ⟨t, rest, rfl, ht, hlit, hkr⟩ := map_key_cons hk
    obtain ⟨g, rfl⟩ : ∃ g, f = g + 1 := ⟨f - 1, by simp [spfuel] at hf; omega⟩
    obtain ⟨stmts, h1, h2⟩ := parseLoop_sitems r rest e (acc ++ [.html t]) g hkr he (by simp [spfuel] at hf; omega)
    exact ⟨.html t :: stmts, loop_text ht rfl (NoIll.of_keys_eof hkr (skeys_clean r) he) (by simp [spfuel] at hf; omega) h1,
      .text t segs stmts r hlit h2⟩
  | .print g1 n g2 :: r, toks, e, acc, f, hk, he, hf => by
    obtain ⟨t1, _, rfl, ty1, _, hk⟩ := map_key_cons hk
    obtain ⟨t2, _, rfl, ty2, lit2, hk⟩ := map_key_cons hk
    obtain ⟨t3, rest, rfl, ty3, _, hkr⟩ := map_key_cons hk
    obtain rfl : t2.lit = n := lit2
    have hcl : NoIll (rest ++ [e]) := NoIll.of_keys_eof hkr (skeys_clean r) he
    obtain ⟨g, rfl⟩ : ∃ g, f = g + 1 := ⟨f - 1, by simp [spfuel] at hf; omega⟩
    obtain ⟨stmts, h1, h2⟩ := parseLoop_sitems r rest e (acc ++ [.expr t2 (.ident t2 t2.lit)]) g hkr he (by simp [spfuel] at hf; omega)
    exact ⟨_ :: stmts, loop_print ty1 ty2 ty3 rfl hcl (by simp [spfuel] at hf; omega) h1, .print t2 t2 g1 _ g2 stmts r h2⟩
  | .assign g1 n g2 g3 q v g4 :: r, toks, e, acc, f, hk, he, hf => by
    obtain ⟨t1, _, rfl, ty1, _, hk⟩ := map_key_cons hk
    obtain ⟨t2, _, rfl, ty2, lit2, hk⟩ := map_key_cons hk
    obtain ⟨t3, _, rfl, ty3, _, hk⟩ := map_key_cons hk
    obtain ⟨t4, _, rfl, ty4, lit4, hk⟩ := map_key_cons hk
    obtain ⟨t5, rest, rfl, ty5, _, hkr⟩ := map_key_cons hk
    obtain rfl : t2.lit = n := lit2
    obtain rfl : t4.lit = v := lit4
    have hcl : NoIll (rest ++ [e]) := NoIll.of_keys_eof hkr (skeys_clean r) he
    obtain ⟨g, rfl⟩ : ∃ g, f = g + 2 := ⟨f - 2, by simp [spfuel] at hf; omega⟩
    obtain ⟨stmts, h1, h2⟩ := parseLoop_sitems r rest e (acc ++ [.assign t2 t2.lit (.str t4 t4.lit)]) g hkr he (by simp [spfuel] at hf; omega)
    -- the statement leaves the cursor on the literal; the next turn of the loop steps over "}}"
    exact ⟨_ :: stmts, loop_cons (.assign_atom ty1 ty2 ty3 (atomExpr_str ty4) ty5 hcl) rfl (by simp [ty1]) rfl (by simp [ty4]) (by simp) (.of_ty ty5 hcl)
      (by simp [spfuel] at hf; omega) ((loop_skip rfl (.inr ty5) (by simp) hcl (by simp [spfuel] at hf; omega) _).trans h1),
      .assign t2 t4 g1 _ g2 g3 q _ g4 stmts r h2⟩
  | .ifb g1 c g2 body :: r, toks, e, acc, f, hk, he, hf => by
    obtain ⟨t1, _, rfl, ty1, _, hk⟩ := map_key_cons hk
    obtain ⟨t2, _, rfl, ty2, _, hk⟩ := map_key_cons hk
    obtain ⟨t3, _, rfl, ty3, lit3, hk⟩ := map_key_cons hk
    obtain ⟨t4, tail, rfl, ty4, _, hk⟩ := map_key_cons hk
    obtain ⟨bt, tail2, rfl, hkb, hk⟩ := List.map_eq_append_iff.mp (show _ = akeys body ++ (.END, kwEnd) :: skeys r by simpa [List.append_assoc] using hk)
    obtain ⟨tEnd, rest, rfl, hEnd, _, hkr⟩ := map_key_cons hk
    obtain rfl : t3.lit = c := lit3
    have hcl : NoIll (rest ++ [e]) := NoIll.of_keys_eof hkr (skeys_clean r) he
    obtain ⟨g, rfl⟩ : ∃ g, f = g + 1 := ⟨f - 1, by simp [spfuel] at hf; omega⟩
    obtain ⟨bs, hst, hm⟩ := StmtAt.if_aitems ty1 ty2 ty3 ty4 hEnd hkb hcl
    obtain ⟨stmts, h1, h2⟩ := parseLoop_sitems r rest e (acc ++ [.ifS t1 (.ident t3 t3.lit) bs [] none]) g hkr he (by simp [spfuel] at hf; omega)
    refine ⟨_ :: stmts, ?_, .ifb t1 t3 g1 _ g2 body bs stmts r hm h2⟩
    rw [show (t1 :: t2 :: t3 :: t4 :: (bt ++ tEnd :: rest)) ++ [e] = t1 :: t2 :: t3 :: t4 :: (bt ++ tEnd :: (rest ++ [e])) by simp]
    exact loop_cons hst rfl (by simp [ty1]) rfl (by simp [hEnd]) (by simp) hcl (by simp [spfuel] at hf; omega) h1

theorem akeys_length : ∀ body : List AItem, body.length ≤ (akeys body).length
  | [] => Nat.le_refl _
  | a :: r => by have := akeys_length r; cases a <;> simp [akeys, assignKeys] <;> omega

theorem spfuel_le : ∀ items : List SItem, spfuel items ≤ 4 * (skeys items).length + 1
  | [] => Nat.le_refl _
  | .text _ :: r => by have := spfuel_le r; simp [spfuel, skeys]; omega
  | .print _ _ _ :: r => by have := spfuel_le r; simp [spfuel, skeys, printCode]; omega
  | .assign _ _ _ _ _ _ _ :: r => by have := spfuel_le r; simp [spfuel, skeys, assignKeys]; omega
  | .ifb _ _ _ body :: r => by have := spfuel_le r; have := akeys_length body; simp [spfuel, skeys, ifbCode]; omega

theorem parse_sitems (items : List SItem) (hok : SItemsOK items) :
    ∃ prog, parseSource (scopeSrc items) = .ok prog ∧ SMatch prog.stmts items := by
  obtain ⟨toks, e, hk, he, hfuel, hfin⟩ := parseSource_gitems _ (SItemsOK.gitems items hok) (gkeys_sitems items) (skeys_clean items) 0
  obtain ⟨stmts, h1, h2⟩ := parseLoop_sitems items toks e [] (parseFuel (toks ++ [e])) hk he (by rw [hfuel]; have := spfuel_le items; omega)
  exact ⟨_, hfin stmts _ h1 rfl rfl, h2⟩

end Tw
