/-
  TwProofs.Lemmas.LexDirective — `readDirective` finds a directive whenever
  `isDirectiveToken` saw one: the ILLEGAL branch of `directiveToken` is unreachable
  (C19 `directive_always_found`).
-/
import TwModel

namespace Tw
open Lx

theorem lookupAssoc_mem (tbl : List (Bytes × TT)) (k : Bytes) (t : TT) (h : lookupAssoc tbl k = some t) :
    (k, t) ∈ tbl := by
  induction tbl with
  | nil => simp [lookupAssoc] at h
  | cons p r ih =>
    obtain ⟨k', t'⟩ := p
    simp only [lookupAssoc] at h
    split at h
    · rename_i hk
      have : k' = k := by simpa using hk
      have ht : t' = t := by simpa using h
      subst this; subst ht; simp
    · exact List.mem_cons_of_mem _ (ih h)

theorem lookupAssoc_getD_ne {tbl : List (Bytes × TT)} {k : Bytes} {d x : TT} (hd : d ≠ x) (hall : ∀ p ∈ tbl, p.2 ≠ x) :
    (lookupAssoc tbl k).getD d ≠ x := by
  cases h : lookupAssoc tbl k with
  | none => exact hd
  | some t => exact hall _ (lookupAssoc_mem tbl k t h)

theorem lookupIdent_ne_eof (ident : Bytes) : lookupIdent ident ≠ .EOF :=
  lookupAssoc_getD_ne (by decide) (by decide)

theorem lookupIdent_ne_illegal (ident : Bytes) : lookupIdent ident ≠ .ILLEGAL :=
  lookupAssoc_getD_ne (by decide) (by decide)

theorem lookupDirective_ne_eof (k : Bytes) : lookupDirective k ≠ .EOF :=
  lookupAssoc_getD_ne (by decide) (by decide)

theorem lookupDirective_mem (k : Bytes) (h : lookupDirective k ≠ .ILLEGAL) : (k, lookupDirective k) ∈ directivesB := by
  unfold lookupDirective at h ⊢
  cases hl : lookupAssoc directivesB k with
  | none => simp [hl] at h
  | some t => simpa using lookupAssoc_mem _ _ _ hl

theorem directive_letters (k : Bytes) (h : lookupDirective k ≠ .ILLEGAL) : k.all isLetterWord = true := by
  have hall : ∀ p ∈ directivesB, p.1.all isLetterWord = true := by decide
  exact hall _ (lookupDirective_mem k h)

theorem potentiallyLong_cases (k : Bytes) (after : Bytes) (h : isPotentiallyLong (lookupDirective k) after = true)
    (hk : lookupDirective k ≠ .ILLEGAL) :
    ∃ c r2, after = c :: 102 :: r2 ∧ isLetterWord c = true ∧
      lookupDirective (k ++ [c]) = .ILLEGAL ∧ lookupDirective (k ++ [c, 102]) ≠ .ILLEGAL ∧
      ∀ a, isPotentiallyLong (lookupDirective (k ++ [c, 102])) a = false := by
  have hmem := lookupDirective_mem k hk
  have hall : ∀ p ∈ directivesB, ∀ c : Byte, (c = 105 ∨ c = 73) →
      ((p.2 == .ELSE && c == 105) || (p.2 == .BREAK && c == 73) || (p.2 == .CONTINUE && c == 73)) = true →
      lookupDirective (p.1 ++ [c]) = .ILLEGAL ∧ lookupDirective (p.1 ++ [c, 102]) ≠ .ILLEGAL ∧
      (lookupDirective (p.1 ++ [c, 102]) != .ELSE && lookupDirective (p.1 ++ [c, 102]) != .BREAK &&
        lookupDirective (p.1 ++ [c, 102]) != .CONTINUE) = true := by
    intro p hp c hc
    rcases hc with rfl | rfl <;> revert p <;> decide
  unfold isPotentiallyLong at h
  simp only at h
  cases after with
  | nil => simp at h
  | cons c t =>
    cases t with
    | nil => simp at h
    | cons f r2 =>
      simp only [List.headD_cons, List.drop_succ_cons, List.drop_zero, Bool.or_eq_true, Bool.and_eq_true, beq_iff_eq] at h
      obtain ⟨hf, hc, hcond⟩ : f = 102 ∧ (c = 105 ∨ c = 73) ∧
          ((lookupDirective k == .ELSE && c == 105) || (lookupDirective k == .BREAK && c == 73) ||
            (lookupDirective k == .CONTINUE && c == 73)) = true := by
        rcases h with (⟨⟨h1, h2⟩, h3⟩ | ⟨⟨h1, h2⟩, h3⟩) | ⟨⟨h1, h2⟩, h3⟩
        · exact ⟨h3, Or.inl h2, by simp [h1, h2]⟩
        · exact ⟨h3, Or.inr h2, by simp [h1, h2]⟩
        · exact ⟨h3, Or.inr h2, by simp [h1, h2]⟩
      subst hf
      obtain ⟨h1, h2, h3⟩ := hall _ hmem c hc hcond
      refine ⟨c, r2, rfl, ?_, h1, h2, ?_⟩
      · rcases hc with rfl | rfl <;> decide
      · intro a
        simp only [Bool.and_eq_true, bne_iff_ne, ne_eq] at h3
        unfold isPotentiallyLong
        simp [h3.1.1, h3.1.2, h3.2]

theorem dirScan_prefix (rest : Bytes) : ∀ (kw : Bytes) (tok : TT),
    ∃ m, (dirScan kw tok rest).1 = kw ++ rest.take m ∧ m ≤ rest.length := by
  induction rest with
  | nil => intro kw tok; exact ⟨0, by simp [dirScan], Nat.le_refl _⟩
  | cons c r ih =>
    intro kw tok
    simp only [dirScan]
    split
    · split
      · exact ⟨1, by simp, by simp⟩
      · obtain ⟨m, hm, hle⟩ := ih (kw ++ [c]) (lookupDirective (kw ++ [c]))
        exact ⟨m + 1, by rw [hm]; simp, by simp; omega⟩
    · exact ⟨0, by simp, Nat.zero_le _⟩

theorem dirScan_one_le (c : Byte) (r : Bytes) (h : isLetterWord c = true) : 1 ≤ (dirScan [] .ILLEGAL (c :: r)).1.length := by
  simp only [dirScan, h, if_true]
  split
  · simp
  · obtain ⟨m, hm, _⟩ := dirScan_prefix r ([] ++ [c]) (lookupDirective ([] ++ [c]))
    rw [hm]; simp

theorem dirScan_letters (rest : Bytes) : ∀ (kw : Bytes) (tok : TT), kw.all isLetterWord = true →
    (dirScan kw tok rest).1.all isLetterWord = true := by
  induction rest with
  | nil => intro kw tok h; simpa [dirScan] using h
  | cons c r ih =>
    intro kw tok h
    simp only [dirScan]
    split
    · rename_i hc
      have h' : (kw ++ [c]).all isLetterWord = true := by simp [List.all_append, h, hc]
      split
      · exact h'
      · exact ih _ _ h'
    · exact h

theorem dirScan_tok (kw : Bytes) (tok : TT) (rest : Bytes) :
    (dirScan kw tok rest).2 = tok ∨ ∃ k, (dirScan kw tok rest).2 = lookupDirective k := by
  induction rest generalizing kw tok with
  | nil => left; simp [dirScan]
  | cons c r ih =>
    simp only [dirScan]
    split
    · split
      · right; exact ⟨_, rfl⟩
      · rcases ih (kw ++ [c]) (lookupDirective (kw ++ [c])) with h | h
        · right; exact ⟨_, h⟩
        · right; exact h
    · left; rfl

def DirGood (kw rest : Bytes) : Prop :=
  ∃ i, 1 ≤ i ∧ i ≤ rest.length ∧ lookupDirective (kw ++ rest.take i) ≠ .ILLEGAL ∧ (rest.take i).all isLetterWord = true

/-- `readDirective` stops at the first prefix that is a keyword, except that it reads on over `@else` in front of "if"
    and over `@break`, `@continue` in front of "If".  Up to a prefix that is a keyword all bytes are `isLetterWord`, so the
    scan does not end before one (`DirGood` is kept while it runs); where it reads on, two bytes further it stands at
    `@elseif`, `@breakIf`, `@continueIf`, keywords over which it does not read on (`potentiallyLong_cases`) -/
theorem dirScan_of_dirGood (rest : Bytes) : ∀ (kw : Bytes) (tok : TT), DirGood kw rest → (dirScan kw tok rest).2 ≠ .ILLEGAL := by
  induction rest with
  | nil => intro kw tok ⟨i, h1, h2, _⟩; simp at h2; omega
  | cons c r ih =>
    intro kw tok ⟨i, h1, h2, h3, h4⟩
    obtain ⟨j, rfl⟩ : ∃ j, i = j + 1 := ⟨i - 1, by omega⟩
    simp only [List.take_succ_cons, List.all_cons, Bool.and_eq_true] at h3 h4
    have hc : isLetterWord c = true := h4.1
    simp only [dirScan, hc, if_true]
    by_cases htok : lookupDirective (kw ++ [c]) = .ILLEGAL
    · simp only [htok, bne_self_eq_false, Bool.and_false]
      apply ih
      have hj : 1 ≤ j := by
        cases j with
        | zero => simp at h3; exact absurd htok h3
        | succ j => omega
      refine ⟨j, hj, by simpa using h2, ?_, h4.2⟩
      simpa [List.append_assoc] using h3
    · by_cases hlong : isPotentiallyLong (lookupDirective (kw ++ [c])) r = true
      · obtain ⟨c2, r2, hr, hl2, hi1, hi2, hnl⟩ := potentiallyLong_cases _ _ hlong htok
        subst hr
        have hf : isLetterWord 102 = true := by decide
        simp only [List.append_assoc, List.cons_append, List.nil_append] at hi1 hi2 hnl
        simp only [hlong, Bool.not_true, Bool.false_and]
        have step2 : dirScan (kw ++ [c]) (lookupDirective (kw ++ [c])) (c2 :: 102 :: r2) =
            dirScan (kw ++ [c, c2]) .ILLEGAL (102 :: r2) := by
          rw [dirScan]
          simp only [hl2, if_true, List.append_assoc, List.cons_append, List.nil_append, hi1, bne_self_eq_false,
            Bool.and_false]
          simp
        have step3 : dirScan (kw ++ [c, c2]) .ILLEGAL (102 :: r2) =
            (kw ++ [c, c2, 102], lookupDirective (kw ++ [c, c2, 102])) := by
          rw [dirScan]
          simp only [hf, if_true, List.append_assoc, List.cons_append, List.nil_append]
          have : (!isPotentiallyLong (lookupDirective (kw ++ [c, c2, 102])) r2 && lookupDirective (kw ++ [c, c2, 102]) != .ILLEGAL) = true := by
            simp [hnl r2, hi2]
          rw [if_pos this]
        rw [step2, step3]
        exact hi2
      · have : (!isPotentiallyLong (lookupDirective (kw ++ [c])) r && lookupDirective (kw ++ [c]) != .ILLEGAL) = true := by
          simp [hlong, htok]
        rw [if_pos this]
        exact htok

theorem isDirectiveToken_fst (s : Lx) :
    (isDirectiveToken s).1 = (s.char == 64 && !s.isEOF && hasDirectivePrefix s.rest && !(s.prev == 92)) := by
  unfold isDirectiveToken
  cases hc : (s.char == 64) <;> cases he : s.isEOF <;> cases hp : hasDirectivePrefix s.rest <;>
    cases h9 : (s.prev == 92) <;> simp [bne, hc]

theorem isDirectiveToken_true (s : Lx) (h : (isDirectiveToken s).1 = true) :
    s.char = 64 ∧ hasDirectivePrefix s.rest = true := by
  rw [isDirectiveToken_fst] at h
  simp only [Bool.and_eq_true, beq_iff_eq] at h
  exact ⟨h.1.1.1, h.1.2⟩

theorem dirScan_ne_illegal (s : Lx) (h : (isDirectiveToken s).1 = true) : (dirScan [] .ILLEGAL s.rest).2 ≠ .ILLEGAL := by
  have hp := (isDirectiveToken_true s h).2
  unfold hasDirectivePrefix at hp
  rw [List.any_eq_true] at hp
  obtain ⟨i, _, hi⟩ := hp
  simp only [Bool.and_eq_true, decide_eq_true_eq, bne_iff_ne, ne_eq] at hi
  exact dirScan_of_dirGood s.rest [] .ILLEGAL ⟨i + 1, by omega, hi.1, by simpa using hi.2, directive_letters _ hi.2⟩

theorem directiveDesc_eq (s : Lx) (h : (isDirectiveToken s).1 = true) :
    directiveDesc s =
      ⟨s, (dirScan [] .ILLEGAL s.rest).1.length, (dirScan [] .ILLEGAL s.rest).2, (dirScan [] .ILLEGAL s.rest).1⟩ := by
  unfold directiveDesc
  rw [if_neg (by simp [(isDirectiveToken_true s h).1])]
  exact if_neg (by simpa using dirScan_ne_illegal s h)

end Tw
