/-
  TwProofs.Lemmas.PrattFragment — the round trip for the fragment `BE` (identifiers, prefix `-` `!`,
  binary operators, the ternary, parentheses) as a case of the one for the whole language: what the
  fragment's printer prints is a printing (`Full.At`) of the embedded tree; the pair it puts around a prefix
  expression under a prefix operator (`-(-a)`) is one of the redundant pairs a printing may have (C01).
-/
import TwProofs.Lemmas.PrattFull

namespace Tw

def BE.toFE : BE → FE
  | .ident t => .atom t
  | .pre op r => .pre op r.toFE
  | .bin op l r => .bin op l.toFE r.toFE
  | .tern q c cnd a b => .tern q c cnd.toFE a.toFE b.toFE

/-- the lowest operator on the left spine of the bare form: the fragment's printer leaves a left operand bare only
    if it binds at least as tightly as its parent, so it is the top operator -/
def BE.spine : BE → Nat
  | .bin op _ _ => opPrec op
  | .tern _ _ _ _ _ => TERNARY
  | .ident _ => CLOSED
  | .pre _ _ => CLOSED

theorem BE.toExpr_toFE : ∀ e : BE, e.ok → e.toFE.toExpr = e.toExpr
  | .ident t, h => by rw [toFE, FE.toExpr, atomExpr_ident h]; rfl
  | .pre op r, h => by rw [toFE, FE.toExpr, toExpr_toFE r h.2]; rfl
  | .bin op l r, h => by rw [toFE, FE.toExpr, toExpr_toFE l h.2.1, toExpr_toFE r h.2.2]; rfl
  | .tern q c cnd a b, h => by
    rw [toFE, FE.toExpr, toExpr_toFE cnd h.2.2.1, toExpr_toFE a h.2.2.2.1, toExpr_toFE b h.2.2.2.2]; rfl

section
open Full
variable {d : Delims} (extra : BE → Bool)

theorem showAt_eq_wrap (lp rp : Token) (m : Nat) (e : BE) :
    showAt lp rp extra m e = wrap lp rp (e.tight m && !extra e) (BE.body lp rp extra e) := by
  cases e with
  | ident t => rw [showAt, BE.body, BE.tight, wrap]; cases extra (.ident t) <;> rfl
  | pre op r => rw [showAt, BE.body, BE.tight, wrap]; rfl
  | bin op l r => rw [showAt, BE.body, BE.tight, wrap]; rfl
  | tern q c cnd a b => rw [showAt, BE.body, BE.tight, wrap]; rfl

/-- where the fragment's printer leaves `e` bare at level `m`, the loop of that position consumes the left spine, and
    (for an operator's level) the loop open at the right end of `e` stops at the operator -/
theorem BE.of_tight {m : Nat} (hm : m ≤ PREFIX + 1) {e : BE} (h : e.tight m = true) :
    m ≤ e.spine ∧ (3 ≤ m → m ≤ e.toFE.lastLevel) := by
  unfold PREFIX at hm
  cases e with
  | ident t => exact ⟨by simp only [BE.spine, CLOSED]; omega, fun _ => by simp only [BE.toFE, FE.lastLevel, CLOSED]; omega⟩
  | pre op r => exact ⟨by simp only [BE.spine, CLOSED]; omega, fun _ => of_decide_eq_true h⟩
  | bin op l r => exact ⟨of_decide_eq_true h, fun _ => of_decide_eq_true h⟩
  | tern q c cnd a b =>
    have := of_decide_eq_true h
    exact ⟨this, fun _ => by unfold TERNARY at this; omega⟩

theorem at_toFE {m : Nat} (hm : m ≤ PREFIX + 1) (e : BE) (hB : Bare d e.toFE e.spine (BE.body d.lp d.rp extra e)) :
    At d m e.toFE (showAt d.lp d.rp extra m e) := by
  rw [showAt_eq_wrap]
  rcases wrap_cases d.lp d.rp (e.tight m && !extra e) (BE.body d.lp d.rp extra e) with ⟨hb, hw⟩ | ⟨_, hw⟩ <;> rw [hw]
  · exact .bare hB (BE.of_tight hm (Bool.and_eq_true_iff.mp hb).1).1
  · exact .paren hB

/-- a left operand: the fragment's printer asks for the level `m` (the operator's own, or `TERNARY + 1` in front of `?`),
    which is at least the operator's precedence `pn` -/
theorem lft_toFE {pn m : Nat} (h3 : 3 ≤ m) (hpn : pn ≤ m) (hm : m ≤ PREFIX) (e : BE)
    (hB : Bare d e.toFE e.spine (BE.body d.lp d.rp extra e)) :
    ∃ sl, pn ≤ sl ∧ Lft d pn e.toFE sl (showAt d.lp d.rp extra m e) := by
  rw [showAt_eq_wrap]
  rcases wrap_cases d.lp d.rp (e.tight m && !extra e) (BE.body d.lp d.rp extra e) with ⟨hb, hw⟩ | ⟨_, hw⟩ <;> rw [hw]
  · have ht := BE.of_tight (Nat.le_succ_of_le hm) (Bool.and_eq_true_iff.mp hb).1
    exact ⟨_, Nat.le_trans hpn ht.1, .bare hB (Nat.le_trans hpn (ht.2 h3))⟩
  · exact ⟨_, by unfold PREFIX at hm; unfold CLOSED; omega, .paren hB⟩

theorem bare_toFE : ∀ e : BE, e.ok → Bare d e.toFE e.spine (BE.body d.lp d.rp extra e)
  | .ident t, h => .atom (by rw [atomExpr_ident h]; rfl)
  | .pre op r, h => .pre h.1 (at_toFE extra (Nat.le_refl _) r (bare_toFE r h.2))
  | .bin op l r, h => by
    obtain ⟨h3, h6⟩ := binop_prec h.1
    obtain ⟨sl, hsl, hL⟩ := lft_toFE extra h3 (Nat.le_refl _) (by unfold PREFIX; omega) l (bare_toFE l h.2.1)
    have := Bare.bin h.1 hL (at_toFE extra (by unfold PREFIX; omega) r (bare_toFE r h.2.2))
    rw [Nat.min_eq_left hsl] at this
    simpa only [BE.body, BE.toFE, BE.spine, List.append_assoc, List.singleton_append, List.cons_append, List.nil_append] using this
  | .tern q c cnd a b, h => by
    obtain ⟨sl, hsl, hL⟩ := lft_toFE (pn := TERNARY) (m := TERNARY + 1) extra (by decide) (by decide) (by decide) cnd (bare_toFE cnd h.2.2.1)
    have := Bare.tern h.1 h.2.1 hL (at_toFE extra (by decide) a (bare_toFE a h.2.2.2.1)) (at_toFE extra (by decide) b (bare_toFE b h.2.2.2.2))
    rw [Nat.min_eq_left hsl] at this
    simpa only [BE.body, BE.toFE, BE.spine, List.append_assoc, List.singleton_append, List.cons_append, List.nil_append] using this

end

/-- **round trip for the fragment** (C01 `parse_of_print`): what its printer prints is a printing, and every printing parses back -/
theorem BE.parse_print (lp rp : Token) (hlp : lp.ty = .LPAREN) (hrp : rp.ty = .RPAREN) (extra : BE → Bool)
    (e : BE) (hok : e.ok) (k : List Token) (hk : NoIll k) (hstop : StopR LOWEST k) :
    RParses LOWEST (showAt lp rp extra (LOWEST + 1) e ++ k) e.toExpr
      (lastTok (showAt lp rp extra (LOWEST + 1) e) :: k) := by
  -- the fragment prints no bracket, brace or comma: any tokens of those kinds will do
  have hD : Full.Delims.Ok ⟨lp, rp, { eofTok with ty := .RBRACKET }, { eofTok with ty := .RBRACE }, { eofTok with ty := .COMMA }⟩ :=
    ⟨hlp, hrp, rfl, rfl, rfl⟩
  exact ⟨_, e.toExpr_toFE hok ▸ (at_toFE (m := LOWEST + 1) extra (by decide) e (bare_toFE extra e hok)).parse hD hk hstop⟩

/-- trees with the same minimal printing have the same `toExpr`: both printings parse back to it -/
theorem print_injective (lp rp : Token) (hlp : lp.ty = .LPAREN) (hrp : rp.ty = .RPAREN)
    (e1 e2 : BE) (h1 : e1.ok) (h2 : e2.ok) (k : List Token) (hk : NoIll k) (hstop : StopR LOWEST k)
    (heq : showAt lp rp (fun _ => false) (LOWEST + 1) e1 = showAt lp rp (fun _ => false) (LOWEST + 1) e2) :
    e1.toExpr = e2.toExpr :=
  (heq ▸ BE.parse_print lp rp hlp hrp (fun _ => false) e1 h1 k hk hstop).unique
    (BE.parse_print lp rp hlp hrp (fun _ => false) e2 h2 k hk hstop)

end Tw
