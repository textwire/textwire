/-
  TwProofs.Lemmas.ParseFuel — the model parser never runs out of fuel (C08; `expr_adq`, `stmt_adq`, `parseSource_ne_oof`):
  with the fuel the driver gives it (`parseFuel`, four units per token and a constant) no recursive call of the parser
  reaches fuel zero, whatever the token list.  Every descent into a recursive function either stays within a fixed chain
  of functions (expression → loop, body → block → statement, …) or comes after a token was consumed; the token list never
  grows and always ends in EOF.  The proofs are chains in `Room g c p q` (the parser has come from `p` to `q`, and the fuel
  `g` holds four units for every token left and `c` more): a token left behind adds 4 to `c`, a call is paid if the callee
  asks for less than `c`.  (`AdX f g`, `g_adq`: the fuel `f` is adequate for the function `g`.)
-/
import TwProofs.Lemmas.ParseShape
namespace Tw

def EndsEOF (p : PS) : Prop := ∃ e, p.toks.getLast? = some e ∧ e.ty = .EOF

/-- what every piece of the parser does to the state (weaker than `Adv`, which only the primitive steps satisfy) -/
structure Step (p q : PS) : Prop where
  oof : p.oof = false → q.oof = false
  len : q.toks.length ≤ p.toks.length
  eof : EndsEOF p → EndsEOF q

theorem Step.rfl' (p : PS) : Step p p := ⟨id, Nat.le_refl _, id⟩
theorem Step.trans {p q r : PS} (h1 : Step p q) (h2 : Step q r) : Step p r :=
  ⟨fun h => h2.oof (h1.oof h), Nat.le_trans h2.len h1.len, fun h => h2.eof (h1.eof h)⟩

structure Room (g c : Nat) (p q : PS) : Prop where
  step : Step p q
  eof : EndsEOF q
  le : 4 * q.toks.length + c ≤ g

theorem Adv.step {p q : PS} (h : Adv p q) : Step p q := by
  refine ⟨fun hp => by rw [h.oof]; exact hp, h.toks.length_le, ?_⟩
  intro ⟨e, he, hty⟩
  obtain ⟨pre, hpre⟩ := h.toks
  have hne := h.ne (by intro h0; rw [h0] at he; cases he)
  rw [← hpre, List.getLast?_append] at he
  cases hq : q.toks.getLast? with
  | none => exact absurd (List.getLast?_eq_none_iff.mp hq) hne
  | some x => rw [hq] at he; exact ⟨e, hq.trans he, hty⟩

theorem step_err (p : PS) (l : Nat) (c : String) (a : List Bytes) : Step p (p.err l c a) := (adv_err p l c a).step
theorem step_next (p : PS) : Step p p.next := (adv_next p).step
theorem step_expectPeek (p : PS) (t : TT) : Step p (p.expectPeek t).2 := (adv_expectPeek p t).step

theorem endsEOF_single {p : PS} (he : EndsEOF p) (h : ¬ 2 ≤ p.toks.length) : ∃ e, p.toks = [e] ∧ e.ty = .EOF := by
  obtain ⟨e, hl, hty⟩ := he
  cases hp : p.toks with
  | nil => rw [hp] at hl; cases hl
  | cons a r =>
    cases r with
    | nil =>
      rw [hp] at hl
      cases hl
      exact ⟨a, rfl, hty⟩
    | cons _ _ => rw [hp] at h; exact absurd (by simp) h

theorem two_le_of_cur (p : PS) (he : EndsEOF p) (hc : p.cur.ty ≠ .EOF) : 2 ≤ p.toks.length :=
  Decidable.byContradiction fun h => by
    obtain ⟨e, hp, hty⟩ := endsEOF_single he h
    exact hc (by simp [PS.cur, hp, hty])

theorem two_le_of_peek (p : PS) (he : EndsEOF p) (t : TT) (ht : t ≠ .EOF) (h : p.peekIs t = true) : 2 ≤ p.toks.length :=
  Decidable.byContradiction fun h2 => by
    obtain ⟨e, hp, hty⟩ := endsEOF_single he h2
    have : e.ty = t := by simpa [PS.peekIs, PS.peek, hp] using h
    exact ht (this ▸ hty)

theorem next_lt (p : PS) (h2 : 2 ≤ p.toks.length) : p.next.toks.length + 1 ≤ p.toks.length := by
  rw [next_toks_tail, if_pos h2, List.length_tail]
  omega

namespace Room
variable {g c : Nat} {p q r : PS}

theorem to (h : Room g c p q) (s : Step q r) : Room g c p r :=
  ⟨h.step.trans s, s.eof h.eof, by have := s.len; have := h.le; omega⟩
theorem lt (h : Room g c p q) (s : Step q r) (hl : r.toks.length + 1 ≤ q.toks.length) : Room g (c + 4) p r :=
  ⟨h.step.trans s, s.eof h.eof, by have := h.le; omega⟩
theorem adv (h : Room g c p q) (a : Adv q r) : Room g c p r := h.to a.step
theorem next (h : Room g c p q) : Room g c p q.next := h.adv (adv_next q)
theorem err (h : Room g c p q) (l : Nat) (s : String) (a : List Bytes) : Room g c p (q.err l s a) := h.adv (adv_err q l s a)
theorem expectPeek (h : Room g c p q) (t : TT) : Room g c p (q.expectPeek t).2 := h.adv (adv_expectPeek q t)

theorem here (h : Room g c p q) {c' : Nat} (hc : c' ≤ c := by decide) : Room g c' q q :=
  ⟨Step.rfl' q, h.eof, Nat.le_trans (Nat.add_le_add_left hc _) h.le⟩

theorem call {f d : Nat} (h : Room (f + 1) c p q) (hg : EndsEOF q → 4 * q.toks.length + d ≤ f → Step q r)
    (hd : d < c := by decide) : Room (f + 1) c p r :=
  h.to (hg h.eof (by have := h.le; omega))

theorem call0 {f : Nat} (h : Room (f + 1) c p q) (hg : EndsEOF q → 4 * q.toks.length ≤ f → Step q r)
    (hd : 0 < c := by decide) : Room (f + 1) c p r := h.call (d := 0) hg hd

theorem next_of_cur (h : Room g c p q) (hc : q.cur.ty ≠ .EOF) : Room g (c + 4) p q.next :=
  h.lt (step_next q) (next_lt q (two_le_of_cur q h.eof hc))

theorem next_of_peek (h : Room g c p q) {t : TT} (hp : q.peekIs t = true) (ht : t ≠ .EOF := by decide) : Room g (c + 4) p q.next :=
  h.lt (step_next q) (next_lt q (two_le_of_peek q h.eof t ht hp))

theorem expectPeek_ok (h : Room g c p q) {t : TT} (hok : (q.expectPeek t).1 = true) (ht : t ≠ .EOF := by decide) :
    Room g (c + 4) p (q.expectPeek t).2 := by
  rw [expectPeek_fst] at hok
  rw [Tw.expectPeek_ok q t hok]
  exact h.next_of_peek hok ht

/-- where `p` had two tokens, a `next` anywhere later leaves one of them behind -/
theorem next_of_two {c' : Nat} (h0 : Room g c p p) (h : Room g c' p q) (h2 : 2 ≤ p.toks.length) : Room g (c + 4) p q.next := by
  refine ⟨h.step.trans (step_next q), (step_next q).eof h.eof, ?_⟩
  have := h.step.len
  have := h0.le
  by_cases h1 : 2 ≤ q.toks.length
  · have := next_lt q h1; omega
  · have := (step_next q).len; omega

end Room

/-! The constants of `AdE` … `AdSk`.  A call made before a token is counted goes to a function with a smaller constant
    (`Room.call`); a counted token buys four units.  Expressions: operator loop 0 (`AdLoop`), list loop 0 (`AdLL`), list 1 < expression 2
    (which enters the list at `[` and the operator loop behind its operand) < object loop 3 (`{a}`: the expression at the
    key).  Statements: `skipHtml` 0; expression 2 < statement 4 < block 5 (and the program loop) < body 6 < `@elseif` tail
    7 and slots 7 (both enter the body), each entering the one before with no token counted; and slots 7 < statement
    4 + 4, since `parseComponentStmt` enters the slots one counted token, its `(`, behind its start.  The pieces of a
    statement ask one more than what they enter with no token counted: 3 in front of the expression (`parseEmbeddedCode`,
    `forClause`, `forCond`, `componentArg`; and `parseCondDirective`, which counts a token first), 7 in front of the body
    (`loopElse`, `loopResult`); the statement hands them its room by `Room.here`, at 4 or, behind counted tokens, at 8
    and more. -/

def AdE (f : Nat) (pe : Nat → PS → Expr × PS) : Prop :=
  ∀ prec q, EndsEOF q → 4 * q.toks.length + 2 ≤ f → Step q (pe prec q).2
def AdL (f : Nat) (pl : TT → PS → List Expr × PS) : Prop :=
  ∀ t q, EndsEOF q → q.cur.ty ≠ .EOF → 4 * q.toks.length + 1 ≤ f → Step q (pl t q).2
def AdO (f : Nat) (po : Token → List (Bytes × Expr) → PS → Expr × PS) : Prop :=
  ∀ t prs q, EndsEOF q → 4 * q.toks.length + 3 ≤ f → Step q (po t prs q).2

def AdLoop (f : Nat) (lp : Nat → Expr → PS → Expr × PS) : Prop :=
  ∀ prec left q, EndsEOF q → 4 * q.toks.length ≤ f → Step q (lp prec left q).2
def AdLL (f : Nat) (ll : TT → List Expr → PS → List Expr × PS) : Prop :=
  ∀ t acc q, EndsEOF q → 4 * q.toks.length ≤ f → Step q (ll t acc q).2

theorem curIs_ne_eof {p : PS} {t : TT} (h : p.cur.ty = t) (ht : t ≠ .EOF) : p.cur.ty ≠ .EOF := by rw [h]; exact ht

theorem prefixBody_adq {f : Nat} {pe : Nat → PS → Expr × PS} {pl : TT → PS → List Expr × PS}
    {po : Token → List (Bytes × Expr) → PS → Expr × PS} (hpe : AdE f pe) (hpl : AdL f pl) (hpo : AdO f po)
    {p : PS} (h0 : Room (f + 1) 2 p p) : ∀ r, prefixBody pe pl po p = some r → Step p r.2 := by
  have hn : ∀ {t}, p.cur.ty = t → t ≠ .EOF → Room (f + 1) (2 + 4) p p.next := fun hty ht => h0.next_of_cur (curIs_ne_eof hty ht)
  have sub : ∀ {t}, p.cur.ty = t → t ≠ .EOF → ∀ prec, Room (f + 1) (2 + 4) p (pe prec p.next).2 := fun hty ht prec =>
    (hn hty ht).call (hpe prec _)
  exact prefixBody_cases (motive := fun r => Step p r.2) h0.step (fun _ => h0.step) (fun _ => h0.step)
    (step_err p) h0.step h0.step (fun _ => h0.step)
    (fun hty => hty.elim (fun h => (sub h (by decide) _).step) fun h => (sub h (by decide) _).step)
    (fun hty => ((sub hty (by decide) _).expectPeek _).step)
    (fun hty _ => ((sub hty (by decide) _).expectPeek _).step)
    (fun hty => (h0.call (hpl .RBRACKET p · (curIs_ne_eof hty (by decide)))).step) h0.next.step
    fun hty => ((hn hty (by decide)).call (hpo _ _ _)).step

theorem infixBody_adq {f : Nat} {pe : Nat → PS → Expr × PS} {pl : TT → PS → List Expr × PS} (hpe : AdE f pe) (hpl : AdL f pl)
    (left : Expr) {p1 : PS} (h0 : Room (f + 1) 4 p1 p1) : Step p1 (infixBody pe pl left p1).2 := by
  have sub : ∀ prec, Room (f + 1) 4 p1 (pe prec p1.next).2 := fun prec => h0.next.call (hpe prec _)
  have hid := h0.expectPeek .IDENT
  exact infixBody_cases (motive := fun r => Step p1 r.2) (h0.next.err _ _ _).step (sub _).step
    (fun _ => ((sub _).expectPeek _).step)
    (((sub TERNARY).expectPeek .COLON).next.call (hpe LOWEST _)).step
    ((sub _).expectPeek _).step (fun _ => ((sub _).expectPeek _).step) h0.step (fun _ => hid.step)
    -- call: the current token is the opening parenthesis
    (fun hpk => ((hid.expectPeek .LPAREN).call (hpl .RPAREN _ · (by rw [expectPeek_cur _ _ hpk]; decide))).step)
    hid.step

theorem endsEOF_pos {q : PS} (h : EndsEOF q) : 1 ≤ q.toks.length := by
  obtain ⟨e, hl, _⟩ := h
  cases hq : q.toks with
  | nil => rw [hq] at hl; simp at hl
  | cons _ _ => simp

/-- the expression parser never exhausts fuel that is four units per remaining token (and a
    small constant per function) -/
theorem expr_adq : ∀ f : Nat,
    AdE f (parseExpression f) ∧ AdLoop f (prattLoop f) ∧ AdL f (parseExprList f) ∧ AdLL f (exprListLoop f) ∧ AdO f (parseObjLoop f) := by
  intro f
  induction f with
  | zero =>
    refine ⟨?_, ?_, ?_, ?_, ?_⟩
    · intro prec q he hf; have := endsEOF_pos he; omega
    · intro prec l q he hf; have := endsEOF_pos he; omega
    · intro t q he _ hf; have := endsEOF_pos he; omega
    · intro t acc q he hf; have := endsEOF_pos he; omega
    · intro t prs q he hf; have := endsEOF_pos he; omega
  | succ f ih =>
    obtain ⟨ihE, ihLoop, ihL, ihLL, ihO⟩ := ih
    refine ⟨?_, ?_, ?_, ?_, ?_⟩
    · intro prec q he hf
      have h0 : Room (f + 1) 2 q q := ⟨Step.rfl' q, he, hf⟩
      rw [parseExpression_succ]
      cases hpb : prefixBody (parseExpression f) (parseExprList f) (parseObjLoop f) q with
      | none => exact step_err _ _ _ _
      | some r => exact ((h0.to (prefixBody_adq ihE ihL ihO h0 r hpb)).call0 (ihLoop prec r.1 r.2)).step
    · intro prec left q he hf
      have h0 : Room (f + 1) 0 q q := ⟨Step.rfl' q, he, hf⟩
      refine prattLoop_cases (motive := fun r => Step q r.2) (Step.rfl' q) fun hinf => ?_
      have h1 := h0.next_of_peek (t := q.peek.ty) (by simp [PS.peekIs]) (fun he => by rw [he] at hinf; cases hinf)
      exact ((h1.to (infixBody_adq ihE ihL left h1.here)).call0 (ihLoop prec _ _)).step
    · intro t q he hc hf
      have h0 : Room (f + 1) 1 q q := ⟨Step.rfl' q, he, hf⟩
      exact parseExprList_cases (motive := fun r => Step q r.2) (step_next q)
        (((h0.next_of_cur hc).call (ihE LOWEST _)).call0 (ihLL t _ _)).step
    · intro t acc q he hf
      have h0 : Room (f + 1) 0 q q := ⟨Step.rfl' q, he, hf⟩
      refine exprListLoop_cases (motive := fun r => Step q r.2)
        (fun q' a => ⟨a.step.trans (step_expectPeek _ _), a.step.trans (step_expectPeek _ _)⟩) fun hcm =>
        (((h0.next_of_peek hcm).next.call (ihE LOWEST _)).call0 (ihLL t _ _)).step
    · intro t prs q he hf
      have h0 : Room (f + 1) 3 q q := ⟨Step.rfl' q, he, hf⟩
      have key : ∀ p0, Adv q p0 → Room (f + 1) 3 q (parseExpression f LOWEST p0).2 := fun p0 a => (h0.adv a).call (ihE LOWEST p0)
      exact parseObjLoop_cases (motive := fun r => Step q r.2) (Step.rfl' q) (step_err q)
        (fun p0 a => (key p0 a).next.step) (fun p0 a _ => ((key p0 a).expectPeek _).step)
        fun p0 a hok => (((key p0 a).expectPeek_ok hok).next.call (ihO t _ _)).step

def AdB (f : Nat) (pbody : PS → List Stmt × PS) : Prop := ∀ q, EndsEOF q → 4 * q.toks.length + 6 ≤ f → Step q (pbody q).2
def AdBS (f : Nat) (pblock : List Stmt → PS → List Stmt × PS) : Prop :=
  ∀ acc q, EndsEOF q → 4 * q.toks.length + 5 ≤ f → Step q (pblock acc q).2
def AdS (f : Nat) (pst : PS → Stmt × PS) : Prop := ∀ q, EndsEOF q → 4 * q.toks.length + 4 ≤ f → Step q (pst q).2
def AdIT (f : Nat) (ptail : Token → Expr → List Stmt → List (Expr × List Stmt) → PS → Stmt × PS) : Prop :=
  ∀ t c cons alts q, EndsEOF q → 4 * q.toks.length + 7 ≤ f → Step q (ptail t c cons alts q).2
def AdSl (f : Nat) (pslots : List SlotUse → PS → List SlotUse × PS) : Prop :=
  ∀ acc q, EndsEOF q → 4 * q.toks.length + 7 ≤ f → Step q (pslots acc q).2
def AdSk (f : Nat) (pskip : PS → PS) : Prop := ∀ q, EndsEOF q → 4 * q.toks.length ≤ f → Step q (pskip q)

section stmts
variable {f g c : Nat} {pe : Nat → PS → Expr × PS} {pl : TT → PS → List Expr × PS} {pst : PS → Stmt × PS}
  {pbody : PS → List Stmt × PS} {pblock : List Stmt → PS → List Stmt × PS}
  {ptail : Token → Expr → List Stmt → List (Expr × List Stmt) → PS → Stmt × PS}
  {pslots : List SlotUse → PS → List SlotUse × PS} {pskip : PS → PS} {p q : PS}

theorem expectThen_adq {t : TT} {cont : PS → Stmt × PS} (h : Room g c p q)
    (hk : ∀ q', Room g (c + 4) p q' → q'.cur.ty = t → Step p (cont q').2) (ht : t ≠ .EOF := by decide) :
    Step p (expectThen t q cont).2 := by
  unfold expectThen
  split
  · rename_i hok
    exact hk _ (h.expectPeek_ok hok ht) (expectPeek_cur q t (by rwa [expectPeek_fst] at hok))
  · exact (h.expectPeek t).step

theorem parseEmbeddedCode_adq (hpe : AdE f pe) (h0 : Room (f + 1) 3 p p) : Step p (parseEmbeddedCode pe p).2 :=
  have sub : ∀ q, Adv p q → Room (f + 1) 3 p (pe LOWEST q).2 := fun q a => (h0.adv a).call (hpe LOWEST q)
  parseEmbeddedCode_cases (motive := fun r => Step p r.2) (fun q _ _ _ a => a.step.trans (step_err _ _ _ _)) (fun q a => (sub q a).step)
    fun q a => ((sub _ (adv_next p)).adv a).step

theorem parseCondDirective_adq (hpe : AdE f pe) {mk : Token → Expr → Stmt} (h0 : Room (f + 1) 3 p p) :
    Step p (parseCondDirective pe p mk).2 := by
  rw [parseCondDirective_eq]
  exact expectThen_adq h0 fun p1 h1 _ => (h1.next.call (hpe LOWEST _)).step

theorem parseIfStmt_adq (hpe : AdE f pe) (hbody : AdB f pbody) (htail : AdIT f ptail) (h0 : Room (f + 1) 4 p p) :
    Step p (parseIfStmt pe pbody ptail p).2 := by
  rw [parseIfStmt_eq]
  refine expectThen_adq h0 fun p1 h1 _ => expectThen_adq (h1.next.call (hpe LOWEST _)) fun p3 h3 _ => ?_
  exact ((h3.call (hbody _)).call (htail _ _ _ _ _)).step

theorem loopElse_adq (hbody : AdB f pbody) (h0 : Room (f + 1) 7 p p) : Step p (loopElse pbody p).2 := by
  unfold loopElse
  simp only []
  split
  · exact (h0.next.call (hbody _)).step
  · exact Step.rfl' p

theorem forClause_adq (hpe : AdE f pe) (stop : TT) (h0 : Room (f + 1) 3 p p) : Step p (forClause pe stop p).2 := by
  unfold forClause
  simp only []
  split
  · exact parseEmbeddedCode_adq hpe h0
  · exact Step.rfl' p

theorem forCond_adq (hpe : AdE f pe) (h0 : Room (f + 1) 3 p p) : Step p (forCond pe p).2 := by
  unfold forCond
  simp only []
  split
  · exact (h0.next.call (hpe LOWEST _)).step
  · exact Step.rfl' p

theorem loopResult_adq (hbody : AdB f pbody) {mk : List Stmt → Option (List Stmt) → Stmt} (h0 : Room (f + 1) 7 p p) :
    Step p (loopResult mk (parseLoopBody pbody p)).2 := by
  rw [loopResult_eq]
  have h1 := h0.call (hbody p)
  exact expectThen_adq (h1.to (loopElse_adq hbody h1.here)) fun q h _ => h.step

theorem parseForStmt_adq (hpe : AdE f pe) (hbody : AdB f pbody) (h0 : Room (f + 1) 4 p p) : Step p (parseForStmt pe pbody p).2 := by
  rw [parseForStmt_eq]
  refine expectThen_adq h0 fun p1 h1 _ => ?_
  refine expectThen_adq (h1.to (forClause_adq hpe .SEMI h1.here)) fun p3 h3 _ => ?_
  refine expectThen_adq (h3.to (forCond_adq hpe h3.here)) fun p5 h5 _ => ?_
  exact expectThen_adq (h5.to (forClause_adq hpe .RPAREN h5.here)) fun p7 h7 _ => (h7.to (loopResult_adq hbody h7.here)).step

theorem parseEachStmt_adq (hpe : AdE f pe) (hbody : AdB f pbody) (h0 : Room (f + 1) 4 p p) : Step p (parseEachStmt pe pbody p).2 := by
  rw [parseEachStmt_eq]
  refine expectThen_adq h0 fun p1 h1 _ => expectThen_adq h1.next fun p3 h3 _ => ?_
  exact expectThen_adq (h3.next.call (hpe LOWEST _)) fun p5 h5 _ => (h5.to (loopResult_adq hbody h5.here)).step

theorem step_with (p : PS) (q : PS) (h : q.toks = p.toks) (ho : q.oof = p.oof) : Step p q :=
  ⟨fun hp => by rw [ho]; exact hp, by rw [h]; exact Nat.le_refl _, fun ⟨e, hl, ht⟩ => ⟨e, by rw [h]; exact hl, ht⟩⟩

theorem parseInsertStmt_adq (hpe : AdE f pe) (hbody : AdB f pbody) (h0 : Room (f + 1) 4 p p) : Step p (parseInsertStmt pe pbody p).2 := by
  rw [parseInsertStmt_eq]
  refine expectThen_adq h0 fun p1 h1 _ => ?_
  refine iteInduction (motive := fun r : Stmt × PS => Step p r.2) (fun _ => (h1.next.err _ _ _).step) fun _ =>
    iteInduction (motive := fun r : Stmt × PS => Step p r.2) (fun _ => ?_) fun _ => ?_
  · exact (h1.next.next.next.call (hpe LOWEST _)).step.trans (step_with _ _ rfl rfl)
  · exact expectThen_adq h1.next fun p3 h3 _ => (h3.call (hbody _)).step.trans (step_with _ _ rfl rfl)

theorem componentArg_adq (hpe : AdE f pe) (h0 : Room (f + 1) 3 p p) : Step p (componentArg pe p).2 := by
  unfold componentArg
  simp only []
  split
  · have h2 := h0.next.next.call (hpe LOWEST _)
    generalize pe LOWEST p.next.next = q2 at h2 ⊢
    split
    · exact h2.step
    · exact (h2.err _ _ _).step
  · exact Step.rfl' p

theorem componentSlots_adq (hslots : AdSl f pslots) (h0 : Room (f + 1) 8 p p) : Step p (componentSlots pslots p).2 :=
  componentSlots_cases (motive := fun r => Step p r.2) (Step.rfl' p) fun q a => ((h0.adv a).call (hslots [] q)).step

theorem parseComponentStmt_adq (hpe : AdE f pe) (hslots : AdSl f pslots) (h0 : Room (f + 1) 4 p p) :
    Step p (parseComponentStmt pe pslots p).2 := by
  unfold parseComponentStmt
  simp only []
  have e1 := h0.expectPeek .LPAREN
  have l1 := fun hok => h0.expectPeek_ok (t := .LPAREN) hok
  generalize p.expectPeek .LPAREN = q1 at e1 l1 ⊢
  split
  · exact e1.step
  · rename_i hok
    have e2 := (l1 (by simpa using hok)).next.adv (adv_aliasPath q1.2.next "components")
    generalize aliasPath q1.2.next "components" = q2 at e2 ⊢
    have h3 := e2.to (componentArg_adq hpe e2.here)
    generalize componentArg pe q2.2 = q3 at h3 ⊢
    split
    · exact h3.step
    · have e4 := h3.expectPeek .RPAREN
      generalize q3.2.expectPeek .RPAREN = q4 at e4 ⊢
      split
      · exact e4.step
      · exact (e4.to (componentSlots_adq hslots e4.here)).step.trans (step_with _ _ rfl rfl)

theorem statementBody_adq (hpe : AdE f pe) (hpl : AdL f pl) (hbody : AdB f pbody) (htail : AdIT f ptail) (hslots : AdSl f pslots)
    (h0 : Room (f + 1) 4 p p) : Step p (statementBody pe pl pbody ptail pslots p).2 := by
  have slot := (h0.next.next.expectPeek .RPAREN).step
  exact statementBody_cases (motive := fun r => Step p r.2) h0.step (parseEmbeddedCode_adq hpe h0.here)
    (parseIfStmt_adq hpe hbody htail h0) (parseForStmt_adq hpe hbody h0) (parseEachStmt_adq hpe hbody h0)
    (expectThen_adq h0 fun q h _ => (h.next.adv (adv_aliasPath _ _)).step.trans (step_with _ _ rfl rfl))
    (expectThen_adq h0 fun q h _ => h.next.step.trans (step_with _ _ rfl rfl))
    (parseInsertStmt_adq hpe hbody h0) (parseCondDirective_adq hpe h0.here) (parseCondDirective_adq hpe h0.here)
    (parseComponentStmt_adq hpe hslots h0) h0.step slot slot
    (expectThen_adq h0 fun q h c1 => (h.call (hpl .RPAREN q · (by rw [c1]; decide))).step)
    h0.step h0.step h0.step

theorem bodyBody_adq (hblock : AdBS f pblock) (h0 : Room (f + 1) 6 p p) : Step p (bodyBody pblock p).2 := by
  unfold bodyBody
  split
  · exact Step.rfl' p
  · exact (h0.next.call (hblock [] _)).step

theorem curIs_false_ne {p : PS} {t : TT} (h : ¬ p.curIs t = true) : p.cur.ty ≠ t := by
  intro he; apply h; simp [PS.curIs, he]

theorem blockStmtBody_adq (hst : AdS f pst) (hblock : AdBS f pblock) (acc : List Stmt) (h0 : Room (f + 1) 5 p p) :
    Step p (blockStmtBody pst pblock acc p).2 := by
  have h1 := h0.call (hst p)
  exact blockStmtBody_cases (motive := fun r => Step p r.2) (Step.rfl' p) (step_err p) (fun _ => h1.step) fun hneof =>
    ((h0.next_of_two h1 (two_le_of_cur p h0.eof (curIs_false_ne hneof))).call (hblock _ _)).step

theorem ifTailBody_adq (hpe : AdE f pe) (hbody : AdB f pbody) (htail : AdIT f ptail) (t : Token) (c : Expr) (cons : List Stmt)
    (alts : List (Expr × List Stmt)) (h0 : Room (f + 1) 7 p p) : Step p (ifTailBody pe pbody ptail t c cons alts p).2 := by
  rw [ifTailBody_eq]
  refine iteInduction (motive := fun r : Stmt × PS => Step p r.2) (fun hpk => ?_) fun _ =>
    iteInduction (motive := fun r : Stmt × PS => Step p r.2) (fun _ => ?_) fun _ => expectThen_adq h0 fun q h _ => h.step
  · have h1 := h0.expectPeek_ok (t := .ELSE_IF) (by rw [expectPeek_fst]; exact hpk)
    refine expectThen_adq (h1.next.next.call (hpe LOWEST _)) fun p4 h4 _ => ?_
    exact ((h4.call (hbody _)).call (htail _ _ _ _ _)).step
  · have h1 := h0.next.call (hbody _)
    exact iteInduction (motive := fun r : Stmt × PS => Step p r.2) (fun _ => (h1.err _ _ _).step) fun _ =>
      expectThen_adq h1 fun q h _ => h.step

theorem slotsBody_adq (hbody : AdB f pbody) (hslots : AdSl f pslots) (hskip : AdSk f pskip) (acc : List SlotUse)
    (h0 : Room (f + 1) 7 p p) : Step p (slotsBody pbody pslots pskip acc p).2 := by
  unfold slotsBody
  split
  · exact Step.rfl' p
  · rename_i hslot
    have hcur : p.cur.ty = .SLOT := by
      have : p.curIs .SLOT = true := by simpa using hslot
      simpa [PS.curIs] using this
    simp only []
    have e1 := h0.adv (adv_slotHeader p)
    generalize slotHeader p = q1 at e1 ⊢
    split
    · exact e1.step
    · have h3 := e1.call (hbody q1.2)
      generalize pbody q1.2 = q3 at h3 ⊢
      have h5 := (h0.next_of_two h3 (two_le_of_cur p h0.eof (by rw [hcur]; decide))).next.call0 (hskip _)
      exact (h5.call (hslots _ _)).step

theorem skipHtmlBody_adq (hskip : AdSk f pskip) (h0 : Room (f + 1) 0 p p) : Step p (skipHtmlBody pskip p) := by
  unfold skipHtmlBody
  split
  · rename_i hc
    have hcur : p.cur.ty = .HTML := by simpa [PS.curIs] using hc
    exact ((h0.next_of_cur (by rw [hcur]; decide)).call0 (hskip _)).step
  · exact Step.rfl' p

end stmts

/-- the statement parser never exhausts fuel that is four units per remaining token (and a small
    constant per function) -/
theorem stmt_adq : ∀ f : Nat,
    AdS f (parseStatement f) ∧ AdB f (parseBody f) ∧ AdBS f (parseBlockStmt f) ∧ AdIT f (parseIfTail f) ∧
    AdSl f (parseSlots f) ∧ AdSk f (skipHtml f) := by
  intro f
  induction f with
  | zero =>
    refine ⟨?_, ?_, ?_, ?_, ?_, ?_⟩
    · intro q he hf; have := endsEOF_pos he; omega
    · intro q he hf; have := endsEOF_pos he; omega
    · intro acc q he hf; have := endsEOF_pos he; omega
    · intro t c cons alts q he hf; have := endsEOF_pos he; omega
    · intro acc q he hf; have := endsEOF_pos he; omega
    · intro q he hf; have := endsEOF_pos he; omega
  | succ f ih =>
    obtain ⟨ihS, ihB, ihBS, ihIT, ihSl, ihSk⟩ := ih
    obtain ⟨ihE, _, ihL, _, _⟩ := expr_adq f
    exact ⟨fun q he hf => statementBody_adq ihE ihL ihB ihIT ihSl ⟨.rfl' q, he, hf⟩, fun q he hf => bodyBody_adq ihBS ⟨.rfl' q, he, hf⟩,
      fun acc q he hf => blockStmtBody_adq ihS ihBS acc ⟨.rfl' q, he, hf⟩,
      fun t c cons alts q he hf => ifTailBody_adq ihE ihB ihIT t c cons alts ⟨.rfl' q, he, hf⟩,
      fun acc q he hf => slotsBody_adq ihB ihSl ihSk acc ⟨.rfl' q, he, hf⟩, fun q he hf => skipHtmlBody_adq ihSk ⟨.rfl' q, he, hf⟩⟩

theorem parseProgramLoop_adq : ∀ (f : Nat) (acc : List Stmt) (p : PS), EndsEOF p → 4 * p.toks.length + 5 ≤ f →
    Step p (parseProgramLoop f acc p).2
  | 0, _, p, he, hf => by have := endsEOF_pos he; omega
  | f + 1, acc, p, he, hf => by
    have h0 : Room (f + 1) 5 p p := ⟨.rfl' p, he, hf⟩
    have h1 := h0.call ((stmt_adq f).1 p)
    exact parseProgramLoop_cases (motive := fun r => Step p r.2) (Step.rfl' p) (fun _ _ _ => (h1.err _ _ _).step) fun hneof =>
      ((h0.next_of_two h1 (two_le_of_cur p he (curIs_false_ne hneof))).call (parseProgramLoop_adq f _ _)).step

theorem finishParse_ne_oof {ic : Bool} {first : Token} {stmts : Option (List Stmt)} {p1 : PS} (h : p1.oof = false) :
    finishParse ic first stmts p1 ≠ .oof := by
  obtain ⟨p2, a, e⟩ := finishParse_adv ic first stmts p1
  rw [e, finishParse_false, if_neg (by rw [a.oof, h]; simp)]
  split <;> simp

/-- C08 `parser_never_out_of_fuel` with the lexer's two facts as hypotheses: `hends`, the token list ends in EOF
    (`token_list_ends_with_eof`), and `htot` (`tokenize_total`) -/
theorem parseSource_ne_oof (src : Bytes) (base : Nat)
    (hends : ∀ r, tokenize src = some r → ∃ ts e, r.toks = ts ++ [e] ∧ e.ty = .EOF)
    (htot : (tokenize src).isSome = true) : parseSource src base ≠ .oof := by
  unfold parseSource
  cases htk : tokenize src with
  | none => rw [htk] at htot; cases htot
  | some lr =>
    simp only []
    split
    · simp
    · obtain ⟨ts, e, hts, hety⟩ := hends lr htk
      have he0 : EndsEOF ({ toks := lr.toks, nextId := base } : PS) := ⟨e, by simp [hts], hety⟩
      have hi := (adv_initParser lr.toks base).step
      have hil := hi.len
      -- the loop asks for four units per token and 5; `parseFuel` gives four per token and 16
      have hloop := parseProgramLoop_adq (parseFuel lr.toks) [] (initParser lr.toks base) (hi.eof he0)
        (by simp only [parseFuel]; simp at hil; omega)
      exact finishParse_ne_oof (hloop.oof (hi.oof rfl))

end Tw
