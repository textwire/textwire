/-
  TwProofs.Lemmas.Loops — `@each` and `@for` as a sequence of passes (C03).  `EachPasses` / `ForPasses` list the passes of
  a loop, each an evaluation of the body at fuel `f` (the element bound and `loop` set; the condition true and the post
  clause run; a pass that breaks is the last).  `eachLoop_passes` / `forLoop_passes`: the loop function then returns
  their texts in order, at fuel `f + 1` and one unit per element (`@each`) or pass (`@for`).  EachSimple builds the passes
  of a simple body, C03 states its loop theorems over them.  (`eachLoop_mono`, `forLoop_mono`, the loops' instances of
  `Stable`, serve none of it.)
-/
import TwProofs.Lemmas.EvalStep
import TwProofs.Lemmas.EvalWalk

namespace Tw

theorem eachLoop_mono (fuel k : Nat) (c : Ctx) (env : Env) (t : Token) (var : Bytes) (body : List Stmt) (xs : List Val)
    (i n : Nat) (acc : Bytes) (h : eachLoop fuel c env t var body xs i n acc ≠ .oof) :
    eachLoop (fuel + k) c env t var body xs i n acc = eachLoop fuel c env t var body xs i n acc :=
  Stable.iter (g := fun m => eachLoop m c env t var body xs i n acc)
    (fun m => (calleesAt_rel stable_closed m).eachL c env t var body xs i n acc) fuel k h

theorem forLoop_mono (fuel k : Nat) (c : Ctx) (env : Env) (t : Token) (init : Option Stmt) (cnd : Option Expr)
    (post : Option Stmt) (body : List Stmt) (acc : Bytes) (h : forLoop fuel c env t init cnd post body acc ≠ .oof) :
    forLoop (fuel + k) c env t init cnd post body acc = forLoop fuel c env t init cnd post body acc :=
  Stable.iter (g := fun m => forLoop m c env t init cnd post body acc)
    (fun m => (calleesAt_rel stable_closed m).forL c env t init cnd post body acc) fuel k h

/-- the passes of an `@each` over the remaining elements `xs`, the next one at position `i` of `n`.  `out` is the text emitted. -/
inductive EachPasses (f : Nat) (c : Ctx) (t : Token) (var : Bytes) (body : List Stmt) (n : Nat) :
    Env → List Val → Nat → Bytes → Prop
  | done (env : Env) (i : Nat) : EachPasses f c t var body n env [] i []
  | pass (env : Env) (x : Val) (rest : List Val) (i : Nat) (env1 : Env) (r : Out × Env) (out : Bytes) :
      setVar env var x t.errorLine = .ok env1 →
      evalBlock f c (env1.setLoop (loopObj i n)) body = .ok r →
      r.1.brk = false →
      EachPasses f c t var body n r.2 rest (i + 1) out →
      EachPasses f c t var body n env (x :: rest) i (r.1.text ++ out)
  | brk (env : Env) (x : Val) (rest : List Val) (i : Nat) (env1 : Env) (r : Out × Env) :
      setVar env var x t.errorLine = .ok env1 →
      evalBlock f c (env1.setLoop (loopObj i n)) body = .ok r →
      r.1.brk = true →
      EachPasses f c t var body n env (x :: rest) i r.1.text

theorem eachLoop_step {F : Nat} {c : Ctx} {env env1 : Env} {t : Token} {var : Bytes} {body : List Stmt} {x : Val} {i n : Nat}
    {r : Out × Env} (rest : List Val) (acc : Bytes) (hs : setVar env var x t.errorLine = .ok env1)
    (hb : evalBlock F c (env1.setLoop (loopObj i n)) body = .ok r) :
    eachLoop (F + 1) c env t var body (x :: rest) i n acc =
      if r.1.brk then .ok (acc ++ r.1.text) else eachLoop F c r.2 t var body rest (i + 1) n (acc ++ r.1.text) := by
  rw [eachLoop_succ]
  simp only [eachBody, calleesAt_block, calleesAt_eachL]
  rw [hs, Res.bind_ok, hb, Res.bind_ok]

/-- the fuel: `f` for the body, one unit for every element of `xs` (those behind a pass that breaks too) and one for the
    step that finds the list empty -/
theorem eachLoop_passes {f : Nat} {c : Ctx} {t : Token} {var : Bytes} {body : List Stmt} {n : Nat}
    {env : Env} {xs : List Val} {i : Nat} {out : Bytes} (h : EachPasses f c t var body n env xs i out) :
    ∀ acc, eachLoop (f + xs.length + 1) c env t var body xs i n acc = .ok (acc ++ out) := by
  induction h with
  | done env i => intro acc; rw [eachLoop_succ]; simp [eachBody]
  | pass env x rest i env1 r out hs hb hbrk _ ih =>
    intro acc
    rw [List.length_cons, eachLoop_step rest acc hs (evalBlock_lift hb _)]
    simp only [hbrk, Bool.false_eq_true, if_false]
    rw [show f + (rest.length + 1) = f + rest.length + 1 from rfl, ih, List.append_assoc]
  | brk env x rest i env1 r hs hb hbrk =>
    intro acc
    rw [List.length_cons, eachLoop_step rest acc hs (evalBlock_lift hb _)]
    simp only [hbrk, if_true]

def CondIs (f : Nat) (c : Ctx) (env : Env) (cnd : Option Expr) (bv : Bool) : Prop :=
  match cnd with
  | none => bv = true
  | some ce => ∃ v, evalExpr f c env ce = .ok v ∧ isTruthy v = bv

def postRes (f : Nat) (c : Ctx) (t : Token) (init post : Option Stmt) (env : Env) : Res Env :=
  match post with
  | none => .ok env
  | some (.expr _ pe) =>
    (evalExpr f c env pe).bind fun pv =>
      match init with
      | some (.assign _ name _) => setVar env name pv t.errorLine
      | _ => .ok env
  | some ps => (evalStmt f c env ps).bind fun r2 => .ok r2.2

theorem CondIs.loopCond {f : Nat} {c : Ctx} {env : Env} {cnd : Option Expr} {bv : Bool} (h : CondIs f c env cnd bv) (k : Nat) :
    Tw.loopCond (evalExpr (f + k)) c env cnd = .ok bv := by
  cases cnd with
  | none => simp only [CondIs] at h; rw [h]; rfl
  | some ce =>
    obtain ⟨v, hv, hb⟩ := h
    simp only [Tw.loopCond, condTruth]
    rw [evalExpr_lift hv, Res.bind_ok, hb]

theorem forLoop_step {F : Nat} {c : Ctx} {env : Env} {t : Token} {init : Option Stmt} {cnd : Option Expr}
    {post : Option Stmt} {body : List Stmt} {acc : Bytes} {r : Out × Env}
    (hc : loopCond (evalExpr F) c env cnd = .ok true)
    (hb : evalBlock F c env body = .ok r) :
    forLoop (F + 1) c env t init cnd post body acc =
      if r.1.brk then .ok (acc ++ r.1.text)
      else (postRes F c t init post r.2).bind fun env2 => forLoop F c env2 t init cnd post body (acc ++ r.1.text) := by
  rw [forLoop_succ]
  simp only [forBody, calleesAt_expr, calleesAt_block, calleesAt_forL, calleesAt_stmt]
  rw [hc, Res.bind_ok]
  simp only [Bool.not_true, Bool.false_eq_true, if_false]
  rw [hb, Res.bind_ok]
  cases r.1.brk with
  | true => rfl
  | false =>
    simp only [Bool.false_eq_true, if_false]
    cases post with
    | none => rfl
    | some ps =>
      cases ps with
      | expr t2 pe =>
        dsimp only [postRes]
        rw [Res.bind_assoc]
        congr 1
        funext pv
        cases init with
        | none => rfl
        | some i => cases i <;> rfl
      | _ =>
        dsimp only [postRes]
        rw [Res.bind_assoc]
        rfl

/-- the passes of a `@for` loop from environment `env`: `m` is their number, `out` their text -/
inductive ForPasses (f : Nat) (c : Ctx) (t : Token) (init : Option Stmt) (cnd : Option Expr) (post : Option Stmt)
    (body : List Stmt) : Env → Nat → Bytes → Prop
  | stop (env : Env) : CondIs f c env cnd false → ForPasses f c t init cnd post body env 0 []
  | pass (env : Env) (r : Out × Env) (env2 : Env) (m : Nat) (out : Bytes) :
      CondIs f c env cnd true →
      evalBlock f c env body = .ok r →
      r.1.brk = false →
      postRes f c t init post r.2 = .ok env2 →
      ForPasses f c t init cnd post body env2 m out →
      ForPasses f c t init cnd post body env (m + 1) (r.1.text ++ out)
  | brk (env : Env) (r : Out × Env) :
      CondIs f c env cnd true →
      evalBlock f c env body = .ok r →
      r.1.brk = true →
      ForPasses f c t init cnd post body env 1 r.1.text

theorem postRes_lift {f : Nat} {c : Ctx} {t : Token} {init post : Option Stmt} {env env2 : Env}
    (h : postRes f c t init post env = .ok env2) (k : Nat) : postRes (f + k) c t init post env = .ok env2 := by
  cases post with
  | none => exact h
  | some ps =>
    cases ps with
    | expr t2 pe =>
      obtain ⟨pv, hv, hg⟩ := Res.bind_eq_ok h
      dsimp only [postRes]
      rw [evalExpr_lift hv]
      exact hg
    | _ =>
      obtain ⟨r2, hv, hg⟩ := Res.bind_eq_ok h
      dsimp only [postRes]
      rw [evalStmt_lift hv]
      exact hg

/-- the fuel: `f` for the clauses and the body, one unit for every pass and one for the test that ends the loop -/
theorem forLoop_passes {f : Nat} {c : Ctx} {t : Token} {init : Option Stmt} {cnd : Option Expr} {post : Option Stmt}
    {body : List Stmt} {env : Env} {m : Nat} {out : Bytes} (h : ForPasses f c t init cnd post body env m out) :
    ∀ acc, forLoop (f + m + 1) c env t init cnd post body acc = .ok (acc ++ out) := by
  induction h with
  | stop env hc =>
    intro acc
    rw [forLoop_succ]
    simp only [forBody, calleesAt_expr]
    have := hc.loopCond 0
    rw [Nat.add_zero] at this
    rw [this, Res.bind_ok]
    simp
  | pass env r env2 m out hc hb hbrk hp _ ih =>
    intro acc
    rw [show f + (m + 1) + 1 = (f + (m + 1)) + 1 from rfl,
      forLoop_step (hc.loopCond _) (evalBlock_lift hb _), if_neg (by rw [hbrk]; decide),
      postRes_lift hp, Res.bind_ok, show f + (m + 1) = f + m + 1 from rfl, ih, List.append_assoc]
  | brk env r hc hb hbrk =>
    intro acc
    rw [show f + 1 + 1 = (f + 1) + 1 from rfl, forLoop_step (hc.loopCond 1) (evalBlock_lift hb 1), if_pos hbrk]

end Tw
