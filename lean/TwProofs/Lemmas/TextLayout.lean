/-
  TwProofs.Lemmas.TextLayout — a page `@use("L")@insert("k1", "v1")…` and a layout of text and
  `@reserve("k")`, each from its bytes to its parsed program (`parse_page`, `parse_layout`): the
  statements (`lspec`), the table of inserts, the reserves with their numbers from `base` on; C06
  loads and renders the pair.  Both are `GItem` languages (`pageItems`, `LItem.g`); the statement
  loops are `loop_inserts` and `loop_litems`.
-/
import TwProofs.Lemmas.LexDirArgs
import TwProofs.Lemmas.ParseDir
namespace Tw
open Lx

/-- `@insert(q1 k q1, g q2 v q2)` -/
structure Ins where
  q1 : Byte
  k : Bytes
  g : Bytes
  q2 : Byte
  v : Bytes

def Ins.code (i : Ins) : Code := dir2Code kwInsert .INSERT [] i.q1 i.k [] i.g i.q2 i.v []
def Ins.OK (i : Ins) : Prop := (i.q1 = 34 ∨ i.q1 = 39) ∧ PlainStr i.q1 i.k ∧ allWs i.g ∧ (i.q2 = 34 ∨ i.q2 = 39) ∧ PlainStr i.q2 i.v

instance (i : Ins) : Decidable i.OK := by unfold Ins.OK; exact inferInstance

def useCode (q : Byte) (L : Bytes) : Code := dir1Code kwUse .USE [] q L []

def insKeys : List Ins → List (TT × Bytes)
  | [] => []
  | i :: r => i.code.keys ++ insKeys r

def pageItems (q : Byte) (L : Bytes) (ins : List Ins) : List GItem := .code (useCode q L) :: ins.map (fun i => .code i.code)

def pageSrc (q : Byte) (L : Bytes) (ins : List Ins) : Bytes := gsrc (pageItems q L ins)

theorem gkeys_inserts : ∀ ins : List Ins, gkeys (ins.map (fun i => GItem.code i.code)) = insKeys ins :=
  gkeys_map _ insKeys rfl (fun i r => by simp [insKeys, gkeys])

theorem pageItems_ok (q : Byte) (L : Bytes) (ins : List Ins) (hq : q = 34 ∨ q = 39) (hL : PlainStr q L) (hins : ∀ i ∈ ins, i.OK) :
    GItemsOK (pageItems q L ins) :=
  ⟨dir1Code_ok kwUse .USE dirKw_use [] q L [] allWs_nil allWs_nil hq hL,
    gitemsOK_map _ (fun l => ∀ i ∈ l, i.OK) (fun i r h => by
      obtain ⟨a1, a2, a3, a4, a5⟩ := h i List.mem_cons_self
      exact ⟨fun j hj => h j (List.mem_cons_of_mem _ hj),
        dir2Code_ok kwInsert .INSERT dirKw_insert [] i.q1 i.k [] i.g i.q2 i.v [] allWs_nil allWs_nil a3 allWs_nil a1 a2 a4 a5⟩) ins hins⟩

inductive LItem where
  | text (segs : List Seg)
  | reserve (q : Byte) (k : Bytes)

def reserveCode (q : Byte) (k : Bytes) : Code := dir1Code kwReserve .RESERVE [] q k []

def LItem.g : LItem → GItem
  | .text segs => .text segs
  | .reserve q k => .code (reserveCode q k)

def layoutSrc (items : List LItem) : Bytes := gsrc (items.map LItem.g)

def afterRunL (segs : List Seg) : List LItem → Prop
  | [] => True
  | .text _ :: _ => False
  | .reserve _ _ :: _ => lastOr (segsSrc segs) 0 ≠ 92

def LItemsOK : List LItem → Prop
  | [] => True
  | .text segs :: r => startsRun segs ∧ SegsOK segs (layoutSrc r) ∧ afterRunL segs r ∧ LItemsOK r
  | .reserve q k :: r => (q = 34 ∨ q = 39) ∧ PlainStr q k ∧ LItemsOK r

instance (segs : List Seg) : (r : List LItem) → Decidable (afterRunL segs r)
  | [] => isTrue trivial
  | .text _ :: _ => isFalse (by simp [afterRunL])
  | .reserve _ _ :: _ => by unfold afterRunL; exact inferInstance

instance : (items : List LItem) → Decidable (LItemsOK items)
  | [] => isTrue trivial
  | .text segs :: r => by have := instDecidableLItemsOK r; unfold LItemsOK; exact inferInstance
  | .reserve q k :: r => by have := instDecidableLItemsOK r; unfold LItemsOK; exact inferInstance

theorem LItemsOK.gitems : ∀ items : List LItem, LItemsOK items → GItemsOK (items.map LItem.g) :=
  gitemsOK_map LItem.g LItemsOK (fun i r h => by
    cases i with
    | text segs => exact ⟨h.2.2.2, And.intro h.1 ⟨h.2.1, by cases r with | nil => trivial | cons j _ => cases j <;> exact h.2.2.1⟩⟩
    | reserve q k => exact ⟨h.2.2, dir1Code_ok kwReserve .RESERVE dirKw_reserve [] q k [] allWs_nil allWs_nil h.1 h.2.1⟩)

def lkeys : List LItem → List (TT × Bytes)
  | [] => []
  | .text segs :: r => (.HTML, segsLit segs) :: lkeys r
  | .reserve q k :: r => (reserveCode q k).keys ++ lkeys r

theorem gkeys_litems : ∀ items : List LItem, gkeys (items.map LItem.g) = lkeys items :=
  gkeys_map LItem.g lkeys rfl (fun i r => by cases i <;> simp [lkeys, LItem.g, gkeys])

theorem insKeys_clean (ins : List Ins) : ∀ x ∈ insKeys ins, x.1 ≠ .ILLEGAL := by
  rw [← gkeys_inserts]
  exact gkeys_map_forall _ (· ≠ .ILLEGAL) (by decide) ins (fun i _ c hc => by cases hc; simp [Ins.code, dir2Code])

theorem lkeys_clean (items : List LItem) : ∀ x ∈ lkeys items, x.1 ≠ .ILLEGAL := by
  rw [← gkeys_litems]
  refine gkeys_map_forall _ (· ≠ .ILLEGAL) (by decide) items (fun i _ c hc => ?_)
  cases i with
  | text _ => cases hc
  | reserve q k => cases hc; simp [reserveCode, dir1Code]

def InsDefOf (i : Ins) (d : InsertDef) : Prop := d.name = i.k ∧ d.block = none ∧ ∃ tv, d.arg = some (.str tv i.v)

/-- Fuel: two turns per insert (the statement, then the ")" it leaves behind) and one for the end; the statement
    itself needs 3 (`parse_insert_stmt`), which the `+ 3` covers at the last insert -/
theorem loop_inserts : ∀ (ins : List Ins) (toks : List Token) (e : Token) (p : PS) (acc : List Stmt) (f : Nat),
    toks.map key = insKeys ins → e.ty = .EOF → p.toks = toks ++ [e] → (ins.map Ins.k).Nodup →
    (∀ i ∈ ins, mapGet p.inserts i.k = none) → 2 * ins.length + 3 ≤ f →
    ∃ stmts ds, parseProgramLoop f acc p = (some (acc ++ stmts), { p with toks := [e], inserts := mapSetAll p.inserts ds }) ∧
      ds.map Prod.fst = ins.map Ins.k ∧ ∀ i ∈ ins, ∃ d, (i.k, d) ∈ ds ∧ InsDefOf i d
  | [], toks, e, p, acc, f, hk, he, hp, _, _, hf => by
    cases List.map_eq_nil_iff.mp hk
    exact ⟨[], [], loop_nil hp he (by omega) acc, rfl, fun _ h => nomatch h⟩
  | i :: r, toks, e, p, acc, f, hk, he, hp, hnd, hnew, hf => by
    rw [List.length_cons] at hf
    obtain ⟨t1, _, rfl, ty1, _, hk⟩ := map_key_cons hk
    obtain ⟨t2, _, rfl, ty2, _, hk⟩ := map_key_cons hk
    obtain ⟨t3, _, rfl, ty3, lit3, hk⟩ := map_key_cons hk
    obtain ⟨t4, _, rfl, ty4, _, hk⟩ := map_key_cons hk
    obtain ⟨t5, _, rfl, ty5, lit5, hk⟩ := map_key_cons hk
    obtain ⟨t6, rest, rfl, ty6, _, hkr⟩ := map_key_cons hk
    have lit3 : t3.lit = i.k := lit3
    have lit5 : t5.lit = i.v := lit5
    have hcl : NoIll (rest ++ [e]) := NoIll.of_keys_eof hkr (insKeys_clean r) he
    obtain ⟨g, rfl⟩ : ∃ g, f = g + 4 := ⟨f - 4, by omega⟩
    have hst := parse_insert_stmt g p t1 t2 t3 t4 t5 t6 (rest ++ [e]) hp ty1 ty2 ty3 ty4 ty5 ty6 hcl
      (by rw [lit3]; exact hnew i (by simp))
    obtain ⟨hi, hnd'⟩ := List.nodup_cons.mp hnd
    obtain ⟨stmts, ds, h1, h2, h3⟩ := loop_inserts r rest e
      { p with toks := rest ++ [e], inserts := mapSet p.inserts t3.lit { tok := t1, name := t3.lit, arg := some (.str t5 t5.lit), block := none } }
      (acc ++ [.insert t1 t3.lit (some (.str t5 t5.lit)) none]) (g + 2) hkr he rfl hnd'
      (fun j hj => (mapGet_set_other _ _ _ _ (by rw [lit3]; exact fun e => hi (e ▸ List.mem_map_of_mem hj))).trans
        (hnew j (List.mem_cons_of_mem _ hj)))
      (by omega)
    refine ⟨_ :: stmts, (t3.lit, { tok := t1, name := t3.lit, arg := some (.str t5 t5.lit), block := none }) :: ds,
      loop_cons_rparen hst hp (by simp [ty1]) rfl rfl (by simp [ty5]) ty6 (by simp) hcl (by omega) h1,
      by rw [List.map_cons, h2, lit3]; rfl, fun j hj => ?_⟩
    rcases List.mem_cons.mp hj with rfl | hj
    · exact ⟨_, by rw [← lit3]; exact List.mem_cons_self, lit3, rfl, t5, by rw [lit5]⟩
    · exact (h3 j hj).imp fun d h => ⟨List.mem_cons_of_mem _ h.1, h.2⟩

theorem parseLoop_inserts : ∀ (ins : List Ins) (toks : List Token) (e : Token) (p : PS) (acc : List Stmt) (f : Nat),
    toks.map key = insKeys ins → e.ty = .EOF → p.toks = toks ++ [e] → (ins.map Ins.k).Nodup →
    (∀ i ∈ ins, mapGet p.inserts i.k = none) → 2 * ins.length + 3 ≤ f →
    ∃ stmts p', parseProgramLoop f acc p = (some (acc ++ stmts), p') ∧ p'.toks = [e] ∧ p'.errors = p.errors ∧ p'.oof = p.oof ∧
      p'.useName = p.useName ∧ p'.reserves = p.reserves ∧ p'.components = p.components ∧
      (∀ i ∈ ins, ∃ d, mapGet p'.inserts i.k = some d ∧ InsDefOf i d) ∧
      (∀ k, (∀ i ∈ ins, i.k ≠ k) → mapGet p'.inserts k = mapGet p.inserts k) ∧
      (∀ x ∈ p'.inserts, x ∈ p.inserts ∨ ∃ i ∈ ins, x.1 = i.k) := by
  intro ins toks e p acc f hk he hp hnd hnew hf
  obtain ⟨stmts, ds, h1, h2, h3⟩ := loop_inserts ins toks e p acc f hk he hp hnd hnew hf
  obtain ⟨t1, t2, t3⟩ := mapSetAll_spec ds p.inserts
  refine ⟨stmts, _, h1, rfl, rfl, rfl, rfl, rfl, rfl, fun i hi => ?_, fun k hk => t2 k ?_, fun x hx => (t3 x hx).imp id fun h => ?_⟩
  · obtain ⟨d, hd, hi⟩ := h3 i hi
    exact ⟨d, t1 (h2 ▸ hnd) _ hd, hi⟩
  · rw [h2]
    exact fun h => (List.mem_map.mp h).elim fun i hi => hk i hi.1 hi.2
  · obtain ⟨i, hi, e⟩ := List.mem_map.mp (h2 ▸ List.mem_map_of_mem (f := Prod.fst) h)
    exact ⟨i, hi, e.symm⟩

/-- The parse is stated as `stmts.map lspecOf = (lspec base items).map some`
    (`parse_layout`), the form `YieldsAll.of_specs` (Lemmas/Render) consumes: C06 `evalProg_lspec`. -/
inductive LSpec where
  | text (t : Bytes)
  | reserve (k : Bytes) (rid : Nat)

def lspecOf : Stmt → Option LSpec
  | .html t => some (.text t.lit)
  | .reserve _ k rid => some (.reserve k rid)
  | _ => none

def lspec (base : Nat) : List LItem → List LSpec
  | [] => []
  | .text segs :: r => .text (segsLit segs) :: lspec base r
  | .reserve _ k :: r => .reserve k base :: lspec (base + 1) r

theorem lspec_length : ∀ (items : List LItem) (base : Nat), (lspec base items).length = items.length
  | [], _ => rfl
  | .text _ :: r, base => by simp [lspec, lspec_length r base]
  | .reserve _ _ :: r, base => by simp [lspec, lspec_length r (base + 1)]

def resNames : List LItem → List Bytes
  | [] => []
  | .text _ :: r => resNames r
  | .reserve _ k :: r => k :: resNames r

theorem lspec_reserve_iff (k : Bytes) (rid : Nat) : ∀ (items : List LItem) (base : Nat),
    LSpec.reserve k rid ∈ lspec base items ↔ (k, rid) ∈ (resNames items).zipIdx base
  | [], _ => by simp [lspec, resNames]
  | .text _ :: r, base => by simp [lspec, resNames, lspec_reserve_iff k rid r base]
  | .reserve _ k0 :: r, base => by simp [lspec, resNames, List.zipIdx_cons, lspec_reserve_iff k rid r (base + 1)]

theorem lspec_names : ∀ (items : List LItem) (base : Nat) (k : Bytes) (rid : Nat), LSpec.reserve k rid ∈ lspec base items →
    k ∈ resNames items ∧ base ≤ rid := fun items base k rid h =>
  have h := (lspec_reserve_iff k rid items base).mp h
  ⟨List.fst_mem_of_mem_zipIdx h, List.le_snd_of_mem_zipIdx h⟩

theorem names_lspec (items : List LItem) (base : Nat) (k : Bytes) (h : k ∈ resNames items) : ∃ rid, LSpec.reserve k rid ∈ lspec base items := by
  obtain ⟨i, hi, rfl⟩ := List.getElem_of_mem h
  exact ⟨base + i, (lspec_reserve_iff _ _ items base).mpr (List.mem_zipIdx_iff_le_and_getElem?_sub.mpr ⟨by simp, by simp [hi]⟩)⟩

/-- Fuel as in `loop_inserts`: at most two turns per item and one for the end; `parse_reserve_stmt` needs 1, so the
    `+ 3` is not tight -/
theorem loop_litems : ∀ (items : List LItem) (toks : List Token) (e : Token) (p : PS) (acc : List Stmt) (f : Nat),
    toks.map key = lkeys items → e.ty = .EOF → p.toks = toks ++ [e] → 2 * items.length + 3 ≤ f →
    ∃ stmts, parseProgramLoop f acc p = (some (acc ++ stmts), { p with
        toks := [e], reserves := mapSetAll p.reserves ((resNames items).zipIdx p.nextId), nextId := p.nextId + (resNames items).length }) ∧
      stmts.map lspecOf = (lspec p.nextId items).map some
  | [], toks, e, p, acc, f, hk, he, hp, hf => by
    cases List.map_eq_nil_iff.mp hk
    exact ⟨[], loop_nil hp he (by omega) acc, rfl⟩
  | .text segs :: r, toks, e, p, acc, f, hk, he, hp, hf => by
    rw [List.length_cons] at hf
    obtain ⟨t, rest, rfl, ht, hlit, hkr⟩ := map_key_cons hk
    have ht : t.ty = .HTML := ht
    obtain ⟨g, rfl⟩ : ∃ g, f = g + 1 := ⟨f - 1, by omega⟩
    obtain ⟨stmts, h1, h2⟩ := loop_litems r rest e { p with toks := rest ++ [e] } (acc ++ [.html t]) g hkr he rfl (by omega)
    exact ⟨.html t :: stmts, loop_cons (.html ht) hp (by simp [ht]) rfl (by simp [ht]) (by simp) (NoIll.of_keys_eof hkr (lkeys_clean r) he)
      (by omega) h1, by simp only [List.map_cons, lspec, lspecOf, hlit]; exact congrArg _ h2⟩
  | .reserve q k0 :: r, toks, e, p, acc, f, hk, he, hp, hf => by
    rw [List.length_cons] at hf
    obtain ⟨t1, _, rfl, ty1, _, hk⟩ := map_key_cons hk
    obtain ⟨t2, _, rfl, ty2, _, hk⟩ := map_key_cons hk
    obtain ⟨t3, _, rfl, ty3, lit3, hk⟩ := map_key_cons hk
    obtain ⟨t4, rest, rfl, ty4, _, hkr⟩ := map_key_cons hk
    cases (lit3 : t3.lit = k0)
    have hcl : NoIll (rest ++ [e]) := NoIll.of_keys_eof hkr (lkeys_clean r) he
    obtain ⟨g, rfl⟩ : ∃ g, f = g + 3 := ⟨f - 3, by omega⟩
    have hst := parse_reserve_stmt (g + 1) p t1 t2 t3 t4 (rest ++ [e]) hp ty1 ty2 ty4 (by simp [ty3]) hcl
    obtain ⟨stmts, h1, h2⟩ := loop_litems r rest e
      { p with toks := rest ++ [e], reserves := mapSet p.reserves t3.lit p.nextId, nextId := p.nextId + 1 }
      (acc ++ [.reserve t1 t3.lit p.nextId]) (g + 1) hkr he rfl (by omega)
    rw [Nat.add_right_comm p.nextId 1] at h1
    exact ⟨.reserve t1 t3.lit p.nextId :: stmts, loop_cons_rparen hst hp (by simp [ty1]) rfl rfl (by simp [ty3]) ty4 (by simp) hcl (by omega) h1,
      by simp only [List.map_cons, lspec, lspecOf]; exact congrArg _ h2⟩

theorem parseLoop_litems : ∀ (items : List LItem) (toks : List Token) (e : Token) (p : PS) (acc : List Stmt) (f : Nat),
    toks.map key = lkeys items → e.ty = .EOF → p.toks = toks ++ [e] → (resNames items).Nodup →
    (∀ k ∈ resNames items, mapGet p.reserves k = none) → 2 * items.length + 3 ≤ f →
    ∃ stmts p', parseProgramLoop f acc p = (some (acc ++ stmts), p') ∧ p'.toks = [e] ∧ p'.errors = p.errors ∧ p'.oof = p.oof ∧
      p'.useName = p.useName ∧ p'.inserts = p.inserts ∧ p'.components = p.components ∧
      stmts.map lspecOf = (lspec p.nextId items).map some ∧
      (∀ k rid, LSpec.reserve k rid ∈ lspec p.nextId items → mapGet p'.reserves k = some rid) ∧
      (∀ k, k ∉ resNames items → mapGet p'.reserves k = mapGet p.reserves k) := by
  intro items toks e p acc f hk he hp hnd _ hf
  obtain ⟨stmts, h1, h2⟩ := loop_litems items toks e p acc f hk he hp hf
  obtain ⟨t1, t2, _⟩ := mapSetAll_spec ((resNames items).zipIdx p.nextId) p.reserves
  exact ⟨stmts, _, h1, rfl, rfl, rfl, rfl, rfl, rfl, h2,
    fun k rid h => t1 (by rwa [List.zipIdx_map_fst]) (k, rid) ((lspec_reserve_iff k rid items _).mp h),
    fun k hk => t2 k (by rwa [List.zipIdx_map_fst])⟩

theorem lkeys_length : ∀ items : List LItem, items.length ≤ (lkeys items).length
  | [] => Nat.le_refl _
  | .text _ :: r => by have := lkeys_length r; simp [lkeys]; omega
  | .reserve _ _ :: r => by have := lkeys_length r; simp [lkeys, reserveCode, dir1Code]; omega

theorem parse_layout (items : List LItem) (hok : LItemsOK items) (hnd : (resNames items).Nodup) (base : Nat) :
    ∃ lprog, parseSource (layoutSrc items) base = .ok lprog ∧ lprog.useName = none ∧
      lprog.stmts.map lspecOf = (lspec base items).map some ∧
      (∀ k rid, LSpec.reserve k rid ∈ lspec base items → mapGet lprog.reserves k = some rid) ∧
      (∀ k, k ∉ resNames items → mapGet lprog.reserves k = none) := by
  obtain ⟨toks, e, hk, he, hfuel, hfin⟩ := parseSource_gitems _ (LItemsOK.gitems items hok) (gkeys_litems items) (lkeys_clean items) base
  obtain ⟨stmts, p', hloop, _, herr, hoof, huse, _, _, hstmts, hres, hother⟩ := parseLoop_litems items toks e
    ({ toks := toks ++ [e], nextId := base } : PS) [] (parseFuel (toks ++ [e])) hk he rfl hnd (fun _ _ => rfl)
    (by rw [hfuel]; have := lkeys_length items; omega)
  exact ⟨_, hfin stmts p' hloop herr hoof, huse, hstmts, hres, fun k hk' => by rw [hother k hk']; rfl⟩

theorem insKeys_length : ∀ ins : List Ins, (insKeys ins).length = 6 * ins.length
  | [] => rfl
  | i :: r => by
    have := insKeys_length r
    simp only [insKeys, Ins.code, dir2Code, List.length_append, List.length_cons, List.length_nil, this]
    omega

theorem parse_page (q : Byte) (L : Bytes) (ins : List Ins) (hq : q = 34 ∨ q = 39) (hL : PlainStr q L) (hLne : L ≠ [])
    (hins : ∀ i ∈ ins, i.OK) (hnd : (ins.map Ins.k).Nodup) :
    ∃ prog ut, parseSource (pageSrc q L ins) 0 = .ok prog ∧ prog.useName = some (ut, layoutName L) ∧ prog.reserves = [] ∧
      prog.components = [] ∧
      (∀ i ∈ ins, ∃ d, mapGet prog.inserts i.k = some d ∧ InsDefOf i d) ∧
      (∀ k, (∀ i ∈ ins, i.k ≠ k) → mapGet prog.inserts k = none) ∧
      (∀ x ∈ prog.inserts, ∃ i ∈ ins, x.1 = i.k) := by
  have hkeys : gkeys (pageItems q L ins) = (useCode q L).keys ++ insKeys ins := by simp [pageItems, gkeys, gkeys_inserts]
  obtain ⟨toks, e, hk, he, hfuel, hfin⟩ := parseSource_gitems _ (pageItems_ok q L ins hq hL hins) hkeys
    (by
      intro x hx
      rcases List.mem_append.mp hx with h | h
      · exact (by simp [useCode, dir1Code] : ∀ x ∈ (useCode q L).keys, x.1 ≠ .ILLEGAL) x h
      · exact insKeys_clean ins x h) 0
  obtain ⟨t1, _, rfl, ty1, _, hk⟩ := map_key_cons hk
  obtain ⟨t2, _, rfl, ty2, _, hk⟩ := map_key_cons hk
  obtain ⟨t3, _, rfl, ty3, lit3, hk⟩ := map_key_cons hk
  obtain ⟨t4, rest, rfl, ty4, _, hkr⟩ := map_key_cons hk
  have lit3 : t3.lit = L := lit3
  have hclr : NoIll (rest ++ [e]) := NoIll.of_keys_eof hkr (insKeys_clean ins) he
  obtain ⟨g, hg⟩ : ∃ g, parseFuel (t1 :: t2 :: t3 :: t4 :: rest ++ [e]) = g + 3 ∧ 2 * ins.length + 3 ≤ g + 1 :=
    ⟨parseFuel (t1 :: t2 :: t3 :: t4 :: rest ++ [e]) - 3, by rw [hfuel]; simp [useCode, dir1Code, insKeys_length]; omega⟩
  have hst := parse_use_stmt (g + 1) ({ toks := t1 :: t2 :: t3 :: t4 :: rest ++ [e] } : PS) t1 t2 t3 t4 (rest ++ [e]) rfl ty1 ty2 ty3 ty4 hclr
    (by rw [lit3]; exact hLne)
  obtain ⟨stmts, p', h1, _, herr, hoof, huse, hres, hcomps, hdefs, hother, hfrom⟩ := parseLoop_inserts ins rest e
    ({ toks := rest ++ [e], useName := some (t1, layoutName t3.lit) } : PS) ([] ++ [.use t1 (layoutName t3.lit)]) (g + 1) hkr he
    rfl hnd (fun _ _ => rfl) hg.2
  have hloop := loop_cons_rparen hst rfl (by simp [ty1]) rfl rfl (by simp [ty3]) ty4 (by simp) hclr (by omega) h1
  refine ⟨_, t1, hfin _ p' (by rw [hg.1]; exact hloop) herr hoof, by rw [huse, lit3], hres, hcomps, hdefs,
    fun k hk => by rw [hother k hk]; rfl, ?_⟩
  intro x hx
  rcases hfrom x hx with h | h
  · cases h
  · exact h

end Tw
