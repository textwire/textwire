/-
  TwProofs.Lemmas.LexRun — what every module that lexes a concrete shape of template states its steps
  in: `mode` (the lexer's fields other than input and position), a step read off by remaining input,
  mode and previous byte, and `Run` (a run of `NextToken`s and its tokens).
-/
import TwProofs.Lemmas.LexProgress
namespace Tw
open Lx

def mode (s : Lx) : Bool × Bool × Int × Int × Bool := (s.isHTML, s.isDirective, s.parens, s.braces, s.panicked)

theorem mode_html {a c : Lx} (h : mode a = mode c) : a.isHTML = c.isHTML := congrArg (·.1) h
theorem mode_dir {a c : Lx} (h : mode a = mode c) : a.isDirective = c.isDirective := congrArg (·.2.1) h
theorem mode_parens {a c : Lx} (h : mode a = mode c) : a.parens = c.parens := congrArg (·.2.2.1) h
theorem mode_braces {a c : Lx} (h : mode a = mode c) : a.braces = c.braces := congrArg (·.2.2.2.1) h
theorem mode_pan {a c : Lx} (h : mode a = mode c) : a.panicked = c.panicked := congrArg (·.2.2.2.2) h

theorem mode_fields {s : Lx} {h d : Bool} {p b : Int} {pn : Bool} (m : mode s = (h, d, p, b, pn)) :
    s.isHTML = h ∧ s.isDirective = d ∧ s.parens = p ∧ s.braces = b ∧ s.panicked = pn := by
  simp only [mode, Prod.mk.injEq] at m
  exact m

theorem mode_advance (s : Lx) (n : Nat) : mode (advance s n) = mode s := by
  simp only [mode, advance_isHTML, advance_isDirective, advance_parens, advance_braces, advance_panicked]

theorem skipWs_code (s : Lx) (hh : s.isHTML = false) (g r : Bytes) (hg : allWs g) (hs : s.rest = g ++ r)
    (hr : isWs (r.headD 0) = false) : (skipWs s).rest = r ∧ mode (skipWs s) = mode s := by
  unfold skipWs
  simp only [hh, Bool.not_false, if_true]
  refine ⟨?_, mode_advance _ _⟩
  rw [advance_rest, hs, takeWhile_prefix isWs g r hg hr]
  simp

theorem TokDesc.emit_snd (d : TokDesc) : d.emit.2 = d.st.tokenBegins.advance d.n := rfl

theorem TokDesc.emit_after (d : TokDesc) (u x : Bytes) (hu : u ≠ []) (hr : d.st.rest = u ++ x) (hn : d.n = u.length) :
    d.emit.2.rest = x ∧ mode d.emit.2 = mode d.st ∧ d.emit.2.prev = u.reverse.headD 0 := by
  rw [d.emit_snd]
  refine ⟨?_, ?_, ?_⟩
  · rw [advance_rest, tokenBegins_rest, hr, hn]; simp
  · rw [mode_advance]; rfl
  · rw [advance_prev_byte, tokenBegins_rest, hr, hn, List.take_left' rfl]
    unfold lastOr
    cases hrev : u.reverse with
    | nil => exact absurd (List.reverse_eq_nil_iff.mp hrev) hu
    | cons a t => rfl

/-- "{{" in text mode when no "--" follows (that would open a comment) -/
theorem open_step (s : Lx) (x : Bytes) (hh : s.isHTML = true) (hr : s.rest = 123 :: 123 :: x)
    (hx : ¬ (x.headD 0 = 45 ∧ (x.drop 1).headD 0 = 45)) :
    ∃ t s1, nextStep s = (.tok t, s1) ∧ key t = (.LBRACES, [123, 123]) ∧ t.ty ≠ .EOF ∧ s1.rest = x ∧ s1.prev = 123 ∧
      mode s1 = (false, s.isDirective, s.parens, s.braces, s.panicked) := by
  obtain ⟨b1, b2, b3⟩ := TokDesc.emit_after { st := { s with isHTML := false }, n := 2, ty := .LBRACES, lit := [123, 123] }
    [123, 123] x (by simp) (by simp [hr]) rfl
  have hbt : bracesToken s .LBRACES [123, 123] =
      ({ st := { s with isHTML := false }, n := 2, ty := .LBRACES, lit := [123, 123] } : TokDesc).emit := rfl
  have step1 : nextStep s = (.tok (bracesToken s .LBRACES [123, 123]).1, (bracesToken s .LBRACES [123, 123]).2) := by
    rw [nextStep_html s hh]
    exact stepAt_lbraces s (by rw [hr]; simp) ⟨Lx.char_of_rest hr, Lx.peek_of_rest hr⟩ (by rw [hbt]; simpa [Lx.char, Lx.peek, b1] using hx)
  refine ⟨_, _, step1, by unfold bracesToken; rw [emit_key], by unfold bracesToken; rw [emit_ty]; decide, ?_, ?_, ?_⟩
  · rw [hbt, b1]
  · rw [hbt, b3]; rfl
  · rw [hbt, b2]; rfl

inductive Run : Lx → List Token → Lx → Prop
  | nil (s : Lx) : Run s [] s
  | cons (s s1 sf : Lx) (t : Token) (ts : List Token) : nextStep s = (.tok t, s1) → t.ty ≠ .EOF → Run s1 ts sf → Run s (t :: ts) sf

theorem Run.append {s sm sf : Lx} {a c : List Token} (h1 : Run s a sm) (h2 : Run sm c sf) : Run s (a ++ c) sf := by
  induction h1 with
  | nil s => exact h2
  | cons s s1 sm t ts h0 n0 _ ih => exact Run.cons _ _ _ _ _ h0 n0 (ih h2)

theorem Run.snoc {s sm sf : Lx} {ts : List Token} {t : Token} (h : Run s ts sm) (hs : nextStep sm = (.tok t, sf)) (hne : t.ty ≠ .EOF) :
    Run s (ts ++ [t]) sf :=
  h.append (.cons _ _ _ _ _ hs hne (.nil _))

theorem Run.lexAll_split {s sf : Lx} {ts : List Token} (h : Run s ts sf) : ∀ (fuel : Nat) (res : List Token × Lx),
    lexAll fuel s = some res → ∃ f r0, fuel = ts.length + f ∧ lexAll f sf = some r0 ∧ res = (ts ++ r0.1, r0.2) := by
  induction h with
  | nil s => intro fuel res hl; exact ⟨fuel, res, by simp, hl, by simp⟩
  | cons s s1 sf t ts hstep hne _ ih =>
    intro fuel res hl
    cases fuel with
    | zero => simp [lexAll] at hl
    | succ f =>
      rw [lexAll_tok hstep hne] at hl
      obtain ⟨p, hl1, rfl⟩ := Option.map_eq_some_iff.mp hl
      obtain ⟨f0, r0, e1, e2, e3⟩ := ih f p hl1
      exact ⟨f0, r0, by simp [e1]; omega, e2, by rw [e3]; rfl⟩

theorem Run.lexAll_append {s sf : Lx} {ts : List Token} (h : Run s ts sf) : ∀ (f : Nat) (r0 : List Token × Lx),
    lexAll f sf = some r0 → lexAll (ts.length + f) s = some (ts ++ r0.1, r0.2) := by
  induction h with
  | nil s => intro f r0 hl; simpa using hl
  | cons s s1 sf t ts hstep hne _ ih =>
    intro f r0 hl
    rw [show (t :: ts).length + f = (ts.length + f) + 1 by simp; omega, lexAll_tok hstep hne, ih f r0 hl]
    rfl

theorem Run.progress {s sf : Lx} {ts : List Token} (h : Run s ts sf) : ts.length + sf.rest.length ≤ s.rest.length := by
  induction h with
  | nil s => simp
  | cons s s1 sf t ts h0 n0 _ ih =>
    rcases nextStep_progress h0 with ⟨⟨t', ht, he⟩, _⟩ | ⟨hl, _⟩
    · cases ht; exact absurd he n0
    · simp only [List.length_cons]; omega

theorem Run.length_map {s sf : Lx} {ts : List Token} (_ : Run s ts sf) : True := trivial

end Tw
