/-
  TwProofs.Lemmas.LexPos — the lexer's line / column bookkeeping equals the position
  function of the statement (C19), for `readChar` and `advance`; and what else `advance` does to a
  state: the bytes it moves, the fields it leaves alone, the byte it leaves behind.  `key` is a
  token without its position.
-/
import TwModel

namespace Tw
open Lx

def lineOf (pre : Bytes) : Nat := pre.count 10

/-- the consumed bytes are kept reversed -/
def colOf (pre : Bytes) : Nat := (pre.takeWhile (· != 10)).length

structure PosInv (s : Lx) : Prop where
  line : s.line = lineOf s.pre
  col : s.col = colOf s.pre
  reset : s.reset = (s.rest.headD 0 == 10 && !s.rest.isEmpty)

theorem posInv_init (inp : Bytes) : PosInv (Lx.init inp) := by
  constructor <;> simp [Lx.init, lineOf, colOf]

@[simp] theorem lineOf_cons_lf (pre : Bytes) : lineOf (10 :: pre) = lineOf pre + 1 := by
  simp [lineOf]

theorem lineOf_cons_ne (c : Byte) (pre : Bytes) (h : c ≠ 10) : lineOf (c :: pre) = lineOf pre := by
  simp [lineOf, h]

@[simp] theorem colOf_cons_lf (pre : Bytes) : colOf (10 :: pre) = 0 := by
  simp [colOf]

theorem colOf_cons_ne (c : Byte) (pre : Bytes) (h : c ≠ 10) : colOf (c :: pre) = colOf pre + 1 := by
  simp [colOf, h]

theorem readChar_nil (s : Lx) (h : s.rest = []) : readChar s = s := by simp [readChar, h]

theorem posInv_readChar (s : Lx) (h : PosInv s) :
    PosInv (readChar s) ∧
    (s.rest ≠ [] → (readChar s).prevLine = lineOf s.pre ∧ (readChar s).prevCol = colOf s.pre) := by
  obtain ⟨hl, hc, hr⟩ := h
  cases hrest : s.rest with
  | nil =>
    refine ⟨?_, fun hne => absurd rfl hne⟩
    rw [readChar_nil s hrest]; exact ⟨hl, hc, hr⟩
  | cons c r =>
    have hres : s.reset = (c == 10) := by simpa [hrest] using hr
    by_cases hc10 : c = 10
    · subst hc10
      have hreset : s.reset = true := by simpa using hres
      refine ⟨⟨?_, ?_, ?_⟩, fun _ => ⟨?_, ?_⟩⟩ <;> simp [readChar, hrest, hreset, hl, hc]
    · have hreset : s.reset = false := by rw [hres]; simp [hc10]
      refine ⟨⟨?_, ?_, ?_⟩, fun _ => ⟨?_, ?_⟩⟩ <;>
        simp [readChar, hrest, hreset, hl, hc, lineOf_cons_ne _ _ hc10, colOf_cons_ne _ _ hc10]

theorem readChar_pre_rest (s : Lx) :
    (readChar s).pre = (s.rest.take 1).reverse ++ s.pre ∧ (readChar s).rest = s.rest.drop 1 := by
  cases hrest : s.rest with
  | nil => simp [readChar, hrest]
  | cons c r => by_cases hb : s.reset <;> simp [readChar, hrest, hb]

theorem advance_pre_rest (n : Nat) : ∀ s : Lx,
    (advance s n).pre = (s.rest.take n).reverse ++ s.pre ∧ (advance s n).rest = s.rest.drop n := by
  induction n with
  | zero => intro s; simp [advance]
  | succ n ih =>
    intro s
    obtain ⟨h1, h2⟩ := readChar_pre_rest s
    obtain ⟨i1, i2⟩ := ih (readChar s)
    refine ⟨?_, ?_⟩
    · rw [advance, i1, h1, h2]
      cases hrest : s.rest with
      | nil => simp
      | cons c r => simp [List.take_succ_cons]
    · rw [advance, i2, h2]; simp

theorem advance_pre (s : Lx) (n : Nat) : (advance s n).pre = (s.rest.take n).reverse ++ s.pre := (advance_pre_rest n s).1
theorem advance_rest (s : Lx) (n : Nat) : (advance s n).rest = s.rest.drop n := (advance_pre_rest n s).2

theorem posInv_advance (n : Nat) : ∀ s : Lx, PosInv s → PosInv (advance s n) := by
  induction n with
  | zero => intro s h; simpa [advance] using h
  | succ n ih => intro s h; exact ih _ (posInv_readChar s h).1

theorem readChar_frame (s : Lx) :
    (readChar s).startLine = s.startLine ∧ (readChar s).startCol = s.startCol ∧
    (readChar s).isHTML = s.isHTML ∧ (readChar s).isDirective = s.isDirective ∧
    (readChar s).parens = s.parens ∧ (readChar s).braces = s.braces ∧ (readChar s).panicked = s.panicked := by
  cases hrest : s.rest with
  | nil => simp [readChar, hrest]
  | cons c r => by_cases hb : s.reset <;> simp [readChar, hrest, hb]

theorem advance_frame (n : Nat) : ∀ s : Lx,
    (advance s n).startLine = s.startLine ∧ (advance s n).startCol = s.startCol ∧
    (advance s n).isHTML = s.isHTML ∧ (advance s n).isDirective = s.isDirective ∧
    (advance s n).parens = s.parens ∧ (advance s n).braces = s.braces ∧ (advance s n).panicked = s.panicked := by
  induction n with
  | zero => intro s; simp [advance]
  | succ n ih =>
    intro s
    obtain ⟨a1, a2, a3, a4, a5, a6, a7⟩ := ih (readChar s)
    obtain ⟨b1, b2, b3, b4, b5, b6, b7⟩ := readChar_frame s
    simp [advance, *]

theorem advance_startLine (s : Lx) (n : Nat) : (advance s n).startLine = s.startLine := (advance_frame n s).1
theorem advance_startCol (s : Lx) (n : Nat) : (advance s n).startCol = s.startCol := (advance_frame n s).2.1
theorem advance_isHTML (s : Lx) (n : Nat) : (advance s n).isHTML = s.isHTML := (advance_frame n s).2.2.1
theorem advance_isDirective (s : Lx) (n : Nat) : (advance s n).isDirective = s.isDirective := (advance_frame n s).2.2.2.1
theorem advance_parens (s : Lx) (n : Nat) : (advance s n).parens = s.parens := (advance_frame n s).2.2.2.2.1
theorem advance_braces (s : Lx) (n : Nat) : (advance s n).braces = s.braces := (advance_frame n s).2.2.2.2.2.1
theorem advance_panicked (s : Lx) (n : Nat) : (advance s n).panicked = s.panicked := (advance_frame n s).2.2.2.2.2.2

theorem advance_prevPos (n : Nat) : ∀ s : Lx, PosInv s → n + 1 ≤ s.rest.length →
    (advance s (n + 1)).prevLine = lineOf ((s.rest.take n).reverse ++ s.pre) ∧
    (advance s (n + 1)).prevCol = colOf ((s.rest.take n).reverse ++ s.pre) := by
  induction n with
  | zero =>
    intro s h hlen
    have hne : s.rest ≠ [] := by intro h0; simp [h0] at hlen
    simpa [advance] using (posInv_readChar s h).2 hne
  | succ n ih =>
    intro s h hlen
    obtain ⟨p1, p2⟩ := readChar_pre_rest s
    have hlen' : n + 1 ≤ (readChar s).rest.length := by rw [p2]; simp; omega
    have := ih (readChar s) (posInv_readChar s h).1 hlen'
    rw [p1, p2] at this
    cases hrest : s.rest with
    | nil => simp [hrest] at hlen
    | cons c r =>
      simp only [hrest, List.take_succ_cons, List.take_zero, List.reverse_cons, List.reverse_nil, List.nil_append,
        List.drop_succ_cons, List.drop_zero, List.append_assoc, List.singleton_append] at this ⊢
      rw [show advance s (n + 1 + 1) = advance (readChar s) (n + 1) from rfl]
      exact this

def lastOr (a : Bytes) (prev : Byte) : Byte := (a.reverse ++ [prev]).headD 0

theorem lastOr_nil (x : Byte) : lastOr [] x = x := rfl

theorem lastOr_cons (c : Byte) (a : Bytes) (x : Byte) : lastOr (c :: a) x = lastOr a c := by
  unfold lastOr
  cases h : a.reverse <;> simp [h]

theorem lastOr_append (a c : Bytes) (x : Byte) : lastOr (a ++ c) x = lastOr c (lastOr a x) := by
  unfold lastOr
  cases h : c.reverse <;> simp [h]

theorem lastOr_of_ne_nil {a : Bytes} (h : a ≠ []) (x y : Byte) : lastOr a x = lastOr a y := by
  unfold lastOr
  cases hr : a.reverse with
  | nil => exact absurd (List.reverse_eq_nil_iff.mp hr) h
  | cons c r => rfl

theorem lastOr_mem {a : Bytes} (h : a ≠ []) (x : Byte) : lastOr a x ∈ a := by
  unfold lastOr
  cases hr : a.reverse with
  | nil => exact absurd (List.reverse_eq_nil_iff.mp hr) h
  | cons c r => exact List.mem_reverse.mp (by rw [hr]; exact List.mem_cons_self)

theorem headD_reverse_append (a pre : Bytes) : (a.reverse ++ pre).headD 0 = lastOr a (pre.headD 0) := by
  unfold lastOr
  cases a.reverse <;> rfl

theorem advance_prev_byte (s : Lx) (n : Nat) : (advance s n).prev = lastOr (s.rest.take n) s.prev := by
  rw [Lx.prev, advance_pre, headD_reverse_append]
  rfl

theorem advance_prev_split (s : Lx) (a : Bytes) (c : Byte) (r : Bytes) (h : s.rest = a ++ c :: r) :
    (advance s (a.length + 1)).prev = c := by
  rw [advance_prev_byte, h, List.append_cons, List.take_left' (by simp), lastOr_append]
  rfl

def key (t : Token) : TT × Bytes := (t.ty, t.lit)

theorem key_ne_eof {t : Token} {ty : TT} {lit : Bytes} (h : key t = (ty, lit)) (hty : ty ≠ .EOF) : t.ty ≠ .EOF :=
  fun e => hty ((congrArg Prod.fst h).symm.trans e)

end Tw
