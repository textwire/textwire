/-
  TwProofs.Lemmas.LoadWhole — the loader.  Its shape, for C06, C07, C13 and LoadToks: what a successful `parseFile` and
  `loadPage` consist of (`parseFile_ok_iff`, `loadPage_eq_ok`), the render of a registered page as one `evalProg`
  (`tplString_registered`), the pass over the component uses as a function of each use alone (`applyComponents_eq`,
  `applyComponents_mem`: the invariants here, in LoadToks and in C07 are read off it).  Its invariant: nothing it registers
  has a `bad` (Go nil) node — statements, layout, bound inserts, component programs with their slots filled in — so that
  `evalProg_ne_panic` (EvalWalk) takes "never panics" from `EvaluateString` to `NewTemplate` + `Template.String` (C09).
-/
import TwProofs.Lemmas.ParseWalk
import TwProofs.Lemmas.EvalWalk
import TwProofs.Lemmas.Render
import TwModel.Api

namespace Tw

theorem foldlM_except_inv {α β ε : Type} (f : β → α → Except ε β) (P : β → Prop) :
    ∀ (l : List α) (b b' : β), (∀ b a b', a ∈ l → P b → f b a = .ok b' → P b') → P b → l.foldlM f b = .ok b' → P b'
  | [], b, b', _, hb, h => by
    simp only [List.foldlM_nil, pure, Except.pure] at h
    cases h; exact hb
  | a :: l, b, b', hf, hb, h => by
    simp only [List.foldlM_cons, bind, Except.bind] at h
    cases hfa : f b a with
    | error e => rw [hfa] at h; cases h
    | ok b1 =>
      rw [hfa] at h
      exact foldlM_except_inv f P l b1 b' (fun b a b' ha => hf b a b' (List.mem_cons_of_mem _ ha))
        (hf b a b1 List.mem_cons_self hb hfa) h

/-- the shape of the loader's passes: one result per element, appended, or the first failure -/
theorem foldlM_collect_eq_ok {α β γ ε : Type} (g : α → Except ε β) (k : α → β → γ) : ∀ (l : List α) (acc out : List γ),
    l.foldlM (fun acc a => (g a).map fun b => acc ++ [k a b]) acc = .ok out →
    ∃ bs : List β, bs.length = l.length ∧ out = acc ++ (l.zip bs).map (fun x => k x.1 x.2) ∧
      ∀ i (hi : i < l.length) (hj : i < bs.length), g l[i] = .ok bs[i]
  | [], acc, out, h => by
    simp only [List.foldlM_nil, pure, Except.pure] at h
    cases h
    exact ⟨[], rfl, by simp, fun i hi => by cases hi⟩
  | a :: l, acc, out, h => by
    simp only [List.foldlM_cons, bind, Except.bind] at h
    cases hg : g a with
    | error e => rw [hg] at h; cases h
    | ok b =>
      rw [hg] at h
      obtain ⟨bs, hlen, hout, hall⟩ := foldlM_collect_eq_ok g k l _ out h
      refine ⟨b :: bs, by simp [hlen], by rw [hout]; simp, fun i hi hj => ?_⟩
      cases i with
      | zero => exact hg
      | succ j => exact hall j (by simpa using hi) (by simpa using hj)

theorem foldlM_collect_ok {α β γ ε : Type} (g : α → Except ε β) (k : α → β → γ) : ∀ (l : List α) (acc : List γ),
    (∀ a ∈ l, ∃ b, g a = .ok b) → ∃ out, l.foldlM (fun acc a => (g a).map fun b => acc ++ [k a b]) acc = Except.ok out
  | [], acc, _ => ⟨acc, rfl⟩
  | a :: l, acc, h => by
    obtain ⟨b, hb⟩ := h a List.mem_cons_self
    simp only [List.foldlM_cons, bind, Except.bind, hb, Except.map]
    exact foldlM_collect_ok g k l _ (fun x hx => h x (List.mem_cons_of_mem _ hx))

theorem foldlM_first_error {α β ε : Type} (f : β → α → Except ε β) (pre : List α) (x : α) (post : List α) (b0 b1 : β) (e : ε)
    (h1 : pre.foldlM f b0 = .ok b1) (h2 : f b1 x = .error e) : (pre ++ x :: post).foldlM f b0 = .error e := by
  rw [List.foldlM_append, h1]
  simp only [bind, Except.bind, List.foldlM_cons, h2]

theorem parseFile_ok_iff {fs : Fs} {p : Bytes} {base : Nat} {prog : Program} :
    parseFile fs p base = .ok prog ↔ ∃ src, readFile fs p = .ok src ∧ parseSource src base = .ok prog := by
  unfold parseFile
  constructor
  · intro h
    split at h
    · cases h
    · cases h
    · rename_i src hr
      split at h <;> cases h
      exact ⟨src, hr, by assumption⟩
  · rintro ⟨src, hr, hp⟩
    rw [hr]
    simp only [hp]

theorem tplString_registered {w : World} {t : Template} {name : Bytes} {data : List (Bytes × GoVal)} {pg : Page} {env : Env}
    (hpg : mapGet t name = some pg) (hd : envFromMap data = .ok env) :
    tplString w t name data = resToOut (evalProg evalFuel { pg.ctx with custom := w.custom } env pg.stmts []) (templatePath w.cfg name) := by
  unfold tplString envOrFail
  simp only [hd, hpg]

theorem parseFile_whole {fs : Fs} {p : Bytes} {base : Nat} {prog : Program} (h : parseFile fs p base = .ok prog) :
    prog.Whole := by
  obtain ⟨src, _, hp⟩ := parseFile_ok_iff.mp h
  exact parseSource_whole _ _ _ hp

theorem fillSlot_mem : ∀ {stmts : List Stmt} {name : Bytes} {body out : List Stmt}, fillSlot stmts name body = some out →
    ∀ x ∈ out, x ∈ stmts ∨ ∃ t bd, Stmt.slot t name bd ∈ stmts ∧ x = .slot t name (some body)
  | [], _, _, _, h => by simp [fillSlot] at h
  | s :: r, name, body, out, h => by
    have tail : ∀ o, fillSlot r name body = some o → ∀ x ∈ s :: o,
        x ∈ s :: r ∨ ∃ t bd, Stmt.slot t name bd ∈ s :: r ∧ x = .slot t name (some body) := by
      intro o hr x hx
      rcases List.mem_cons.mp hx with hx | hx
      · exact Or.inl (hx ▸ List.mem_cons_self)
      · rcases fillSlot_mem hr x hx with h1 | ⟨t, bd, h1, h2⟩
        · exact Or.inl (List.mem_cons_of_mem _ h1)
        · exact Or.inr ⟨t, bd, List.mem_cons_of_mem _ h1, h2⟩
    cases s with
    | slot t n bd =>
      simp only [fillSlot] at h
      split at h
      · rename_i hn
        cases h
        intro x hx
        rcases List.mem_cons.mp hx with hx | hx
        · exact Or.inr ⟨t, bd, by rw [← eq_of_beq hn]; exact List.mem_cons_self, by rw [hx, eq_of_beq hn]⟩
        · exact Or.inl (List.mem_cons_of_mem _ hx)
      · cases hr : fillSlot r name body with
        | none => rw [hr] at h; cases h
        | some o => rw [hr] at h; cases h; exact tail o hr
    | _ =>
      simp only [fillSlot] at h
      cases hr : fillSlot r name body with
      | none => rw [hr] at h; cases h
      | some o => rw [hr] at h; cases h; exact tail o hr

theorem applyComponent_mem {use : CompUse} {comp : Program} {path : Bytes} {out : List Stmt}
    (h : applyComponent use comp path = .ok out) : ∀ x ∈ out, x ∈ comp.stmts ∨
      ∃ t bd sl, Stmt.slot t sl.name bd ∈ comp.stmts ∧ sl ∈ use.slots ∧ x = .slot t sl.name (some sl.body) := by
  unfold applyComponent at h
  split at h
  · cases h
  · refine foldlM_except_inv _ (fun b => ∀ x ∈ b, x ∈ comp.stmts ∨
        ∃ t bd sl, Stmt.slot t sl.name bd ∈ comp.stmts ∧ sl ∈ use.slots ∧ x = .slot t sl.name (some sl.body))
      use.slots comp.stmts out ?_ (fun x hx => Or.inl hx) h
    intro b sl b' hsl hb hf
    split at hf
    · rename_i s' hfs
      cases hf
      intro x hx
      rcases fillSlot_mem hfs x hx with h1 | ⟨t, bd, h1, rfl⟩
      · exact hb x h1
      · -- the node filled is one of the file, perhaps filled before by a slot of the same name
        rcases hb _ h1 with h2 | ⟨t', bd', sl', h2, _, he⟩
        · exact Or.inr ⟨t, bd, sl, h2, hsl, rfl⟩
        · injection he with ht hn
          rw [← ht, ← hn] at h2
          exact Or.inr ⟨t, bd', sl, h2, hsl, rfl⟩
    · split at hf <;> cases hf

theorem applyComponent_badFree {use : CompUse} {comp : Program} {path : Bytes} {out : List Stmt}
    (hu : SlotsGood use.slots) (hc : Stmt.badFreeList comp.stmts = true)
    (h : applyComponent use comp path = .ok out) : Stmt.badFreeList out = true := by
  rw [Stmt.badFreeList_iff] at hc ⊢
  intro s hm
  rcases applyComponent_mem h s hm with h1 | ⟨t, bd, sl, _, hsl, rfl⟩
  · exact hc s h1
  · exact hu sl hsl

namespace C07
def programOf (fs : Fs) (c : Cfg) (path : Bytes) (use : CompUse) : Except Fail (List Stmt) :=
  match readFile fs (templatePath c use.name) with
  | .notExist => .error (failOf "ErrUndefinedComponent" use.tok.errorLine [use.name] path)
  | .otherErr => .error (osFail use.tok.errorLine (templatePath c use.name))
  | .ok _ =>
    match parseFile fs (templatePath c use.name) compBase with
    | .error f => .error f
    | .ok comp => applyComponent use comp path
end C07

theorem applyComponents_eq (fs : Fs) (c : Cfg) (uses : List CompUse) (path : Bytes) :
    applyComponents fs c uses path =
      uses.foldlM (fun acc u => (C07.programOf fs c path u).map fun s => acc ++ [(u.cid, s)]) [] := by
  unfold applyComponents
  congr
  funext acc u
  unfold C07.programOf
  dsimp only
  generalize readFile fs (templatePath c u.name) = r
  cases r <;> try rfl
  generalize parseFile fs (templatePath c u.name) compBase = pr
  cases pr <;> try rfl
  rename_i comp
  dsimp only
  cases applyComponent u comp path <;> rfl

theorem programOf_eq_ok {fs : Fs} {c : Cfg} {path : Bytes} {u : CompUse} {s : List Stmt} (h : C07.programOf fs c path u = .ok s) :
    ∃ comp, parseFile fs (templatePath c u.name) compBase = .ok comp ∧ applyComponent u comp path = .ok s := by
  unfold C07.programOf at h
  split at h
  · cases h
  · cases h
  · split at h
    · cases h
    · rename_i comp hpf
      exact ⟨comp, hpf, h⟩

theorem applyComponents_mem {fs : Fs} {c : Cfg} {uses : List CompUse} {path : Bytes} {out : List (Nat × List Stmt)}
    (h : applyComponents fs c uses path = .ok out) : ∀ o ∈ out, ∃ u ∈ uses, o.1 = u.cid ∧ C07.programOf fs c path u = .ok o.2 := by
  rw [applyComponents_eq] at h
  obtain ⟨progs, hlen, rfl, hall⟩ := foldlM_collect_eq_ok _ (fun (u : CompUse) s => (u.cid, s)) uses [] out h
  intro o ho
  obtain ⟨u, s, hx, rfl⟩ : ∃ u s, (u, s) ∈ uses.zip progs ∧ (u.cid, s) = o := by simpa using ho
  obtain ⟨i, hi, he⟩ := List.getElem_of_mem hx
  simp only [List.length_zip, Nat.lt_min] at hi
  simp only [List.getElem_zip, Prod.mk.injEq] at he
  exact ⟨u, he.1 ▸ List.getElem_mem _, rfl, by rw [← he.1, ← he.2]; exact hall i hi.1 hi.2⟩

theorem applyComponents_whole {fs : Fs} {c : Cfg} {uses : List CompUse} {path : Bytes} {out : List (Nat × List Stmt)}
    (hu : ∀ cu ∈ uses, SlotsGood cu.slots) (h : applyComponents fs c uses path = .ok out) : ∀ x ∈ out, Stmt.badFreeList x.2 = true := by
  intro o ho
  obtain ⟨u, hmem, _, hp⟩ := applyComponents_mem h o ho
  obtain ⟨comp, hpf, hac⟩ := programOf_eq_ok hp
  exact applyComponent_badFree (hu u hmem) (parseFile_whole hpf).stmts hac

structure Page.Whole (pg : Page) : Prop where
  stmts : Stmt.badFreeList pg.stmts = true
  ctx : Ctx.badFree pg.ctx = true

/-- what a registered page is made of: the file's program alone, or the `@use` node with the layout's
    statements and the inserts bound to its reserves; in both cases with the component programs -/
theorem loadPage_eq_ok {fs : Fs} {c : Cfg} {p : Bytes} {pg : Page} (h : loadPage fs c p = .ok (some pg)) :
    ∃ prog comps, parseFile fs p 0 = .ok prog ∧ applyComponents fs c prog.components p = .ok comps ∧
      (pg = { stmts := prog.stmts, ctx := { comps := comps } } ∨
       ∃ ut lname lprog, prog.useName = some (ut, lname) ∧ parseFile fs (templatePath c lname) layoutBase = .ok lprog ∧
         pg = { stmts := [.use ut lname],
                ctx := { layout := some lprog.stmts, layoutHasUse := lprog.useName.isSome,
                         inserts := lprog.reserves.filterMap fun (n, rid) => (mapGet prog.inserts n).map fun ins => (rid, ins),
                         comps := comps } }) := by
  unfold loadPage at h
  split at h
  · cases h
  · rename_i prog hpf
    simp only [] at h
    split at h
    · cases h
    · rename_i layout hlay
      split at h
      · cases h
      · rename_i comps hcomps
        refine ⟨prog, comps, hpf, hcomps, ?_⟩
        split at h
        · cases h
        · split at h
          · cases h
            exact Or.inl rfl
          · split at h
            · rename_i ut lname huse
              cases h
              rw [huse] at hlay
              simp only [] at hlay
              split at hlay
              · cases hlay
              · rename_i lprog hlp
                split at hlay
                · cases hlay
                · cases hlay
                  exact Or.inr ⟨ut, lname, lprog, huse, hlp, rfl⟩
            · cases h

theorem boundInserts_mem {reserves : List (Bytes × Nat)} {inserts : List (Bytes × InsertDef)} {x : Nat × InsertDef}
    (hx : x ∈ reserves.filterMap fun (n, rid) => (mapGet inserts n).map fun ins => (rid, ins)) : ∃ n, (n, x.2) ∈ inserts := by
  obtain ⟨⟨n, rid⟩, _, hy⟩ := List.mem_filterMap.mp hx
  obtain ⟨ins, hins, rfl⟩ := Option.map_eq_some_iff.mp hy
  exact ⟨n, mapGet_mem hins⟩

theorem loadPage_whole {fs : Fs} {c : Cfg} {p : Bytes} {pg : Page} (h : loadPage fs c p = .ok (some pg)) : pg.Whole := by
  obtain ⟨prog, comps, hpf, hcomps, hpg⟩ := loadPage_eq_ok h
  have hw := parseFile_whole hpf
  have hcw := applyComponents_whole hw.slots hcomps
  rcases hpg with rfl | ⟨ut, lname, lprog, _, hlp, rfl⟩
  · exact ⟨hw.stmts, (Ctx.badFree_iff _).mpr ⟨rfl, fun x hx => (by cases hx), hcw⟩⟩
  · refine ⟨rfl, (Ctx.badFree_iff _).mpr ⟨(parseFile_whole hlp).stmts, fun x hx => ?_, hcw⟩⟩
    obtain ⟨n, hn⟩ := boundInserts_mem hx
    exact hw.inserts _ hn

/-- the pass of `NewTemplate` over the (name, path) pairs: every page of the result was loaded from one of them -/
theorem pages_loaded {load : Bytes → Except Fail (Option Page)} {l : List (Bytes × Bytes)} {t : Template}
    (h : l.foldlM (fun (acc : Template) (np : Bytes × Bytes) =>
        match load np.2 with
        | .error f => (Except.error f : Except Fail Template)
        | .ok none => .ok acc
        | .ok (some pg) => .ok (acc ++ [(np.1, pg)])) [] = .ok t) :
    ∀ x ∈ t, ∃ np ∈ l, x.1 = np.1 ∧ load np.2 = .ok (some x.2) := by
  refine foldlM_except_inv _ (fun (acc : Template) => ∀ x ∈ acc, ∃ np ∈ l, x.1 = np.1 ∧ load np.2 = .ok (some x.2))
    _ [] t ?_ (fun x hx => (by cases hx)) h
  intro acc np acc' hnp hacc hf
  split at hf
  · cases hf
  · cases hf; exact hacc
  · rename_i pg hl
    cases hf
    intro x hx
    rcases List.mem_append.mp hx with hx | hx
    · exact hacc x hx
    · rw [List.mem_singleton.mp hx]
      exact ⟨np, hnp, rfl, hl⟩

theorem newTemplate_forall (w : World) (o : Option Opt) (t : Template) (P : Page → Prop)
    (hP : ∀ p pg, loadPage (configure w o).fs (configure w o).cfg p = .ok (some pg) → P pg)
    (h : (newTemplate w o).2 = .ok t) : ∀ x ∈ t, P x.2 := by
  unfold newTemplate at h
  simp only [] at h
  split at h
  · cases h
  · exact fun x hx => (pages_loaded h x hx).elim fun np hnp => hP _ _ hnp.2.2

theorem newTemplate_whole (w : World) (o : Option Opt) (t : Template) (h : (newTemplate w o).2 = .ok t) :
    ∀ x ∈ t, x.2.Whole :=
  newTemplate_forall w o t Page.Whole (fun _ _ hl => loadPage_whole hl) h

theorem tplString_ne_panic (w : World) (t : Template) (ht : ∀ x ∈ t, x.2.Whole) (name : Bytes)
    (data : List (Bytes × GoVal)) : ∀ why, tplString w t name data ≠ .panic why := by
  intro why h
  unfold tplString at h
  split at h
  · cases h
  · rename_i env _
    simp only [] at h
    split at h
    · cases h
    · rename_i pg hg
      have hw := ht _ (mapGet_mem hg)
      exact evalProg_ne_panic (by simpa [Ctx.badFree] using hw.ctx) hw.stmts why (resToOut_eq_panic h)

end Tw
