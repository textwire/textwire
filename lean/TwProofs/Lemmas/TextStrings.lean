/-
  TwProofs.Lemmas.TextStrings — "+" with a string literal, from the source bytes to the parsed program and what it
  evaluates to: `{{ "a" + 'b' }}` (C10: every literal is escaped on its own, the join adds nothing) and
  `{{ digits + "text" }}` (C01: mixed operand types are an error).  Per shape its tokens (`x_block`), its parse
  (`xCode_parses`, both over `ParsesAt.lit_op_lit`) and its value (`x_evals`).
-/
import TwProofs.Lemmas.TextArith
namespace Tw
open Lx

/-- `{{ g1 "c1" g3 + g4 'c2' g2 }}` -/
def concatSrc (g1 : Bytes) (q1 : Byte) (c1 g3 g4 : Bytes) (q2 : Byte) (c2 g2 : Bytes) : Bytes :=
  [123, 123] ++ g1 ++ (q1 :: (c1 ++ [q1])) ++ g3 ++ [43] ++ g4 ++ (q2 :: (c2 ++ [q2])) ++ g2 ++ [125, 125]

def concatKeys (c1 c2 : Bytes) : List (TT × Bytes) :=
  [(.LBRACES, [123, 123]), (.STR, c1), (.ADD, [43]), (.STR, c2), (.RBRACES, [125, 125])]

theorem arithOp_add : ArithOp 43 .ADD SUM := Or.inr ⟨Or.inl ⟨rfl, rfl⟩, rfl⟩

theorem add_before_str {g : Bytes} {q : Byte} {c x : Bytes} (hg : allWs g) (hq : q = 34 ∨ q = 39) (dir : Bool) :
    IsSym dir 43 .ADD ((g ++ (strLit q c ++ x)).headD 0) :=
  arithOp_add.isSym (head_ne_of_all (u := strLit q c ++ x) hg rfl (fun _ => show q ≠ 43 by rcases hq with rfl | rfl <;> decide)) dir

def concatLexemes (g1 : Bytes) (q1 : Byte) (c1 g3 g4 : Bytes) (q2 : Byte) (c2 : Bytes) : List (Bytes × Lexeme) :=
  [(g1, .str q1 c1), (g3, .sym 43 .ADD), (g4, .str q2 c2)]

def concatCode (g1 : Bytes) (q1 : Byte) (c1 g3 g4 : Bytes) (q2 : Byte) (c2 g2 : Bytes) : Code :=
  { src := concatSrc g1 q1 c1 g3 g4 q2 c2 g2, keys := concatKeys c1 c2 }

theorem concat_block (g1 : Bytes) (q1 : Byte) (c1 g3 g4 : Bytes) (q2 : Byte) (c2 g2 : Bytes) (hg1 : allWs g1) (hg2 : allWs g2) (hg3 : allWs g3)
    (hg4 : allWs g4) (hq1 : q1 = 34 ∨ q1 = 39) (hq2 : q2 = 34 ∨ q2 = 39) (hp1 : PlainStr q1 c1) (hp2 : PlainStr q2 c2) (dir : Bool) :
    Block dir (concatCode g1 q1 c1 g3 g4 q2 c2 g2) (concatLexemes g1 q1 c1 g3 g4 q2 c2) g2 where
  src tl := by simp only [concatLexemes, concatCode, concatSrc, lexemesSrc, Lexeme.src, strLit, List.append_assoc, List.cons_append, List.nil_append]
  keys := rfl
  gap := hg2
  first _ _ h := by cases h
  lexemes _ := ⟨hg1, ⟨hq1, hp1⟩, hg3, add_before_str hg4 hq2 dir, hg4, ⟨hq2, hp2⟩, trivial⟩

theorem concatCode_parses (g1 : Bytes) (q1 : Byte) (c1 g3 g4 : Bytes) (q2 : Byte) (c2 g2 : Bytes)
    (hg1 : allWs g1) (hg2 : allWs g2) (hg3 : allWs g3) (hg4 : allWs g4) (hq1 : q1 = 34 ∨ q1 = 39) (hq2 : q2 = 34 ∨ q2 = 39)
    (hp1 : PlainStr q1 c1) (hp2 : PlainStr q2 c2) :
    ParsesAs (concatCode g1 q1 c1 g3 g4 q2 c2 g2) (fun st => ∃ t4 e, st = .expr t4 e ∧ ∃ t2 t3, e = .inf t3 [43] (.str t2 c1) (.str t4 c2)) :=
  (concat_block g1 q1 c1 g3 g4 q2 c2 g2 hg1 hg2 hg3 hg4 hq1 hq2 hp1 hp2 false).parsesAs nofun
    fun t2 ty2 lit2 t3 ty3 lit3 _ ty4 lit4 _ _ ty5 cl =>
      ⟨_, _, _, Nat.le_of_ble_eq_true rfl, .lit_op_lit arithOp_add ty3 ty5 (atomExpr_str_lit ty2 lit2) (atomExpr_str_lit ty4 lit4) (cl.drop 2),
        t2, t3, by rw [lit3]; rfl⟩

theorem parse_concat_source (g1 : Bytes) (q1 : Byte) (c1 g3 g4 : Bytes) (q2 : Byte) (c2 g2 : Bytes)
    (hg1 : allWs g1) (hg2 : allWs g2) (hg3 : allWs g3) (hg4 : allWs g4) (hq1 : q1 = 34 ∨ q1 = 39) (hq2 : q2 = 34 ∨ q2 = 39)
    (hp1 : PlainStr q1 c1) (hp2 : PlainStr q2 c2) :
    ∃ prog t2 t3 t4, parseSource (concatSrc g1 q1 c1 g3 g4 q2 c2 g2) = .ok prog ∧
      prog.stmts = [.expr t4 (.inf t3 [43] (.str t2 c1) (.str t4 c2))] := by
  obtain ⟨_, t, hp, t4, _, rfl, t2, t3, rfl⟩ := parseSource_one (concatCode_parses g1 q1 c1 g3 g4 q2 c2 g2 hg1 hg2 hg3 hg4 hq1 hq2 hp1 hp2)
  exact ⟨_, t2, t3, t4, hp, rfl⟩

theorem evalExpr_str (f : Nat) (c : Ctx) (env : Env) (t : Token) (s : Bytes) : evalExpr (f + 1) c env (.str t s) = .ok (.str (literalValue s)) := rfl

theorem concat_evals (c : Ctx) (env : Env) (t2 t3 t4 : Token) (s1 s2 : Bytes) (fu : Nat) :
    evalExpr (fu + 7) c env (.inf t3 [43] (.str t2 s1) (.str t4 s2)) = .ok (.str (literalValue s1 ++ literalValue s2)) := by
  rw [evalExpr_inf, evalExpr_str, evalExpr_str]
  simp only [Res.bind_ok, infixOp, Val.type, bne_self_eq_false, Bool.false_eq_true, if_false, strInfix,
    show (([43] : Bytes) == b "==") = false from by decide, show (([43] : Bytes) == b "!=") = false from by decide,
    show (([43] : Bytes) == b "+") = true from by decide, if_true]

/-- `{{ g1 d g3 + g4 "c" g2 }}` -/
def mixedSrc (g1 d g3 g4 : Bytes) (q : Byte) (c g2 : Bytes) : Bytes :=
  [123, 123] ++ g1 ++ d ++ g3 ++ [43] ++ g4 ++ (q :: (c ++ [q])) ++ g2 ++ [125, 125]

def mixedKeys (d c : Bytes) : List (TT × Bytes) :=
  [(.LBRACES, [123, 123]), (.INT, d), (.ADD, [43]), (.STR, c), (.RBRACES, [125, 125])]

def mixedLexemes (g1 d g3 g4 : Bytes) (q : Byte) (c : Bytes) : List (Bytes × Lexeme) :=
  [(g1, .int d), (g3, .sym 43 .ADD), (g4, .str q c)]

def mixedCode (g1 d g3 g4 : Bytes) (q : Byte) (c g2 : Bytes) : Code := { src := mixedSrc g1 d g3 g4 q c g2, keys := mixedKeys d c }

theorem mixed_block (g1 d g3 g4 : Bytes) (q : Byte) (c g2 : Bytes) (hg1 : allWs g1) (hg2 : allWs g2) (hg3 : allWs g3) (hg4 : allWs g4)
    (hd : isDigits d) (hq : q = 34 ∨ q = 39) (hp : PlainStr q c) (dir : Bool) :
    Block dir (mixedCode g1 d g3 g4 q c g2) (mixedLexemes g1 d g3 g4 q c) g2 where
  src tl := by simp only [mixedLexemes, mixedCode, mixedSrc, lexemesSrc, Lexeme.src, strLit, List.append_assoc, List.cons_append, List.nil_append]
  keys := rfl
  gap := hg2
  first _ _ h := by cases h
  lexemes _ := ⟨hg1, Lexeme.int_before hd hg3 rfl (by decide), hg3, add_before_str hg4 hq dir, hg4, ⟨hq, hp⟩, trivial⟩

theorem mixedCode_parses (g1 d g3 g4 : Bytes) (q : Byte) (c g2 : Bytes) (hg1 : allWs g1) (hg2 : allWs g2) (hg3 : allWs g3) (hg4 : allWs g4)
    (hd : isDigits d) (hq : q = 34 ∨ q = 39) (hp : PlainStr q c) (hb : digitsToNat d ≤ 9223372036854775807) :
    ParsesAs (mixedCode g1 d g3 g4 q c g2) (fun st => ∃ t4 e, st = .expr t4 e ∧ ∃ t2 t3,
      e = .inf t3 [43] (.int t2 (Int64.ofNat (digitsToNat d))) (.str t4 c)) :=
  (mixed_block g1 d g3 g4 q c g2 hg1 hg2 hg3 hg4 hd hq hp false).parsesAs nofun
    fun t2 ty2 lit2 t3 ty3 lit3 _ ty4 lit4 _ _ ty5 cl =>
      ⟨_, _, _, Nat.le_of_ble_eq_true rfl, .lit_op_lit arithOp_add ty3 ty5 (atomExpr_int ty2 (parseInt64_lit lit2 hd hb)) (atomExpr_str_lit ty4 lit4)
        (cl.drop 2), t2, t3, by rw [lit3]; rfl⟩

theorem parse_mixed_source (g1 d g3 g4 : Bytes) (q : Byte) (c g2 : Bytes) (hg1 : allWs g1) (hg2 : allWs g2) (hg3 : allWs g3) (hg4 : allWs g4)
    (hd : isDigits d) (hq : q = 34 ∨ q = 39) (hp : PlainStr q c) (hb : digitsToNat d ≤ 9223372036854775807) :
    ∃ prog t2 t3 t4, parseSource (mixedSrc g1 d g3 g4 q c g2) = .ok prog ∧
      prog.stmts = [.expr t4 (.inf t3 [43] (.int t2 (Int64.ofNat (digitsToNat d))) (.str t4 c))] := by
  obtain ⟨_, t, hp, t4, _, rfl, t2, t3, rfl⟩ := parseSource_one (mixedCode_parses g1 d g3 g4 q c g2 hg1 hg2 hg3 hg4 hd hq hp hb)
  exact ⟨_, t2, t3, t4, hp, rfl⟩

theorem mixed_evals (c : Ctx) (env : Env) (t2 t3 t4 : Token) (x : Int64) (s : Bytes) (fu : Nat) :
    evalExpr (fu + 7) c env (.inf t3 [43] (.int t2 x) (.str t4 s)) =
      .err "ErrTypeMismatch" (Expr.int t2 x).line [b "INTEGER", [43], b "STRING"] := by
  rw [evalExpr_inf, evalExpr_int, evalExpr_str]
  simp [infixOp, Val.type, Val.typeName, VType.name]

/-! Statements in their own right about the same shapes.  No from-source proof uses them. -/

theorem lex_concat (s : Lx) (g1 : Bytes) (q1 : Byte) (c1 g3 g4 : Bytes) (q2 : Byte) (c2 g2 tl : Bytes) (hh : s.isHTML = true) (hb : s.braces = 0)
    (hg1 : allWs g1) (hg2 : allWs g2) (hg3 : allWs g3) (hg4 : allWs g4) (hq1 : q1 = 34 ∨ q1 = 39) (hq2 : q2 = 34 ∨ q2 = 39)
    (hp1 : PlainStr q1 c1) (hp2 : PlainStr q2 c2) (hr : s.rest = concatSrc g1 q1 c1 g3 g4 q2 c2 g2 ++ tl) :
    ∃ toks s5, Run s toks s5 ∧ toks.map key = concatKeys c1 c2 ∧ s5.rest = tl ∧ s5.prev = 125 ∧
      mode s5 = (true, s.isDirective, s.parens, 0, s.panicked) :=
  (concat_block g1 q1 c1 g3 g4 q2 c2 g2 hg1 hg2 hg3 hg4 hq1 hq2 hp1 hp2 _).lex rfl hh hb hr

theorem parse_str_operand (f prec : Nat) (t tn : Token) (rest : List Token) (ht : t.ty = .STR)
    (hstop : tn.ty = .RBRACES ∨ ¬ prec < precedence tn.ty) :
    parseExpression (f + 2) prec ({ toks := t :: tn :: rest } : PS) = (.str t t.lit, { toks := t :: tn :: rest }) :=
  (ParsesAt.one (atomExpr_str ht) (hstop.elim .rbraces fun h => .le (Nat.le_of_not_lt h))).on (by omega) rfl

theorem lex_mixed (s : Lx) (g1 d g3 g4 : Bytes) (q : Byte) (c g2 tl : Bytes) (hh : s.isHTML = true) (hb : s.braces = 0)
    (hg1 : allWs g1) (hg2 : allWs g2) (hg3 : allWs g3) (hg4 : allWs g4) (hd : isDigits d) (hq : q = 34 ∨ q = 39) (hp : PlainStr q c)
    (hr : s.rest = mixedSrc g1 d g3 g4 q c g2 ++ tl) :
    ∃ toks s5, Run s toks s5 ∧ toks.map key = mixedKeys d c ∧ s5.rest = tl ∧ s5.prev = 125 ∧
      mode s5 = (true, s.isDirective, s.parens, 0, s.panicked) :=
  (mixed_block g1 d g3 g4 q c g2 hg1 hg2 hg3 hg4 hd hq hp _).lex rfl hh hb hr

end Tw
