/-
  TwProofs.C12 — Go data passed to a render is visible with the same structure.
-/
import TwProofs.Lemmas.Sort
import TwProofs.Lemmas.TextVars
import TwProofs.Lemmas.TextAccess
import TwProofs.Lemmas.TextAround

namespace Tw.C12
open Tw

/-- scalars convert to the equal value -/
theorem scalars (bv : Bool) (s : Bytes) (i : Int) (f : Float) :
    nativeToObject (.bool bv) = some (.bool bv) ∧ nativeToObject (.str s) = some (.str s) ∧
    nativeToObject (.int i) = some (.int (Int64.ofInt i)) ∧ nativeToObject (.float f) = some (.float f) ∧
    nativeToObject .nilIface = some .nil := by
  simp [nativeToObject]

/-- a nil pointer is nil; a pointer is transparent -/
theorem pointers (g : GoVal) : nativeToObject (.ptr none) = some .nil ∧ nativeToObject (.ptr (some g)) = nativeToObject g := by
  simp [nativeToObject]

/-- a value of another kind makes the conversion fail (the Go code returns a nil Object and
    `EnvFromMap` reports `unsupported type`) — at the top and, by the next theorems, at any depth -/
theorem other_kind_fails (k : String) : nativeToObject (.other k) = none := by simp [nativeToObject]

theorem slice_fails_iff (xs : List GoVal) : nativeToObject (.slice xs) = none ↔ nativeList xs = none := by
  simp [nativeToObject]

theorem list_fails_iff : ∀ xs : List GoVal, nativeList xs = none ↔ ∃ x ∈ xs, nativeToObject x = none
  | [] => by simp [nativeList]
  | x :: r => by
    simp only [nativeList]
    cases hx : nativeToObject x with
    | none => simp [hx]
    | some v =>
      have := list_fails_iff r
      simp only [List.mem_cons, exists_eq_or_imp, hx, reduceCtorEq, false_or]
      rw [← this]
      cases nativeList r <;> simp

theorem nativePairs_none_iff : ∀ kvs : List (Bytes × GoVal), nativePairs kvs = none ↔ nativeList (kvs.map (·.2)) = none
  | [] => by simp [nativePairs, nativeList]
  | (k, x) :: r => by
    cases hx : nativeToObject x <;> simp [nativePairs, nativeList, hx, nativePairs_none_iff r]

theorem nativeFields_none_iff : ∀ fs : List (Bytes × Bool × GoVal),
    nativeFields fs = none ↔ nativeList ((fs.filter (·.2.1)).map (·.2.2)) = none
  | [] => by simp [nativeFields, nativeList]
  | (k, ex, x) :: r => by
    cases ex <;> cases hx : nativeToObject x <;> simp [nativeFields, nativeList, hx, nativeFields_none_iff r]

theorem map_fails_iff : ∀ kvs : List (Bytes × GoVal), nativePairs kvs = none ↔ ∃ p ∈ kvs, nativeToObject p.2 = none := by
  intro kvs
  simp only [nativePairs_none_iff, list_fails_iff, List.mem_map]
  exact ⟨fun ⟨_, ⟨p, hp, rfl⟩, e⟩ => ⟨p, hp, e⟩, fun ⟨p, hp, e⟩ => ⟨_, ⟨p, hp, rfl⟩, e⟩⟩

/-- only exported fields are looked at: a struct fails iff an exported field fails -/
theorem struct_fails_iff : ∀ fs : List (Bytes × Bool × GoVal),
    nativeFields fs = none ↔ ∃ p ∈ fs, p.2.1 = true ∧ nativeToObject p.2.2 = none := by
  intro fs
  simp only [nativeFields_none_iff, list_fails_iff, List.mem_map, List.mem_filter]
  exact ⟨fun ⟨_, ⟨p, ⟨hp, hx⟩, rfl⟩, e⟩ => ⟨p, hp, hx, e⟩, fun ⟨p, hp, hx, e⟩ => ⟨_, ⟨p, ⟨hp, hx⟩, rfl⟩, e⟩⟩

/-- the elements of a slice are visible by position -/
theorem slice_elements (xs : List GoVal) (vs : List Val) (h : nativeList xs = some vs) :
    nativeToObject (.slice xs) = some (.arr vs) := by simp [nativeToObject, h]

theorem list_length : ∀ (xs : List GoVal) (vs : List Val), nativeList xs = some vs → vs.length = xs.length
  | [], vs, h => by simp [nativeList] at h; subst h; rfl
  | x :: r, vs, h => by
    simp only [nativeList] at h
    cases hx : nativeToObject x with
    | none => simp [hx] at h
    | some v =>
      cases hr : nativeList r with
      | none => simp [hx, hr] at h
      | some vr =>
        simp [hx, hr] at h; subst h
        simp [list_length r vr hr]

/-- key-sorting, which the conversion of a map applies to its entries, does not change what a
    lookup by name finds (keys distinct, as in a Go map) -/
theorem mapGet_sortByKey {α} (l : List (Bytes × α)) (hd : KeysDistinct l) (k : Bytes) : mapGet (sortByKey l) k = mapGet l k :=
  (mapGet_perm (sortByKey_perm l).symm hd k).symm

/-- `EnvFromMap.go`: every pair it works through ends up visible with its converted value, and
    what was visible before stays as it was (keys distinct from it).  The second part carries the
    induction: the entry just set is not overwritten by the later ones. -/
theorem envGo_visible : ∀ (l : List (Bytes × GoVal)) (s : List (Bytes × Val)) (env' : Env),
    KeysDistinct l → envFromMap.go l [s] = .ok env' →
    (∀ k g, (k, g) ∈ l → ∃ v, nativeToObject g = some v ∧ env'.get k = some v) ∧
    (∀ k, (∀ p ∈ l, k ≠ p.1) → env'.get k = Env.get [s] k)
  | [], s, env', _, h => by
    simp only [envFromMap.go] at h
    cases h
    exact ⟨fun _ _ hm => (by cases hm), fun _ _ => rfl⟩
  | (k0, g0) :: r, s, env', hd, h => by
    have hd' := List.pairwise_cons.mp hd
    simp only [envFromMap.go] at h
    cases hv : nativeToObject g0 with
    | none => rw [hv] at h; cases h
    | some v0 =>
      rw [hv] at h
      simp only [] at h
      cases hs : Env.set [s] k0 v0 with
      | error e => rw [hs] at h; cases h
      | ok e1 =>
        rw [hs] at h
        simp only [] at h
        have he1 : e1 = [mapSet s k0 v0] := Env.set_ok_eq hs
        subst he1
        obtain ⟨ih1, ih2⟩ := envGo_visible r (mapSet s k0 v0) env' hd'.2 h
        constructor
        · intro k g hm
          rcases List.mem_cons.mp hm with hm | hm
          · cases hm
            refine ⟨v0, hv, ?_⟩
            rw [ih2 k0 hd'.1]
            exact get_setTop_same [s] k0 v0
          · exact ih1 k g hm
        · intro k hk
          rw [ih2 k (fun p hp => hk p (List.mem_cons_of_mem _ hp))]
          exact get_setTop_other [s] k0 k v0 (hk (k0, g0) List.mem_cons_self)

/-- **every variable of the data map is visible** with the converted value of what the caller
    passed (keys distinct, as in a Go map), in the outermost scope — and therefore, by
    `C04.nested_block_sees_outer`, in every nested block unless shadowed -/
theorem data_is_visible (data : List (Bytes × GoVal)) (env : Env) (hd : KeysDistinct data)
    (h : envFromMap data = .ok env) (k : Bytes) (g : GoVal) (hm : (k, g) ∈ data) :
    ∃ v, nativeToObject g = some v ∧ env.get k = some v := by
  unfold envFromMap at h
  have hperm := sortByKey_perm data
  exact (envGo_visible (sortByKey data) [] env (hd.perm hperm.symm) h).1 k g (hperm.symm.subset hm)

/-- the same, for the caller who knows what the entry converts to -/
theorem data_get (data : List (Bytes × GoVal)) (env : Env) (hd : KeysDistinct data) (h : envFromMap data = .ok env)
    (k : Bytes) (g : GoVal) (hm : (k, g) ∈ data) (v : Val) (hv : nativeToObject g = some v) : env.get k = some v := by
  obtain ⟨v0, hv0, hget⟩ := data_is_visible data env hd h k g hm
  rw [hv] at hv0
  cases hv0
  exact hget

/-- … and in every block nested inside, however deep (as long as nothing in between binds the name again) -/
theorem data_is_visible_in_nested_blocks (data : List (Bytes × GoVal)) (env : Env) (hd : KeysDistinct data)
    (h : envFromMap data = .ok env) (k : Bytes) (g : GoVal) (hm : (k, g) ∈ data) (n : Nat) :
    ∃ v, nativeToObject g = some v ∧ (Nat.repeat Env.push n env).get k = some v := by
  obtain ⟨v, hv, hg⟩ := data_is_visible data env hd h k g hm
  refine ⟨v, hv, ?_⟩
  induction n with
  | zero => exact hg
  | succ n ih => rw [Nat.repeat, get_push]; exact ih

/-- **a root value of the data prints as its converted value, from the source bytes on**: for every
    data map with distinct keys and every entry `(k, g)` whose key is a name, the template
    `{{ k }}` — with any white space `g1`, `g2` around the name — renders the printed converted value of
    `g` -/
theorem root_value_prints (custom : List ((VType × Bytes) × Nat)) (data : List (Bytes × GoVal)) (env : Env) (hd : KeysDistinct data)
    (h : envFromMap data = .ok env) (k : Bytes) (g : GoVal) (hm : (k, g) ∈ data) (hk : isName k)
    (g1 g2 : Bytes) (hg1 : allWs g1) (hg2 : allWs g2) :
    ∃ v, nativeToObject g = some v ∧
      evaluateStringPure custom ([123, 123] ++ g1 ++ k ++ g2 ++ [125, 125]) data = .ok v.toStr := by
  obtain ⟨v, hv, hget⟩ := data_is_visible data env hd h k g hm
  refine ⟨v, hv, ?_⟩
  have := vitems_render custom [.print g1 k g2] ⟨hg1, hg2, hk, trivial⟩ (by simp [vpieces, evalFuel]) data env h
    (by simp [vpieces, holesBound, hget])
  simpa [vitemsSrc, VItem.src, vpieces, fill, hget] using this

/-- **a field of a root value prints as its converted value, from the source bytes on**: for every
    data map with distinct keys, every entry `(k, g)` whose value converts to an object (a struct,
    a string-keyed map, a pointer to one) and every identifier `f` that is a key of that object — as
    written, or with its first letter in upper case (the exported Go field `Name` is reachable as
    `name`) — the template `{{ k.f }}`, with any white space inside the braces, renders the printed
    converted value of that field. -/
theorem field_value_prints (custom : List ((VType × Bytes) × Nat)) (data : List (Bytes × GoVal)) (env : Env) (hd : KeysDistinct data)
    (h : envFromMap data = .ok env) (k : Bytes) (g : GoVal) (hm : (k, g) ∈ data) (hk : isName k) (f : Bytes) (hf : isName f)
    (g1 g2 : Bytes) (hg1 : allWs g1) (hg2 : allWs g2) (kvs : List (Bytes × Val)) (hobj : nativeToObject g = some (.obj kvs))
    (v : Val) (hv : mapGet kvs f = some v ∨ (mapGet kvs f = none ∧ mapGet kvs (toUpper (f.take 1) ++ f.drop 1) = some v)) :
    evaluateStringPure custom (dotSrc g1 k f g2) data = .ok v.toStr := by
  have hget := data_get data env hd h k g hm _ hobj
  exact (dotCode_parses g1 k f g2 hg1 hg2 hk hf).renders_expr custom data env v h
    fun _ _ ⟨t2, t3, e⟩ => e ▸ dot_evals _ env k f hf kvs hget v hv t2 t3

example : evaluateStringPure [] (b "{{ user.name }}") [(b "user", .struct [(b "Name", true, .str (b "Ann")), (b "age", false, .int 3)])] =
    .ok (b "Ann") := by
  have := field_value_prints [] [(b "user", .struct [(b "Name", true, .str (b "Ann")), (b "age", false, .int 3)])]
    [[(b "user", .obj [(b "Name", .str (b "Ann"))])]] (List.pairwise_singleton _ _) (by rfl) (b "user")
    (.struct [(b "Name", true, .str (b "Ann")), (b "age", false, .int 3)]) List.mem_cons_self (by decide) (b "name") (by decide)
    [32] [32] (by decide) (by decide) [(b "Name", .str (b "Ann"))] (by rfl) (.str (b "Ann")) (Or.inr ⟨by rfl, by rfl⟩)
  have hs : dotSrc [32] (b "user") (b "name") [32] = b "{{ user.name }}" := by decide
  rw [hs] at this
  exact this

/-- inside the array the index reads the element at that position -/
theorem arrIndex_in (xs : List Val) (n : Nat) (h : n < xs.length) (hb : n < 2 ^ 63) : arrIndex xs (Int64.ofNat n) = xs.getD n .nil :=
  arrIndex_ofNat xs n hb

/-- past the end the index reads nil -/
theorem arrIndex_out (xs : List Val) (n : Nat) (h : xs.length ≤ n) (hb : n < 2 ^ 63) : arrIndex xs (Int64.ofNat n) = .nil := by
  rw [arrIndex_ofNat xs n hb, List.getD, List.getElem?_eq_none h]
  rfl

/-- **an element of a root slice prints as its converted value, from the source bytes on**: for every
    data map with distinct keys, every entry `(k, g)` whose value converts to an array (a slice or an
    array of supported elements) and every decimal number `d` that fits in an int64, the template
    `{{ k[d] }}` — with any white space after `{{`, around the number and before `}}` — renders the printed
    converted element at position `d`, and the printed nil (nothing) when `d` is past the end. -/
theorem index_value_prints (custom : List ((VType × Bytes) × Nat)) (data : List (Bytes × GoVal)) (env : Env) (hd : KeysDistinct data)
    (h : envFromMap data = .ok env) (k : Bytes) (g : GoVal) (hm : (k, g) ∈ data) (hk : isName k) (d : Bytes) (hdg : isDigits d)
    (hb : digitsToNat d < 2 ^ 63) (g1 g2 g3 g4 : Bytes) (hg1 : allWs g1) (hg2 : allWs g2) (hg3 : allWs g3) (hg4 : allWs g4)
    (xs : List Val) (harr : nativeToObject g = some (.arr xs)) :
    evaluateStringPure custom (idxSrc g1 k g3 d g4 g2) data = .ok (xs.getD (digitsToNat d) .nil).toStr := by
  have hget := data_get data env hd h k g hm _ harr
  rw [← arrIndex_ofNat xs _ hb]
  exact (idxCode_parses g1 k g3 d g4 g2 hg1 hg2 hg3 hg4 hk hdg (by omega)).renders_expr custom data env _ h
    fun _ _ ⟨t2, t3, t4, e⟩ => e ▸ idx_evals _ env k xs hget _ t2 t3 t4

example : evaluateStringPure [] (b "{{ names[ 1 ] }}") [(b "names", .slice [.str (b "Ann"), .str (b "Bob")])] = .ok (b "Bob") := by
  have := index_value_prints [] [(b "names", .slice [.str (b "Ann"), .str (b "Bob")])]
    [[(b "names", .arr [.str (b "Ann"), .str (b "Bob")])]] (List.pairwise_singleton _ _) (by rfl) (b "names")
    (.slice [.str (b "Ann"), .str (b "Bob")]) List.mem_cons_self (by decide) (b "1") (by decide) (by decide)
    [32] [32] [32] [32] (by decide) (by decide) (by decide) (by decide) [.str (b "Ann"), .str (b "Bob")] (by rfl)
  have hs : idxSrc [32] (b "names") [32] (b "1") [32] [32] = b "{{ names[ 1 ] }}" := by decide
  rw [hs] at this
  exact this

/-- **a field of an element of a root slice prints as its converted value, from the source bytes on**
    (`{{ users[0].name }}`): for every data map with distinct keys, every entry `(k, g)` whose value
    converts to an array, every decimal position `d` inside it whose element converts to an object
    (a struct, a string-keyed map, a pointer to one) and every key `f` of that object — as written, or
    with its first letter in upper case — the template `{{ k[d].f }}`, with any white space inside the
    brackets and the braces, renders the printed converted value of that field. -/
theorem element_field_prints (custom : List ((VType × Bytes) × Nat)) (data : List (Bytes × GoVal)) (env : Env) (hd : KeysDistinct data)
    (h : envFromMap data = .ok env) (k : Bytes) (g : GoVal) (hm : (k, g) ∈ data) (hk : isName k) (d : Bytes) (hdg : isDigits d)
    (hb : digitsToNat d < 2 ^ 63) (f : Bytes) (hf : isName f) (g1 g2 g3 g4 : Bytes) (hg1 : allWs g1) (hg2 : allWs g2) (hg3 : allWs g3)
    (hg4 : allWs g4) (xs : List Val) (harr : nativeToObject g = some (.arr xs)) (hin : digitsToNat d < xs.length)
    (kvs : List (Bytes × Val)) (hel : xs.getD (digitsToNat d) .nil = .obj kvs)
    (v : Val) (hv : mapGet kvs f = some v ∨ (mapGet kvs f = none ∧ mapGet kvs (toUpper (f.take 1) ++ f.drop 1) = some v)) :
    evaluateStringPure custom (idxDotSrc g1 k g3 d g4 f g2) data = .ok v.toStr := by
  have hget := data_get data env hd h k g hm _ harr
  exact (idxDotCode_parses g1 k g3 d g4 f g2 hg1 hg2 hg3 hg4 hk hdg hf (by omega)).renders_expr custom data env v h
    fun _ _ ⟨t2, t3, t4, t6, e⟩ => e ▸ idxDot_evals _ env k f hf xs hget _ kvs (by rw [arrIndex_ofNat xs _ hb, hel]) v hv t2 t3 t4 t6

example : evaluateStringPure [] (b "{{ users[1].name }}")
    [(b "users", .slice [.struct [(b "Name", true, .str (b "Ann"))], .struct [(b "Name", true, .str (b "Bob"))]])] = .ok (b "Bob") := by
  have := element_field_prints [] [(b "users", .slice [.struct [(b "Name", true, .str (b "Ann"))], .struct [(b "Name", true, .str (b "Bob"))]])]
    [[(b "users", .arr [.obj [(b "Name", .str (b "Ann"))], .obj [(b "Name", .str (b "Bob"))]])]] (List.pairwise_singleton _ _) (by rfl) (b "users")
    (.slice [.struct [(b "Name", true, .str (b "Ann"))], .struct [(b "Name", true, .str (b "Bob"))]]) List.mem_cons_self (by decide) (b "1") (by decide) (by decide)
    (b "name") (by decide) [32] [32] [] [] (by decide) (by decide) (by decide) (by decide)
    [.obj [(b "Name", .str (b "Ann"))], .obj [(b "Name", .str (b "Bob"))]] (by rfl) (by decide) [(b "Name", .str (b "Bob"))] (by rfl)
    (.str (b "Bob")) (Or.inr ⟨by rfl, by rfl⟩)
  have hs : idxDotSrc [32] (b "users") [] (b "1") [] (b "name") [32] = b "{{ users[1].name }}" := by decide
  rw [hs] at this
  exact this

/-- **`Hello {{ user.name }}!`: a field of the data between two runs of text, from the source bytes on**: for
    every data map with distinct keys, every entry `(k, g)` whose value converts to an object with the key
    `f` (as written or with its first letter in upper case), every two runs of text `pre` and `post` (plain
    pieces and escapes, as in C05) and any white space inside the braces, the template
    `pre {{ k.f }} post` renders the text of `pre`, the printed converted field, the text of `post`. -/
theorem field_value_prints_in_text (custom : List ((VType × Bytes) × Nat)) (data : List (Bytes × GoVal)) (env : Env) (hd : KeysDistinct data)
    (h : envFromMap data = .ok env) (k : Bytes) (g : GoVal) (hm : (k, g) ∈ data) (hk : isName k) (f : Bytes) (hf : isName f)
    (g1 g2 : Bytes) (hg1 : allWs g1) (hg2 : allWs g2) (kvs : List (Bytes × Val)) (hobj : nativeToObject g = some (.obj kvs))
    (v : Val) (hv : mapGet kvs f = some v ∨ (mapGet kvs f = none ∧ mapGet kvs (toUpper (f.take 1) ++ f.drop 1) = some v))
    (pre post : List Seg) (hitems : GItemsOK [.text pre, .code (dotCode g1 k f g2), .text post]) :
    evaluateStringPure custom (segsSrc pre ++ (dotSrc g1 k f g2 ++ segsSrc post)) data = .ok (segsLit pre ++ v.toStr ++ segsLit post) := by
  have hget := data_get data env hd h k g hm _ hobj
  exact text_code_text custom pre post (dotCode g1 k f g2) data env h v.toStr
    ((dotCode_parses g1 k f g2 hg1 hg2 hk hf).oneStmt_of_expr env _ v
      fun _ _ ⟨t2, t3, e⟩ => e ▸ dot_evals _ env k f hf kvs hget v hv t2 t3) hitems

example : evaluateStringPure [] (b "Hello {{ user.name }}!")
    [(b "user", .struct [(b "Name", true, .str (b "Ann")), (b "age", false, .int 3)])] = .ok (b "Hello Ann!") := by
  have hitems : GItemsOK [.text [.plain (b "Hello ")], .code (dotCode [32] (b "user") (b "name") [32]), .text [.plain (b "!")]] :=
    ⟨by decide, by decide, by simp only [afterRunG]; decide, (dot_block [32] (b "user") (b "name") [32] (by decide) (by decide) (by decide) (by decide) false).ok,
      by decide, by decide, trivial, trivial⟩
  have := field_value_prints_in_text [] [(b "user", .struct [(b "Name", true, .str (b "Ann")), (b "age", false, .int 3)])]
    [[(b "user", .obj [(b "Name", .str (b "Ann"))])]] (List.pairwise_singleton _ _) (by rfl) (b "user")
    (.struct [(b "Name", true, .str (b "Ann")), (b "age", false, .int 3)]) List.mem_cons_self (by decide) (b "name") (by decide)
    [32] [32] (by decide) (by decide) [(b "Name", .str (b "Ann"))] (by rfl) (.str (b "Ann")) (Or.inr ⟨by rfl, by rfl⟩)
    [.plain (b "Hello ")] [.plain (b "!")] hitems
  have hs : segsSrc [.plain (b "Hello ")] ++ (dotSrc [32] (b "user") (b "name") [32] ++ segsSrc [.plain (b "!")]) = b "Hello {{ user.name }}!" := by decide
  rw [hs] at this
  exact this

/-- **`First: {{ names[0] }}.`: an element of a slice of the data between two runs of text, from the source
    bytes on** -/
theorem index_value_prints_in_text (custom : List ((VType × Bytes) × Nat)) (data : List (Bytes × GoVal)) (env : Env) (hd : KeysDistinct data)
    (h : envFromMap data = .ok env) (k : Bytes) (g : GoVal) (hm : (k, g) ∈ data) (hk : isName k) (d : Bytes) (hdg : isDigits d)
    (hb : digitsToNat d < 2 ^ 63) (g1 g2 g3 g4 : Bytes) (hg1 : allWs g1) (hg2 : allWs g2) (hg3 : allWs g3) (hg4 : allWs g4)
    (xs : List Val) (harr : nativeToObject g = some (.arr xs))
    (pre post : List Seg) (hitems : GItemsOK [.text pre, .code (idxCode g1 k g3 d g4 g2), .text post]) :
    evaluateStringPure custom (segsSrc pre ++ (idxSrc g1 k g3 d g4 g2 ++ segsSrc post)) data =
      .ok (segsLit pre ++ (xs.getD (digitsToNat d) .nil).toStr ++ segsLit post) := by
  have hget := data_get data env hd h k g hm _ harr
  rw [← arrIndex_ofNat xs _ hb]
  exact text_code_text custom pre post (idxCode g1 k g3 d g4 g2) data env h _
    ((idxCode_parses g1 k g3 d g4 g2 hg1 hg2 hg3 hg4 hk hdg (by omega)).oneStmt_of_expr env _ _
      fun _ _ ⟨t2, t3, t4, e⟩ => e ▸ idx_evals _ env k xs hget _ t2 t3 t4) hitems

example : nativeToObject (.struct [(b "Name", true, .str (b "x")), (b "secret", false, .other "chan"), (b "P", true, .ptr none)]) =
    some (.obj [(b "Name", .str (b "x")), (b "P", .nil)]) := by rfl

example : nativeToObject (.map [(b "k", .slice [.int 1, .other "func"])]) = none := by rfl

end Tw.C12
