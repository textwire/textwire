/-
  TwProofs.Lemmas.LexSim — what the lexer does next depends on the remaining bytes, the previous
  byte and the mode flags only: two lexer states that agree on those produce tokens of the same
  kinds and literals (positions aside) and stay in agreement (`Sim`, `lexAll_sim`; C01).
-/
import TwProofs.Lemmas.LexProgress
namespace Tw
open Lx

structure Sim (a c : Lx) : Prop where
  rest : a.rest = c.rest
  prev : a.prev = c.prev
  html : a.isHTML = c.isHTML
  dir : a.isDirective = c.isDirective
  parens : a.parens = c.parens
  braces : a.braces = c.braces
  pan : a.panicked = c.panicked

theorem Sim.refl (s : Lx) : Sim s s := ⟨rfl, rfl, rfl, rfl, rfl, rfl, rfl⟩

theorem Sim.char {a c : Lx} (h : Sim a c) : a.char = c.char := by simp [Lx.char, h.rest]
theorem Sim.peek {a c : Lx} (h : Sim a c) : a.peek = c.peek := by simp [Lx.peek, h.rest]
theorem Sim.isEOF {a c : Lx} (h : Sim a c) : a.isEOF = c.isEOF := by simp [Lx.isEOF, h.rest]

theorem Sim.advance {a c : Lx} (h : Sim a c) (n : Nat) : Sim (advance a n) (advance c n) :=
  ⟨by rw [advance_rest, advance_rest, h.rest],
    by rw [advance_prev_byte, advance_prev_byte, h.rest, h.prev],
    by rw [advance_isHTML, advance_isHTML, h.html],
    by rw [advance_isDirective, advance_isDirective, h.dir],
    by rw [advance_parens, advance_parens, h.parens],
    by rw [advance_braces, advance_braces, h.braces],
    by rw [advance_panicked, advance_panicked, h.pan]⟩

theorem Sim.tokenBegins {a c : Lx} (h : Sim a c) : Sim a.tokenBegins c.tokenBegins :=
  ⟨h.rest, h.prev, h.html, h.dir, h.parens, h.braces, h.pan⟩

theorem Sim.withHTML {a c : Lx} (h : Sim a c) (b : Bool) : Sim (a.withHTML b) (c.withHTML b) :=
  ⟨h.rest, h.prev, rfl, h.dir, h.parens, h.braces, h.pan⟩

structure DSim (d e : TokDesc) : Prop where
  st : Sim d.st e.st
  n : d.n = e.n
  ty : d.ty = e.ty
  lit : d.lit = e.lit

theorem emit_sim {a c : Lx} (h : Sim a c) (n : Nat) (ty : TT) (lit : Bytes) :
    key (emit a n ty lit).1 = key (emit c n ty lit).1 ∧ Sim (emit a n ty lit).2 (emit c n ty lit).2 := by
  refine ⟨by rw [emit_key, emit_key], ?_⟩
  exact h.tokenBegins.advance n

theorem DSim.emit {d e : TokDesc} (h : DSim d e) : key d.emit.1 = key e.emit.1 ∧ Sim d.emit.2 e.emit.2 := by
  unfold TokDesc.emit
  rw [h.n, h.ty, h.lit]
  exact emit_sim h.st _ _ _

theorem illegalDesc_sim {a c : Lx} (h : Sim a c) : DSim (illegalDesc a) (illegalDesc c) :=
  ⟨h, rfl, rfl, by simp [illegalDesc, h.char]⟩

theorem wordDesc_sim {a c : Lx} (h : Sim a c) : DSim (wordDesc a) (wordDesc c) := by
  unfold wordDesc
  rw [h.char, h.rest]
  exact ite_rel (R := DSim) (fun _ => ⟨h, rfl, rfl, rfl⟩) fun _ =>
    ite_rel (R := DSim) (fun _ => ⟨h, rfl, rfl, rfl⟩) fun _ => illegalDesc_sim h

theorem opChain_sim {a c : Lx} (h : Sim a c) : ∀ tbl : List (Byte × Byte × TT × TT), DSim (opChain a tbl) (opChain c tbl)
  | [] => wordDesc_sim h
  | (x, k, t2, t1) :: r => by
    unfold opChain
    rw [h.char, h.peek]
    exact ite_rel (fun _ => ite_rel (fun _ => ⟨h, rfl, rfl, rfl⟩) fun _ => ⟨h, rfl, rfl, rfl⟩) fun _ => opChain_sim h r

theorem opDesc_sim {a c : Lx} (h : Sim a c) : DSim (opDesc a) (opDesc c) := opChain_sim h opTable

theorem strDesc_sim {a c : Lx} (h : Sim a c) : DSim (strDesc a) (strDesc c) := by
  unfold strDesc
  rw [h.char, h.rest]
  exact ⟨h, rfl, rfl, rfl⟩

theorem Sim.flags {a c : Lx} (h : Sim a c) (html dir : Bool) (p b : Int) :
    Sim { a with isHTML := html, isDirective := dir, parens := p, braces := b }
      { c with isHTML := html, isDirective := dir, parens := p, braces := b } :=
  ⟨h.rest, h.prev, rfl, rfl, rfl, rfl, h.pan⟩

theorem bracketDesc_sim {a c : Lx} (h : Sim a c) : DSim (bracketDesc a) (bracketDesc c) := by
  unfold bracketDesc
  -- after this every state on the left is `a` with flags of `c`
  rw [h.char, h.html, h.dir, h.parens, h.braces]
  refine ite_rel (fun _ => ⟨h.flags _ _ _ _, rfl, rfl, rfl⟩) fun _ => ite_rel (fun _ => ⟨h.flags _ _ _ _, rfl, rfl, rfl⟩) fun _ =>
    ite_rel (fun _ => ⟨?_, rfl, rfl, rfl⟩) fun _ => ite_rel (fun _ => ⟨?_, rfl, rfl, rfl⟩) fun _ =>
    ite_rel (fun _ => strDesc_sim h) fun _ => opDesc_sim h
  · exact ite_rel (R := Sim) (fun _ => h.flags _ _ _ _) fun _ => h
  · exact ite_rel (R := Sim) (fun _ => h.flags _ _ _ _) fun _ => ite_rel (R := Sim) (fun _ => h.flags _ _ _ _) fun _ => h

theorem codeDesc_sim {a c : Lx} (h : Sim a c) : DSim (codeDesc a) (codeDesc c) := by
  unfold codeDesc
  rw [h.char]
  split
  · exact ⟨h, rfl, rfl, rfl⟩
  · exact bracketDesc_sim h

theorem directiveDesc_sim {a c : Lx} (h : Sim a c) : DSim (directiveDesc a) (directiveDesc c) := by
  unfold directiveDesc
  rw [h.char, h.rest]
  split
  · exact illegalDesc_sim h
  · simp only []
    split
    · exact illegalDesc_sim (h.tokenBegins.advance _)
    · exact ⟨h, rfl, rfl, rfl⟩

theorem directiveToken_sim {a c : Lx} (h : Sim a c) :
    key (directiveToken a).1 = key (directiveToken c).1 ∧ Sim (directiveToken a).2 (directiveToken c).2 := by
  have hd := directiveDesc_sim h
  obtain ⟨hk, hs⟩ := hd.emit
  unfold directiveToken
  simp only []
  rw [hd.ty]
  split
  · exact ⟨hk, hs⟩
  · refine ⟨hk, ?_⟩
    rw [hs.char]
    exact ⟨hs.rest, hs.prev, rfl, rfl, hs.parens, hs.braces, hs.pan⟩

theorem htmlToken_sim {a c : Lx} (h : Sim a c) :
    key (htmlToken a).1 = key (htmlToken c).1 ∧ Sim (htmlToken a).2 (htmlToken c).2 := by
  unfold htmlToken
  simp only []
  rw [h.prev, h.rest]
  obtain ⟨hk, hs⟩ := emit_sim h (htmlScan c.prev [] 0 false c.rest).2.1 .HTML (htmlScan c.prev [] 0 false c.rest).1.reverse
  refine ⟨hk, ?_⟩
  exact ⟨hs.rest, hs.prev, hs.html, hs.dir, hs.parens, hs.braces, by simp [hs.pan]⟩

theorem bracesToken_sim {a c : Lx} (h : Sim a c) (ty : TT) (lit : Bytes) :
    key (bracesToken a ty lit).1 = key (bracesToken c ty lit).1 ∧ Sim (bracesToken a ty lit).2 (bracesToken c ty lit).2 :=
  emit_sim (h.withHTML (ty != TT.LBRACES)) 2 ty lit

theorem skipComment_sim {a c : Lx} (h : Sim a c) : Sim (skipComment a) (skipComment c) := by
  rw [skipComment_eq, skipComment_eq, h.rest, (h.advance _).isEOF]
  exact ite_rel (R := Sim) (fun _ => h.advance _) fun _ => (h.withHTML true).advance _

theorem skipWs_sim {a c : Lx} (h : Sim a c) : Sim (skipWs a) (skipWs c) := by
  unfold skipWs
  rw [h.html, h.rest]
  split
  · exact h.advance _
  · exact h

def stepKey : LexStep → Option (TT × Bytes)
  | .tok t => some (key t)
  | .again => none

theorem isDirectiveToken_sim {a c : Lx} (h : Sim a c) : isDirectiveToken a = isDirectiveToken c := by
  unfold isDirectiveToken
  rw [h.char, h.isEOF, h.rest, h.prev]

theorem stepAt_sim {a c : Lx} (h : Sim a c) :
    stepKey (stepAt a).1 = stepKey (stepAt c).1 ∧ Sim (stepAt a).2 (stepAt c).2 := by
  obtain ⟨bk, bs⟩ := bracesToken_sim h .LBRACES [123, 123]
  obtain ⟨rk, rs⟩ := bracesToken_sim h .RBRACES [125, 125]
  obtain ⟨dk, ds⟩ := directiveToken_sim h
  obtain ⟨hk, hs⟩ := htmlToken_sim h
  obtain ⟨ck, cs⟩ := (codeDesc_sim h).emit
  unfold stepAt
  rw [h.isEOF, h.char, h.peek, h.html, h.braces, isDirectiveToken_sim h, bs.char, bs.peek]
  let R (r r' : LexStep × Lx) : Prop := stepKey r.1 = stepKey r'.1 ∧ Sim r.2 r'.2
  exact ite_rel (R := R) (fun _ => ⟨by simp [stepKey, key, newToken], h.tokenBegins⟩) fun _ =>
    ite_rel (R := R) (fun _ => ite_rel (R := R) (fun _ => ⟨rfl, skipComment_sim bs⟩) fun _ => ⟨congrArg some bk, bs⟩) fun _ =>
    ite_rel (R := R) (fun _ => ⟨congrArg some rk, rs⟩) fun _ => ite_rel (R := R) (fun _ => ⟨congrArg some ck, cs⟩) fun _ =>
    ite_rel (R := R) (fun _ => ⟨congrArg some dk, ds⟩) fun _ => ⟨congrArg some hk, hs⟩

theorem nextStep_sim {a c : Lx} (h : Sim a c) {st : LexStep} {a1 : Lx} (hn : nextStep a = (st, a1)) :
    ∃ st' c1, nextStep c = (st', c1) ∧ stepKey st' = stepKey st ∧ Sim a1 c1 := by
  obtain ⟨hk, hs⟩ := stepAt_sim (skipWs_sim h)
  rw [show stepAt (skipWs a) = (st, a1) from hn] at hk hs
  exact ⟨_, _, rfl, hk.symm, hs⟩

theorem stepKey_tok {r : LexStep} {k : TT × Bytes} (h : stepKey r = some k) : ∃ t, r = .tok t ∧ key t = k := by
  cases r with
  | tok t => exact ⟨t, rfl, by simpa [stepKey] using h⟩
  | again => simp [stepKey] at h

theorem stepKey_again {r : LexStep} (h : stepKey r = none) : r = .again := by
  cases r with
  | tok t => simp [stepKey] at h
  | again => rfl

/-- C01 `tokens_depend_on_the_remaining_input_only` -/
theorem lexAll_sim : ∀ (fuel : Nat) (a c : Lx), Sim a c → ∀ ts sf, lexAll fuel a = some (ts, sf) →
    ∃ ts' sf', lexAll fuel c = some (ts', sf') ∧ ts'.map key = ts.map key ∧ Sim sf sf' := by
  intro fuel a c hs ts sf h
  refine lexAll_induct (P := fun f a ts sf => ∀ c, Sim a c →
    ∃ ts' sf', lexAll f c = some (ts', sf') ∧ ts'.map key = ts.map key ∧ Sim sf sf') ?_ ?_ ?_ fuel a ts sf h c hs
  · intro f a t a1 hn he c hs
    obtain ⟨st', c1, hn', hk, hsim⟩ := nextStep_sim hs hn
    obtain ⟨t', rfl, hkk⟩ := stepKey_tok hk
    have he' : t'.ty = .EOF := (congrArg Prod.fst hkk).trans he
    exact ⟨[t'], _, lexAll_eof hn' he', by simp [hkk], hsim⟩
  · intro f a a1 ts sf hn ih c hs
    obtain ⟨st', c1, hn', hk, hsim⟩ := nextStep_sim hs hn
    cases stepKey_again hk
    obtain ⟨ts', sf', e1, e2⟩ := ih _ hsim
    exact ⟨ts', sf', by rw [lexAll_again hn']; exact e1, e2⟩
  · intro f a t a1 ts sf hn hne ih c hs
    obtain ⟨st', c1, hn', hk, hsim⟩ := nextStep_sim hs hn
    obtain ⟨t', rfl, hkk⟩ := stepKey_tok hk
    obtain ⟨ts', sf', e1, e2, e3⟩ := ih _ hsim
    exact ⟨t' :: ts', sf', by rw [lexAll_tok hn' (key_ne_eof hkk hne), e1]; rfl, by simp [e2, hkk], e3⟩

end Tw
