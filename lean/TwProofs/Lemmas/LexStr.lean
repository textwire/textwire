/-
  TwProofs.Lemmas.LexStr — the bytes and the literal of a string token (C19).  `strSpan` counts a closing
  quote even when the input ends before one, so "terminated" is `(strSpan rest).1 ≤ rest.length`: then the
  token covers the quote, the raw text and the quote; otherwise it covers all that is left, and the raw text
  is all of it behind the opening quote.  Either way the literal is the raw text with the escaped quotes
  unescaped.  `PlainStr` is the case the concrete shapes use: neither the quote character nor a backslash
  inside, and the literal is the text between the quotes.
-/
import TwProofs.Lemmas.LexProgress
namespace Tw
open Lx

theorem strScan_stops (q : Byte) : ∀ l : Bytes, strScan q l < l.length → (l.drop (strScan q l)).headD 0 = q
  | [], h => by simp at h
  | [c], h => by simp [strScan] at h
  | c :: d :: t, h => by
    rw [strScan_cons2] at h ⊢
    by_cases hq : (d == q && c != 92) = true
    · simp only [hq, if_true]
      have : d = q := by simp only [Bool.and_eq_true, beq_iff_eq] at hq; exact hq.1
      simp [this]
    · simp only [hq, Bool.false_eq_true, if_false] at h ⊢
      have ih := strScan_stops q (d :: t) (by simp only [List.length_cons] at h ⊢; omega)
      rw [show 1 + strScan q (d :: t) = strScan q (d :: t) + 1 by omega, List.drop_succ_cons]
      exact ih

theorem strSpan_shape (q : Byte) (after : Bytes) (h : (strSpan (q :: after)).1 ≤ (q :: after).length) :
    (q :: after).take (strSpan (q :: after)).1 = q :: ((strSpan (q :: after)).2 ++ [q]) := by
  by_cases he : after.head? = some q
  · obtain ⟨t, rfl⟩ := List.head?_eq_some_iff.mp he
    rw [strSpan_empty he]
    rfl
  · rw [strSpan_scan he] at h ⊢
    simp only [List.length_cons] at h
    have hlt : strScan q after < after.length := by omega
    have hs := strScan_stops q after hlt
    rw [List.drop_eq_getElem_cons hlt, List.headD_cons] at hs
    rw [show strScan q after + 2 = (strScan q after + 1) + 1 from rfl, List.take_succ_cons, ← List.take_append_getElem hlt, hs]

theorem strScan_le (q : Byte) : ∀ l : Bytes, strScan q l ≤ l.length
  | [] => by simp [strScan]
  | [c] => by simp [strScan]
  | c :: d :: t => by
    rw [strScan_cons2]
    have := strScan_le q (d :: t)
    split <;> simp only [List.length_cons] at this ⊢ <;> omega

theorem strSpan_unterminated (q : Byte) (after : Bytes) (h : (q :: after).length < (strSpan (q :: after)).1) :
    (q :: after).take (strSpan (q :: after)).1 = q :: after ∧ (strSpan (q :: after)).2 = after := by
  by_cases he : after.head? = some q
  · obtain ⟨t, rfl⟩ := List.head?_eq_some_iff.mp he
    rw [strSpan_empty he] at h
    simp only [List.length_cons] at h
    omega
  · rw [strSpan_scan he] at h ⊢
    simp only [List.length_cons] at h
    have hle := strScan_le q after
    have : strScan q after = after.length := by omega
    rw [this]
    exact ⟨List.take_of_length_le (by simp), List.take_length⟩

theorem codeStepDesc_string (s : Lx) (h : s.char = 34 ∨ s.char = 39) : codeStepDesc s = strDesc s := by
  rw [codeStepDesc_eq_codeDesc (by rcases h with h | h <;> rw [h] <;> simp),
    codeDesc_eq_bracketDesc (by rcases h with h | h <;> rw [h] <;> decide)]
  unfold bracketDesc
  rcases h with h | h <;> simp [h]

theorem stepAt_string (s : Lx) (hh : s.isHTML = false) (q : Byte) (after : Bytes) (hq : q = 34 ∨ q = 39) (hr : s.rest = q :: after) :
    stepAt s = (.tok (strDesc s).emit.1, (strDesc s).emit.2) := by
  have hc : s.char = q := Lx.char_of_rest hr
  have hb : ¬ (s.char = 123 ∧ s.peek = 123) := by
    rw [hc]; rcases hq with h | h <;> subst h <;> simp
  rw [stepAt_code s hh (by rw [hr]; simp) hb, codeStepDesc_string s (by rw [hc]; exact hq)]

def PlainStr (q : Byte) (c : Bytes) : Prop := ∀ y ∈ c, y ≠ q ∧ y ≠ 92

instance (q : Byte) (c : Bytes) : Decidable (PlainStr q c) := by unfold PlainStr; exact inferInstance

theorem strScan_plain (q : Byte) : ∀ (c : Bytes) (x : Bytes), c ≠ [] → PlainStr q c → strScan q (c ++ q :: x) = c.length
  | [], _, h, _ => absurd rfl h
  | [a], x, _, hp => by
    have ha : a ≠ 92 := (hp a (by simp)).2
    simp only [List.cons_append, List.nil_append, List.length_cons, List.length_nil]
    rw [strScan_cons2]
    simp [ha]
  | a :: d :: t, x, _, hp => by
    have hd : d ≠ q := (hp d (by simp)).1
    simp only [List.cons_append, List.length_cons]
    rw [strScan_cons2]
    have : (d == q && a != 92) = false := by simp [hd]
    rw [this]
    simp only [Bool.false_eq_true, if_false]
    have := strScan_plain q (d :: t) x (by simp) (fun y hy => hp y (List.mem_cons_of_mem _ hy))
    simp only [List.cons_append, List.length_cons] at this
    rw [this]; omega

theorem strSpan_plain (q : Byte) (c x : Bytes) (hp : PlainStr q c) : strSpan (q :: (c ++ q :: x)) = (c.length + 2, c) := by
  cases c with
  | nil => exact strSpan_empty rfl
  | cons a t =>
    have ha : a ≠ q := (hp a (by simp)).1
    rw [strSpan_scan (by simpa using ha), strScan_plain q (a :: t) x (by simp) hp, List.take_left' rfl]

theorem isPrefixOf_mem (o l : Bytes) (h : isPrefixOf o l = true) (z : Byte) (hz : z ∈ o) : z ∈ l :=
  eq_append_of_isPrefixOf o l h ▸ List.mem_append_left _ hz

theorem replaceGo_none (old new : Bytes) (q : Byte) (hq : old.getLast? = some q) :
    ∀ c : Bytes, (∀ y ∈ c, y ≠ q) → replaceGo old new 0 c = c
  | [], _ => rfl
  | a :: t, h => by
    rw [replaceGo]
    -- a prefix that ends in `q` would put `q` into the text
    have hnp : isPrefixOf old (a :: t) = false :=
      Bool.eq_false_iff.mpr fun hpre => h q (isPrefixOf_mem old (a :: t) hpre q (List.mem_of_getLast? hq)) rfl
    rw [hnp]
    simp only [Bool.false_eq_true, if_false]
    rw [replaceGo_none old new q hq t (fun y hy => h y (List.mem_cons_of_mem _ hy))]

theorem strDesc_plain (s : Lx) (q : Byte) (c x : Bytes) (hr : s.rest = q :: (c ++ q :: x)) (hp : PlainStr q c) :
    (strDesc s).n = c.length + 2 ∧ (strDesc s).ty = .STR ∧ (strDesc s).lit = c ∧ (strDesc s).st = s := by
  have hc : s.char = q := Lx.char_of_rest hr
  unfold strDesc
  simp only []
  rw [hr, strSpan_plain q c x hp, hc]
  refine ⟨by simp, by simp, ?_, by simp⟩
  unfold replaceAll
  simp only [List.isEmpty_cons, Bool.false_eq_true, if_false]
  exact replaceGo_none [92, q] [q] q (by simp) c (fun y hy => (hp y hy).1)

end Tw
