/-
  TwProofs.C18 — templates are addressable by relative name; a bad file fails loading cleanly.

  Model: `TwModel.Api` over an abstract file tree (`Fs`: cleaned relative paths ↦ file / directory
  / unreadable link; the real tree is translated by the harness).  Theorems: what `NewTemplate`
  registers (only files that end in the extension, under `nameFromPath`, layouts excluded), that
  the first faulty file in name order makes the whole call fail with that file's error, that an
  unknown name is "not found", that a file evaluates like its content, that loading has no
  panic outcome.
-/
import TwModel
import TwProofs.Lemmas.LoadWhole
import TwProofs.Lemmas.LexNoPanic

namespace Tw.C18
open Tw

/-- the (name, path) pairs `NewTemplate` works through, in name order -/
def candidates (w : World) (paths : List Bytes) : List (Bytes × Bytes) :=
  sortByKey ((paths.filter fun p => hasSuffix p w.cfg.ext).foldl (fun (m : List (Bytes × Bytes)) p => mapSet m (nameFromPath w.cfg p) p) [])

/-- every candidate is a file found under the template directory whose name ends in the
    extension, under the name `nameFromPath` gives it (path relative to the directory, extension
    removed) — at any depth -/
theorem candidates_are_template_files (w : World) (paths : List Bytes) (x : Bytes × Bytes) (h : x ∈ candidates w paths) :
    x.2 ∈ paths ∧ hasSuffix x.2 w.cfg.ext = true ∧ x.1 = nameFromPath w.cfg x.2 := by
  unfold candidates at h
  have h' := (sortByKey_perm _).subset h
  -- the fold is `mapSetAll` of the pairs (name, path)
  rw [← List.foldl_map (f := fun p => (nameFromPath w.cfg p, p)) (g := fun m kv => mapSet m kv.1 kv.2)] at h'
  rcases (mapSetAll_spec _ []).2.2 x h' with h1 | h1
  · cases h1
  · obtain ⟨p, hp, rfl⟩ := List.mem_map.mp h1
    have := List.mem_filter.mp hp
    exact ⟨this.1, this.2, rfl⟩

/-- what `NewTemplate` returns, as a fold over the candidates -/
theorem newTemplate_eq (w : World) (o : Option Opt) (paths : List Bytes)
    (hw : (configure w o).fs.walk (configure w o).cfg.dir = some paths) :
    (newTemplate w o).2 =
      (candidates (configure w o) paths).foldlM (fun (acc : Template) (np : Bytes × Bytes) =>
        match loadPage (configure w o).fs (configure w o).cfg np.2 with
        | .error f => .error f
        | .ok none => .ok acc
        | .ok (some pg) => .ok (acc ++ [(np.1, pg)])) [] := by
  unfold newTemplate
  simp only [hw, candidates]
  rfl

theorem missing_directory_is_error (w : World) (o : Option Opt)
    (hw : (configure w o).fs.walk (configure w o).cfg.dir = none) : (newTemplate w o).2 = .error (osFail 0 []) := by
  unfold newTemplate
  simp only [hw]

/-- **every registered name is a template file's relative name** -/
theorem registered_names (w : World) (o : Option Opt) (paths : List Bytes) (t : Template)
    (hw : (configure w o).fs.walk (configure w o).cfg.dir = some paths) (h : (newTemplate w o).2 = .ok t) :
    ∀ x ∈ t, ∃ p ∈ paths, hasSuffix p (configure w o).cfg.ext = true ∧ x.1 = nameFromPath (configure w o).cfg p ∧
      loadPage (configure w o).fs (configure w o).cfg p = .ok (some x.2) := by
  rw [newTemplate_eq w o paths hw] at h
  intro x hx
  obtain ⟨np, hnp, hn, hl⟩ := pages_loaded h x hx
  obtain ⟨h1, h2, h3⟩ := candidates_are_template_files _ paths np hnp
  exact ⟨np.2, h1, h2, hn.trans h3, hl⟩

/-- **a single faulty file** (a page that does not parse, a layout or component it needs that is
    absent, unreadable or wrong): when the files before it in name order load, `NewTemplate`
    returns no template and exactly the error of that file -/
theorem faulty_file_fails_loading (w : World) (o : Option Opt) (paths : List Bytes)
    (pre post : List (Bytes × Bytes)) (np : Bytes × Bytes) (acc : Template) (f : Fail)
    (hw : (configure w o).fs.walk (configure w o).cfg.dir = some paths)
    (hsplit : candidates (configure w o) paths = pre ++ np :: post)
    (hpre : pre.foldlM (fun (acc : Template) (np : Bytes × Bytes) =>
        match loadPage (configure w o).fs (configure w o).cfg np.2 with
        | .error f => (Except.error f : Except Fail Template)
        | .ok none => Except.ok acc
        | .ok (some pg) => Except.ok (acc ++ [(np.1, pg)])) [] = Except.ok acc)
    (hbad : loadPage (configure w o).fs (configure w o).cfg np.2 = .error f) :
    (newTemplate w o).2 = .error f := by
  rw [newTemplate_eq w o paths hw, hsplit]
  exact foldlM_first_error _ pre np post [] acc f hpre (by simp only [hbad])

/-- a page that does not parse is reported with its own path and the line of the error -/
theorem syntax_error_names_the_file (fs : Fs) (c : Cfg) (p src : Bytes) (e : PErr)
    (hr : readFile fs p = .ok src) (hp : parseSource src 0 = .err e) :
    loadPage fs c p = .error (failOf e.code e.line e.args p) := by
  unfold loadPage parseFile
  rw [hr]
  simp only [hp]
  split <;> rfl

/-- loading has no panic outcome: the lexer-panic result of a parse is unreachable -/
theorem parse_never_lexer_panics (src : Bytes) (base : Nat) : parseSource src base ≠ .lexPanic :=
  parseSource_ne_lexPanic src base (tokenize_no_panic src)

/-- an unknown name (also a layout's name: layouts are not registered) is "template not found",
    with the path the name stands for -/
theorem unknown_name_is_not_found (w : World) (t : Template) (name : Bytes) (data : List (Bytes × GoVal)) (env : Env)
    (hd : envFromMap data = .ok env) (hn : mapGet t name = none) :
    tplString w t name data = .fail (failOf "ErrTemplateNotFound" 0 [] (templatePath w.cfg name)) := by
  unfold tplString envOrFail
  simp only [hd, hn]

/-- evaluating a file by path equals evaluating its content as a string -/
theorem evaluateFile_is_evaluateString (w : World) (path src : Bytes) (data : List (Bytes × GoVal))
    (hr : readFile w.fs path = .ok src) :
    (evaluateFile w path data).2 = (evaluateString w src data).2 := by
  unfold evaluateFile evaluateString
  simp only [hr]

/-- a file that cannot be read is an error that carries the path -/
theorem evaluateFile_missing (w : World) (path : Bytes) (data : List (Bytes × GoVal)) (hr : readFile w.fs path = .notExist) :
    (evaluateFile w path data).2 = .fail (osFail 0 path) := by
  unfold evaluateFile
  simp only [hr]

/-- the configured directory is stored cleaned, without leading / trailing slashes -/
theorem directory_is_normalised (w : World) (o : Opt) (h : o.dir.isEmpty = false) :
    (configure w (some o)).cfg.dir = cleanPath (trimRightByte 47 (trimLeftByte 47 o.dir)) := by
  unfold configure
  simp only [h, Bool.false_eq_true, if_false]
  split <;> split <;> rfl

example : cleanPath (b "./a//b/../tpl/") = b "a/tpl" ∧ cleanPath (b "tpl/./x/..") = b "tpl" ∧ cleanPath (b "../t") = b "../t" := by
  decide +kernel

/-- nested files at any depth, a non-default directory spelling and extension, a layout that is
    not registered, a file with another ending that is ignored -/
def demoFs : Fs :=
  [ (b "views", .dir), (b "views/a", .dir), (b "views/a/b", .dir),
    (b "views/a/b/deep.html", .file (b "deep {{ 1 + 1 }}")), (b "views/top.html", .file (b "top")),
    (b "views/skip.htm", .file (b "{{ ")), (b "views/lay.html", .file (b "<@reserve(\"x\")>")) ]

example :
    (match newTemplate { fs := demoFs } (some { dir := b "./views//", ext := b ".html" }) with
      | (w, .ok t) =>
        t.map (·.1) == [b "a/b/deep", b "top"] &&
        (match tplString w t (b "a/b/deep") [] with | .ok out => out == b "deep 2" | _ => false) &&
        (match tplString w t (b "lay") [] with | .fail f => f.msg == formatMsg "ErrTemplateNotFound" [] | _ => false)
      | _ => false) = true := by decide +kernel

end Tw.C18
