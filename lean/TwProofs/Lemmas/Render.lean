/-
  TwProofs.Lemmas.Render — statements that print a text, set no flag and hand on an environment
  (`Yields`; `Renders`: the same environment), a list of them (`YieldsAll`) and what `evalProg`
  and `evalBlock` do on such a list; the list built from a specification function
  (`YieldsAll.of_specs`); what `evaluateStringPure` returns once the source is known to parse.
-/
import TwProofs.Lemmas.EvalStep
namespace Tw

def Yields (c : Ctx) (env : Env) (s : Stmt) (out : Bytes) (env' : Env) (n : Nat) : Prop :=
  ∀ f, n ≤ f → evalStmt f c env s = .ok ({ text := out }, env')

abbrev Renders (c : Ctx) (env : Env) (s : Stmt) (out : Bytes) (n : Nat) : Prop := Yields c env s out env n

theorem Renders.html (c : Ctx) (env : Env) (t : Token) : Renders c env (.html t) t.lit 1 := by
  intro f hf
  obtain ⟨g, rfl⟩ : ∃ g, f = g + 1 := ⟨f - 1, by omega⟩
  rfl

theorem Renders.ident (c : Ctx) {env : Env} (t t2 : Token) {n : Bytes} {v : Val} (h : env.get n = some v) :
    Renders c env (.expr t (.ident t2 n)) v.toStr 2 := by
  intro f hf
  obtain ⟨g, rfl⟩ : ∃ g, f = g + 1 + 1 := ⟨f - 2, by omega⟩
  rw [evalStmt_succ]
  simp only [stmtBody, calleesAt_expr, evalExpr_ident, h, Res.bind_ok]

theorem Renders.str (c : Ctx) (env : Env) (t t2 : Token) (v : Bytes) :
    Renders c env (.expr t (.str t2 v)) (literalValue v) 2 := by
  intro f hf
  obtain ⟨g, rfl⟩ : ∃ g, f = g + 1 + 1 := ⟨f - 2, by omega⟩
  rw [evalStmt_succ]
  simp only [stmtBody, calleesAt_expr, evalExpr, Res.bind_ok, Val.toStr]

/-- The fuel: one unit for the step through the list, then what the statement and the rest need. -/
inductive YieldsAll (c : Ctx) : Env → List Stmt → Bytes → Env → Nat → Prop
  | nil (env : Env) (k : Nat) : YieldsAll c env [] [] env (k + 1)
  | cons {env env1 env2 : Env} {s : Stmt} {r : List Stmt} {out outs : Bytes} {n m k : Nat} : Yields c env s out env1 n →
      YieldsAll c env1 r outs env2 m → n ≤ k → m ≤ k → YieldsAll c env (s :: r) (out ++ outs) env2 (k + 1)

theorem YieldsAll.mono {c : Ctx} {env env' : Env} {ss : List Stmt} {out : Bytes} {n m : Nat} (h : YieldsAll c env ss out env' n)
    (hm : n ≤ m) : YieldsAll c env ss out env' m := by
  obtain ⟨j, rfl⟩ : ∃ j, m = j + 1 := ⟨m - 1, by cases h <;> omega⟩
  cases h with
  | nil env k => exact .nil env j
  | cons h1 h2 a b => exact .cons h1 h2 (by omega) (by omega)

theorem YieldsAll.cons' {c : Ctx} {env env1 env2 : Env} {s : Stmt} {r : List Stmt} {out outs : Bytes} {n m : Nat}
    (h1 : Yields c env s out env1 n) (h2 : YieldsAll c env1 r outs env2 m) : YieldsAll c env (s :: r) (out ++ outs) env2 (1 + max n m) :=
  (YieldsAll.cons h1 h2 (Nat.le_max_left _ _) (Nat.le_max_right _ _)).mono (by omega)

theorem YieldsAll.evalProg {c : Ctx} {env env' : Env} {ss : List Stmt} {out : Bytes} {n : Nat} (h : YieldsAll c env ss out env' n) :
    ∀ (fuel : Nat) (acc : Bytes), n ≤ fuel → evalProg fuel c env ss acc = .ok (acc ++ out, env') := by
  induction h with
  | nil env k =>
    intro fuel acc hf
    obtain ⟨f, rfl⟩ : ∃ f, fuel = f + 1 := ⟨fuel - 1, by omega⟩
    rw [evalProg_nil, List.append_nil]
  | cons h1 _ a b ih =>
    intro fuel acc hf
    obtain ⟨f, rfl⟩ : ∃ f, fuel = f + 1 := ⟨fuel - 1, by omega⟩
    rw [evalProg_cons, h1 f (by omega), Res.bind_ok, ih f _ (by omega), List.append_assoc]

theorem YieldsAll.evalBlock {c : Ctx} {env env' : Env} {ss : List Stmt} {out : Bytes} {n : Nat} (h : YieldsAll c env ss out env' n) :
    ∀ (fuel : Nat), n ≤ fuel → evalBlock fuel c env ss = .ok ({ text := out }, env') := by
  induction h with
  | nil env k =>
    intro fuel hf
    obtain ⟨f, rfl⟩ : ∃ f, fuel = f + 1 := ⟨fuel - 1, by omega⟩
    rw [evalBlock_nil]
  | cons h1 _ a b ih =>
    intro fuel hf
    obtain ⟨f, rfl⟩ : ∃ f, fuel = f + 1 := ⟨fuel - 1, by omega⟩
    rw [evalBlock_cons, h1 f (by omega), Res.bind_ok]
    simp only [Bool.or_self, Bool.false_eq_true, if_false]
    rw [ih f (by omega), Res.bind_ok]

theorem Yields.if_ident {c : Ctx} {env env' : Env} (t t2 : Token) {n : Bytes} {v : Val} (hv : env.get n = some v) (cons : List Stmt)
    (alt : Option (List Stmt)) {out : Bytes} {m : Nat}
    (h : YieldsAll c env.push (if isTruthy v then cons else alt.getD []) out env' m) :
    Yields c env (.ifS t (.ident t2 n) cons [] alt) out env (m + 2) := fun f hf => by
  obtain ⟨g, rfl⟩ : ∃ g, f = g + 2 := ⟨f - 2, by omega⟩
  rw [evalStmt_ifS, evalExpr_ident]
  simp only [hv, Res.bind_ok]
  by_cases ht : isTruthy v = true
  · rw [if_pos ht] at h ⊢
    rw [h.evalBlock (g + 1) (by omega)]; rfl
  · rw [if_neg ht] at h ⊢
    rw [evalElseIfs_nil]
    cases alt with
    | none => cases h; rfl
    | some ab =>
      show (evalBlock g c env.push ab).bind _ = _
      rw [show evalBlock g c env.push ab = _ from h.evalBlock g (by omega)]; rfl

/-- the render of a list of items, once for the item languages (TextIf, TextEach, C06, C07).  Their parse is stated as
    `stmts.map specOf = specs.map some`, where `specOf` (an argument here: TextIf's `specOf`, `specOfX`, `lspecOf`, `pspecOf`)
    reads off a statement what the language needs to know of it.  `render`, `bound` and `need` are the language's own
    functions of the list of specifications; all that is asked of them is that they go through the list item by item.
    `need [sp] - 1`: the step through the list takes one unit (`YieldsAll.cons'`). -/
theorem YieldsAll.of_specs {σ : Type} {c : Ctx} {env : Env} {specOf : Stmt → Option σ} {render : List σ → Bytes}
    {bound : List σ → Prop} {need : List σ → Nat}
    (hr0 : render [] = []) (hr : ∀ sp r, render (sp :: r) = render [sp] ++ render r)
    (hb : ∀ sp r, bound (sp :: r) → bound [sp] ∧ bound r)
    (hn0 : 1 ≤ need []) (hn : ∀ sp r, need [sp] ≤ need (sp :: r) ∧ need r + 1 ≤ need (sp :: r))
    (h1 : ∀ st sp, specOf st = some sp → bound [sp] → Renders c env st (render [sp]) (need [sp] - 1)) :
    ∀ (specs : List σ) (ss : List Stmt), ss.map specOf = specs.map some → bound specs →
      YieldsAll c env ss (render specs) env (need specs)
  | [], ss, hs, _ => by
    cases List.map_eq_nil_iff.mp hs
    rw [hr0]
    exact (YieldsAll.nil env 0).mono hn0
  | sp :: r, [], hs, _ => by simp at hs
  | sp :: r, st :: rest, hs, hbd => by
    simp only [List.map_cons, List.cons.injEq] at hs
    obtain ⟨hb1, hbr⟩ := hb sp r hbd
    rw [hr]
    exact (YieldsAll.cons' (h1 st sp hs.1 hb1) (of_specs hr0 hr hb hn0 hn h1 r rest hs.2 hbr)).mono (by have := hn sp r; omega)

theorem resToOut_eq_fail {r : Res (Bytes × Env)} {path : Bytes} {f : Fail} (h : resToOut r path = .fail f) :
    ∃ code line args, r = .err code line args ∧ f = failOf code line args path := by
  unfold resToOut at h
  split at h <;> cases h
  exact ⟨_, _, _, rfl, rfl⟩

theorem resToOut_eq_panic {r : Res (Bytes × Env)} {path : Bytes} {why : String} (h : resToOut r path = .panic why) :
    r = .panic why := by
  unfold resToOut at h
  split at h <;> cases h
  rfl

theorem evaluate_parsed (custom : List ((VType × Bytes) × Nat)) {src : Bytes} {data : List (Bytes × GoVal)} {env : Env} {prog : Program}
    (hp : parseSource src = .ok prog) (henv : envFromMap data = .ok env) :
    evaluateStringPure custom src data = resToOut (evalProg evalFuel { custom := custom } env prog.stmts []) [] := by
  unfold evaluateStringPure envOrFail
  rw [hp]
  simp only [henv]

theorem source_renders {custom : List ((VType × Bytes) × Nat)} {src : Bytes} {data : List (Bytes × GoVal)} {prog : Program}
    {env env' : Env} {out : Bytes} (hp : parseSource src = .ok prog) (he : envFromMap data = .ok env)
    (hev : evalProg evalFuel { custom := custom } env prog.stmts [] = .ok (out, env')) :
    evaluateStringPure custom src data = .ok out := by
  rw [evaluate_parsed custom hp he, hev]
  rfl

end Tw
