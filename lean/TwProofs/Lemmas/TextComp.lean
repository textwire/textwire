/-
  TwProofs.Lemmas.TextComp — a page of text and `@component("name", { key: "text" })` uses, from
  the bytes of the page file to the parsed program and the recorded uses (`parse_comp_page`, C07): the statements are the
  items (`pspec`), the uses are recorded in order with the allocation numbers from 0 on (`usesOf`) and without slots.
  A use is one piece of code (`PItem.g`, `compCode_ok` of Lemmas/LexDirArgs); the statement loop is `loop_pitems`.
-/
import TwProofs.Lemmas.LexDirArgs
import TwProofs.Lemmas.ParseDir
namespace Tw
open Lx

/-- one use: `@component(q n q, g3 { g4 k : g6 q2 v q2 g7 })` -/
structure Use where
  q : Byte
  n : Bytes
  g3 : Bytes
  g4 : Bytes
  k : Bytes
  g6 : Bytes
  q2 : Byte
  v : Bytes
  g7 : Bytes

def Use.code (u : Use) : Code := compCode u.q u.n u.g3 u.g4 u.k u.g6 u.q2 u.v u.g7

def Use.OK (u : Use) : Prop :=
  allWs u.g3 ∧ allWs u.g4 ∧ allWs u.g6 ∧ allWs u.g7 ∧ (u.q = 34 ∨ u.q = 39) ∧ PlainStr u.q u.n ∧ (u.q2 = 34 ∨ u.q2 = 39) ∧
    PlainStr u.q2 u.v ∧ isName u.k ∧ u.n ≠ []

instance Use.OK.dec (u : Use) : Decidable u.OK := by unfold Use.OK; exact inferInstance

theorem Use.OK.name_ne {u : Use} (h : u.OK) : u.n ≠ [] := h.2.2.2.2.2.2.2.2.2

inductive PItem where
  | text (segs : List Seg)
  | use (u : Use)

def PItem.g : PItem → GItem
  | .text segs => .text segs
  | .use u => .code u.code

def compPageSrc (items : List PItem) : Bytes := gsrc (items.map PItem.g)

def afterRunP (segs : List Seg) : List PItem → Prop
  | [] => True
  | .text _ :: _ => False
  | .use _ :: _ => lastOr (segsSrc segs) 0 ≠ 92

def PItemsOK : List PItem → Prop
  | [] => True
  | .text segs :: r => startsRun segs ∧ SegsOK segs (compPageSrc r) ∧ afterRunP segs r ∧ PItemsOK r
  | .use u :: r => u.OK ∧ PItemsOK r

instance (segs : List Seg) : (r : List PItem) → Decidable (afterRunP segs r)
  | [] => isTrue trivial
  | .text _ :: _ => isFalse (by simp [afterRunP])
  | .use _ :: _ => by unfold afterRunP; exact inferInstance

instance : (items : List PItem) → Decidable (PItemsOK items)
  | [] => isTrue trivial
  | .text segs :: r => by have := instDecidablePItemsOK r; unfold PItemsOK; exact inferInstance
  | .use u :: r => by have := instDecidablePItemsOK r; unfold PItemsOK; exact inferInstance

theorem PItemsOK.name_ne : ∀ {items : List PItem}, PItemsOK items → ∀ u, PItem.use u ∈ items → u.n ≠ []
  | [], _, _, hu => nomatch hu
  | .text _ :: r, h, u, hu => name_ne (items := r) h.2.2.2 u (by simpa using hu)
  | .use _ :: r, h, u, hu => by
    rcases List.mem_cons.mp hu with e | hu
    · cases e
      exact h.1.name_ne
    · exact name_ne h.2 u hu

theorem PItemsOK.gitems : ∀ items : List PItem, PItemsOK items → GItemsOK (items.map PItem.g) :=
  gitemsOK_map PItem.g PItemsOK (fun i r h => by
    cases i with
    | text segs => exact ⟨h.2.2.2, And.intro h.1 ⟨h.2.1, by cases r with | nil => trivial | cons j _ => cases j <;> exact h.2.2.1⟩⟩
    | use u =>
      obtain ⟨a1, a2, a3, a4, a5, a6, a7, a8, a9, _⟩ := h.1
      exact ⟨h.2, compCode_ok u.q u.n u.g3 u.g4 u.k u.g6 u.q2 u.v u.g7 a1 a2 a3 a4 a5 a6 a7 a8 a9⟩)

def pkeys : List PItem → List (TT × Bytes)
  | [] => []
  | .text segs :: r => (.HTML, segsLit segs) :: pkeys r
  | .use u :: r => compKeys u.n u.k u.v ++ pkeys r

theorem gkeys_pitems : ∀ items : List PItem, gkeys (items.map PItem.g) = pkeys items :=
  gkeys_map PItem.g pkeys rfl (fun i r => by cases i <;> simp [pkeys, PItem.g, Use.code, compCode, gkeys])

theorem pkeys_clean (items : List PItem) : ∀ x ∈ pkeys items, x.1 ≠ .ILLEGAL ∧ x.1 ≠ .SLOT := by
  rw [← gkeys_pitems]
  refine gkeys_map_forall _ (fun t => t ≠ .ILLEGAL ∧ t ≠ .SLOT) ⟨by decide, by decide⟩ items (fun i _ c hc => ?_)
  cases i with
  | text _ => cases hc
  | use u => cases hc; simp [Use.code, compCode, compKeys]

theorem noSlot_of_keys {rest : List Token} {e : Token} {ks : List (TT × Bytes)} (hk : rest.map key = ks)
    (hc : ∀ x ∈ ks, x.1 ≠ .ILLEGAL ∧ x.1 ≠ .SLOT) (he : e.ty = .EOF) : NoSlot (rest ++ [e]) := by
  intro x hx
  rcases List.mem_append.mp hx with h | h
  · exact (hc _ (hk ▸ List.mem_map_of_mem h)).2
  · rw [List.mem_singleton.mp h, he]; decide

/-- The parse is stated as `stmts.map pspecOf = (pspec base items).map some`
    (`parse_comp_page`), the form `YieldsAll.of_specs` (Lemmas/Render) consumes: C07 `evalProg_pspec`. -/
inductive PSpec where
  | text (t : Bytes)
  | use (name k v : Bytes) (cid : Nat)

def pspecOf : Stmt → Option PSpec
  | .html t => some (.text t.lit)
  | .component _ name (some [(k, .str _ v)]) cid => some (.use name k v cid)
  | _ => none

def pspec (base : Nat) : List PItem → List PSpec
  | [] => []
  | .text segs :: r => .text (segsLit segs) :: pspec base r
  | .use u :: r => .use (compName u.n) u.k u.v base :: pspec (base + 1) r

def usesOf (base : Nat) : List PItem → List (Bytes × Nat)
  | [] => []
  | .text _ :: r => usesOf base r
  | .use u :: r => (compName u.n, base) :: usesOf (base + 1) r

/-- Fuel: one turn per item (the ")" a use ends with is the cursor the loop steps over) and one for the end;
    `parse_component_stmt` needs 5 -/
theorem loop_pitems : ∀ (items : List PItem) (toks : List Token) (e : Token) (p : PS) (acc : List Stmt) (f : Nat),
    toks.map key = pkeys items → e.ty = .EOF → p.toks = toks ++ [e] → (∀ u, PItem.use u ∈ items → u.n ≠ []) →
    items.length + 6 ≤ f →
    ∃ stmts cus, parseProgramLoop f acc p = (some (acc ++ stmts),
        { p with toks := [e], components := p.components ++ cus, nextId := p.nextId + cus.length }) ∧
      cus.map (fun cu => (cu.name, cu.cid)) = usesOf p.nextId items ∧ (∀ cu ∈ cus, cu.slots = []) ∧
      stmts.map pspecOf = (pspec p.nextId items).map some
  | [], toks, e, p, acc, f, hk, he, hp, _, hf => by
    cases List.map_eq_nil_iff.mp hk
    refine ⟨[], [], (loop_nil hp he (by omega) acc).trans ?_, rfl, fun _ h => (nomatch h), rfl⟩
    rw [List.append_nil p.components]
    rfl
  | .text segs :: r, toks, e, p, acc, f, hk, he, hp, hne, hf => by
    rw [List.length_cons] at hf
    obtain ⟨t, rest, rfl, ht, hlit, hkr⟩ := map_key_cons hk
    have ht : t.ty = .HTML := ht
    obtain ⟨g, rfl⟩ : ∃ g, f = g + 1 := ⟨f - 1, by omega⟩
    obtain ⟨stmts, cus, h1, h2, h3, h4⟩ := loop_pitems r rest e { p with toks := rest ++ [e] }
      (acc ++ [.html t]) g hkr he rfl (fun u hu => hne u (List.mem_cons_of_mem _ hu)) (by omega)
    refine ⟨.html t :: stmts, cus, loop_cons (.html ht) hp (by simp [ht]) rfl (by simp [ht]) (by simp)
      (NoIll.of_keys_eof hkr (fun x hx => (pkeys_clean r x hx).1) he) (by omega) h1, h2, h3, ?_⟩
    simp only [List.map_cons, pspec, pspecOf, hlit]
    exact congrArg _ h4
  | .use u :: r, toks, e, p, acc, f, hk, he, hp, hne, hf => by
    rw [List.length_cons] at hf
    obtain ⟨t1, _, rfl, ty1, _, hk⟩ := map_key_cons hk
    obtain ⟨t2, _, rfl, ty2, _, hk⟩ := map_key_cons hk
    obtain ⟨t3, _, rfl, ty3, lit3, hk⟩ := map_key_cons hk
    obtain ⟨t4, _, rfl, ty4, _, hk⟩ := map_key_cons hk
    obtain ⟨t5, _, rfl, ty5, _, hk⟩ := map_key_cons hk
    obtain ⟨t6, _, rfl, ty6, lit6, hk⟩ := map_key_cons hk
    obtain ⟨t7, _, rfl, ty7, _, hk⟩ := map_key_cons hk
    obtain ⟨t8, _, rfl, ty8, lit8, hk⟩ := map_key_cons hk
    obtain ⟨t9, _, rfl, ty9, _, hk⟩ := map_key_cons hk
    obtain ⟨t10, rest, rfl, ty10, _, hkr⟩ := map_key_cons hk
    have lit3 : t3.lit = u.n := lit3
    have lit6 : t6.lit = u.k := lit6
    have lit8 : t8.lit = u.v := lit8
    have hcl : NoIll (rest ++ [e]) := NoIll.of_keys_eof hkr (fun x hx => (pkeys_clean r x hx).1) he
    obtain ⟨g, rfl⟩ : ∃ g, f = g + 6 := ⟨f - 6, by omega⟩
    have hst := parse_component_stmt g p t1 t2 t3 t4 t5 t6 t7 t8 t9 t10 (rest ++ [e]) hp ty1 ty2 ty3 ty4 ty5 ty6 ty7 ty8 ty9 ty10 hcl
      (by rw [lit3]; exact hne u (by simp)) (by simp) (noSlot_of_keys hkr (pkeys_clean r) he)
    obtain ⟨stmts, cus, h1, h2, h3, h4⟩ := loop_pitems r rest e
      { p with toks := rest ++ [e],
               components := p.components ++ [{ tok := t1, name := compName t3.lit, cid := p.nextId, slots := [] }],
               nextId := p.nextId + 1 }
      (acc ++ [.component t1 (compName t3.lit) (some [(t6.lit, .str t8 t8.lit)]) p.nextId]) (g + 5) hkr he
      rfl (fun u' hu => hne u' (List.mem_cons_of_mem _ hu)) (by omega)
    rw [List.append_assoc p.components, Nat.add_assoc p.nextId 1, Nat.add_comm 1] at h1
    refine ⟨.component t1 (compName t3.lit) (some [(t6.lit, .str t8 t8.lit)]) p.nextId :: stmts,
      { tok := t1, name := compName t3.lit, cid := p.nextId, slots := [] } :: cus,
      loop_cons_of hst hp (by simp [ty1]) rfl rfl (by simp [ty10]) (by simp) hcl h1, ?_, ?_, ?_⟩
    · simp only [List.map_cons, usesOf, lit3]
      exact congrArg _ h2
    · intro cu hcu
      rcases List.mem_cons.mp hcu with h | h
      · rw [h]
      · exact h3 cu h
    · simp only [List.map_cons, pspec, pspecOf, lit3, lit6, lit8]
      exact congrArg _ h4

theorem parseLoop_pitems : ∀ (items : List PItem) (toks : List Token) (e : Token) (p : PS) (acc : List Stmt) (f : Nat),
    toks.map key = pkeys items → e.ty = .EOF → p.toks = toks ++ [e] → (∀ u, PItem.use u ∈ items → u.n ≠ []) →
    items.length + 6 ≤ f →
    ∃ stmts p' cus, parseProgramLoop f acc p = (some (acc ++ stmts), p') ∧ p'.toks = [e] ∧ p'.errors = p.errors ∧ p'.oof = p.oof ∧
      p'.useName = p.useName ∧ p'.inserts = p.inserts ∧ p'.reserves = p.reserves ∧
      p'.components = p.components ++ cus ∧ cus.map (fun cu => (cu.name, cu.cid)) = usesOf p.nextId items ∧
      (∀ cu ∈ cus, cu.slots = []) ∧ stmts.map pspecOf = (pspec p.nextId items).map some := by
  intro items toks e p acc f hk he hp hne hf
  obtain ⟨stmts, cus, h1, h2, h3, h4⟩ := loop_pitems items toks e p acc f hk he hp hne hf
  exact ⟨stmts, _, cus, h1, rfl, rfl, rfl, rfl, rfl, rfl, rfl, h2, h3, h4⟩

theorem pkeys_length : ∀ items : List PItem, items.length ≤ (pkeys items).length
  | [] => Nat.le_refl _
  | .text _ :: r => by have := pkeys_length r; simp [pkeys]; omega
  | .use _ :: r => by have := pkeys_length r; simp [pkeys, compKeys]; omega

theorem parse_comp_page (items : List PItem) (hok : PItemsOK items) :
    ∃ prog, parseSource (compPageSrc items) 0 = .ok prog ∧ prog.useName = none ∧ prog.reserves = [] ∧
      prog.components.map (fun cu => (cu.name, cu.cid)) = usesOf 0 items ∧ (∀ cu ∈ prog.components, cu.slots = []) ∧
      prog.stmts.map pspecOf = (pspec 0 items).map some := by
  obtain ⟨toks, e, hk, he, hfuel, hfin⟩ := parseSource_gitems _ (PItemsOK.gitems items hok) (gkeys_pitems items) (fun x hx => (pkeys_clean items x hx).1) 0
  obtain ⟨stmts, p', cus, hloop, _, herr, hoof, huse, _, hres, hcomps, hcus, hslots, hstmts⟩ := parseLoop_pitems items toks e
    ({ toks := toks ++ [e] } : PS) [] (parseFuel (toks ++ [e])) hk he rfl hok.name_ne (by rw [hfuel]; have := pkeys_length items; omega)
  refine ⟨_, hfin stmts p' hloop herr hoof, huse, hres, ?_, ?_, hstmts⟩
  · show p'.components.map _ = _
    rw [hcomps]
    exact hcus
  · show ∀ cu ∈ p'.components, _
    rw [hcomps]
    exact hslots

end Tw
