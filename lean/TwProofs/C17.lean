/-
  TwProofs.C17 — Response writes the page or one error page, and leaks no detail unless debugging.

  `Response` by cases: the page, the custom error page, the built-in page (`response_success`,
  `response_custom_page`, `response_builtin_page`).  The built-in page is the regenerated
  `Gen.defaultErrorPage`: its shape — text and `@if(debugMode)` blocks — is checked by kernel
  evaluation, and what a program of that shape renders is proved for every path, line and message:
  with debug mode off one fixed text (`response_quiet_body`), with debug mode on a text that
  contains "path:line" and the message (`response_debug_body`).
-/
import TwModel
import TwProofs.Lemmas.Basics
import TwProofs.Lemmas.SimpleBlock

namespace Tw.C17
open Tw

/-- rendering succeeds ⇒ the body is the complete page and the returned error is nil -/
theorem response_success (w : World) (t : Template) (name : Bytes) (data : List (Bytes × GoVal)) (cwd out : Bytes)
    (h : tplString w t name data = .ok out) :
    (tplResponse w t name data cwd).2.body = out ∧ (tplResponse w t name data cwd).2.err = none := by
  simp [tplResponse, h]

/-- rendering fails, a custom error page is configured and debug mode is off ⇒ the body is that
    page's output (or empty when it fails too) and an error is returned: nothing else can appear -/
theorem response_custom_page (w : World) (t : Template) (name : Bytes) (data : List (Bytes × GoVal)) (cwd : Bytes) (f : Fail)
    (h : tplString w t name data = .fail f) (hpage : w.cfg.errPage.isEmpty = false) (hdbg : w.cfg.debug = false) :
    (∃ out, tplString w t w.cfg.errPage [] = .ok out ∧ (tplResponse w t name data cwd).2.body = out ∧
        (tplResponse w t name data cwd).2.err = some f) ∨
    ((tplResponse w t name data cwd).2.body = []) := by
  simp only [tplResponse, h, hpage, hdbg]
  cases hp : tplString w t w.cfg.errPage [] with
  | ok out => left; exact ⟨out, rfl, by simp, by simp⟩
  | fail f2 => right; simp
  | panic why => right; simp
  | oof => right; simp

/-- otherwise the body is the built-in error page rendered for (path, line, message, debugMode):
    a function of the configuration and of the error only — never of the failed page's output -/
theorem response_builtin_page (w : World) (t : Template) (name : Bytes) (data : List (Bytes × GoVal)) (cwd : Bytes) (f : Fail)
    (h : tplString w t name data = .fail f) (hsel : (!w.cfg.errPage.isEmpty && !w.cfg.debug) = false) (out : Bytes)
    (hpage : (errorPage w f cwd).2 = .ok out) :
    (tplResponse w t name data cwd).2.body = out ∧ (tplResponse w t name data cwd).2.err = some f := by
  simp only [tplResponse, h, hsel]
  cases hp : errorPage w f cwd with
  | mk w' r =>
    rw [hp] at hpage
    simp only at hpage
    subst hpage
    simp

def onlyText : List Stmt → Bool
  | [] => true
  | .html _ :: r => onlyText r
  | _ => false

def textOf : List Stmt → Bytes
  | [] => []
  | .html t :: r => t.lit ++ textOf r
  | _ :: r => textOf r

def debugGuarded : List Stmt → Bool
  | [] => true
  | .html _ :: r => debugGuarded r
  | .ifS _ (.ident _ n) _ [] none :: r => n == b "debugMode" && debugGuarded r
  | .ifS _ (.ident _ n) _ [] (some alt) :: r => n == b "debugMode" && onlyText alt && debugGuarded r
  | _ => false

def quietText : List Stmt → Bytes
  | [] => []
  | .html t :: r => t.lit ++ quietText r
  | .ifS _ _ _ _ (some alt) :: r => textOf alt ++ quietText r
  | _ :: r => quietText r

theorem yieldsAll_onlyText (c : Ctx) (env : Env) : ∀ (ss : List Stmt), onlyText ss = true →
    YieldsAll c env ss (textOf ss) env (ss.length + 1)
  | [], _ => .nil env 0
  | s :: r, hs => by
    cases s with
    | html t => exact .cons (Renders.html c env t) (yieldsAll_onlyText c env r hs) (by simp) (by simp)
    | _ => simp [onlyText] at hs

theorem stmtsDepth_le (ss : List Stmt) : True := trivial

def maxAlt : List Stmt → Nat
  | [] => 0
  | .ifS _ _ _ _ (some alt) :: r => max alt.length (maxAlt r)
  | _ :: r => maxAlt r

/-- `+ 4`: one for the step through the list, the 2 of `Yields.if_ident`, the `+ 1` of `yieldsAll_onlyText` for the `@else` part -/
theorem yieldsAll_quiet (c : Ctx) (env : Env) (hdbg : env.get (b "debugMode") = some (.bool false)) :
    ∀ (ss : List Stmt), debugGuarded ss = true → YieldsAll c env ss (quietText ss) env (ss.length + maxAlt ss + 4)
  | [], _ => .nil env 3
  | s :: r, hs => by
    cases s with
    | html t =>
      exact .cons (Renders.html c env t) (yieldsAll_quiet c env hdbg r (by simpa [debugGuarded] using hs))
        (by simp [maxAlt]) (by simp [maxAlt]; omega)
    | ifS t cnd cons alts alt =>
      cases cnd with
      | ident t2 n =>
        cases alts with
        | cons a as => simp [debugGuarded] at hs
        | nil =>
          cases alt with
          | none =>
            obtain ⟨hn, hr⟩ : n = b "debugMode" ∧ debugGuarded r = true := by simpa [debugGuarded] using hs
            subst hn
            exact .cons (out := []) (Yields.if_ident t t2 hdbg cons none (YieldsAll.nil env.push 0)) (yieldsAll_quiet c env hdbg r hr)
              (by simp [maxAlt]) (by simp [maxAlt]; omega)
          | some ab =>
            obtain ⟨⟨hn, hot⟩, hr⟩ : (n = b "debugMode" ∧ onlyText ab = true) ∧ debugGuarded r = true := by
              simpa [debugGuarded] using hs
            subst hn
            exact .cons (Yields.if_ident t t2 hdbg cons (some ab) (yieldsAll_onlyText c env.push ab hot)) (yieldsAll_quiet c env hdbg r hr)
              (by simp [maxAlt]; omega) (by simp [maxAlt]; omega)
      | _ => simp [debugGuarded] at hs
    | _ => simp [debugGuarded] at hs

theorem evalProg_quiet (c : Ctx) (env : Env) (hdbg : env.get (b "debugMode") = some (.bool false)) :
    ∀ (ss : List Stmt) (fuel : Nat) (acc : Bytes), debugGuarded ss = true → ss.length + maxAlt ss + 4 ≤ fuel →
    evalProg fuel c env ss acc = .ok (acc ++ quietText ss, env) :=
  fun ss fuel acc hs hf => (yieldsAll_quiet c env hdbg ss hs).evalProg fuel acc hf

def debugSimple : List Stmt → Bool
  | [] => true
  | .html _ :: r => debugSimple r
  | .ifS _ (.ident _ n) cons [] _ :: r => n == b "debugMode" && simpleBlock cons && debugSimple r
  | _ => false

def debugPieces : List Stmt → List Piece
  | [] => []
  | .html t :: r => .text t.lit :: debugPieces r
  | .ifS _ _ cons _ _ :: r => piecesOf cons ++ debugPieces r
  | _ :: r => debugPieces r

def maxCons : List Stmt → Nat
  | [] => 0
  | .ifS _ _ cons _ _ :: r => max cons.length (maxCons r)
  | _ :: r => maxCons r

/-- `+ 6`: as in `yieldsAll_quiet`, with the `+ 3` of `yieldsAll_simple` for the branch -/
theorem yieldsAll_debug (c : Ctx) (env : Env) (hdbg : env.get (b "debugMode") = some (.bool true)) :
    ∀ (ss : List Stmt), debugSimple ss = true → holesBound env (debugPieces ss) →
    YieldsAll c env ss (fill env (debugPieces ss)) env (ss.length + maxCons ss + 6)
  | [], _, _ => .nil env 5
  | s :: r, hs, hb => by
    cases s with
    | html t =>
      exact .cons (Renders.html c env t) (yieldsAll_debug c env hdbg r (by simpa [debugSimple] using hs)
        (by simpa [debugPieces, holesBound] using hb)) (by simp [maxCons]) (by simp [maxCons]; omega)
    | ifS t cnd cons alts alt =>
      cases cnd with
      | ident t2 n =>
        cases alts with
        | cons a as => simp [debugSimple] at hs
        | nil =>
          obtain ⟨⟨hn, hsb⟩, hr⟩ : (n = b "debugMode" ∧ simpleBlock cons = true) ∧ debugSimple r = true := by
            simpa [debugSimple] using hs
          subst hn
          obtain ⟨hb1, hb2⟩ : holesBound env (piecesOf cons) ∧ holesBound env (debugPieces r) := by
            simpa [debugPieces, holesBound_append] using hb
          rw [debugPieces, fill_append, ← fill_push env (piecesOf cons)]
          exact .cons (Yields.if_ident t t2 hdbg cons alt (yieldsAll_simple c env.push cons hsb (holesBound_push env _ hb1)))
            (yieldsAll_debug c env hdbg r hr hb2) (by simp [maxCons]; omega) (by simp [maxCons]; omega)
      | _ => simp [debugSimple] at hs
    | _ => simp [debugSimple] at hs

theorem evalProg_debug (c : Ctx) (env : Env) (hdbg : env.get (b "debugMode") = some (.bool true)) :
    ∀ (ss : List Stmt) (fuel : Nat) (acc : Bytes), debugSimple ss = true → holesBound env (debugPieces ss) →
    ss.length + maxCons ss + 6 ≤ fuel →
    evalProg fuel c env ss acc = .ok (acc ++ fill env (debugPieces ss), env) :=
  fun ss fuel acc hs hb hf => (yieldsAll_debug c env hdbg ss hs hb).evalProg fuel acc hf

def okHole : Piece → Bool
  | .text _ => true
  | .hole n => n == b "path" || n == b "line" || n == b "message"

def splitAt3 (x y z : Piece) : List Piece → Option (List Piece × List Piece)
  | a :: c :: d :: r =>
    if a = x ∧ c = y ∧ d = z then some ([], r)
    else (splitAt3 x y z (c :: d :: r)).map fun p => (a :: p.1, p.2)
  | _ => none

theorem splitAt3_sound (x y z : Piece) : ∀ (l pre post : List Piece), splitAt3 x y z l = some (pre, post) →
    l = pre ++ x :: y :: z :: post
  | [], _, _, h => by simp [splitAt3] at h
  | [_], _, _, h => by simp [splitAt3] at h
  | [_, _], _, _, h => by simp [splitAt3] at h
  | a :: c :: d :: r, pre, post, h => by
    simp only [splitAt3] at h
    split at h
    · rename_i he
      obtain ⟨h1, h2, h3⟩ := he
      cases h; subst h1 h2 h3; rfl
    · cases hs : splitAt3 x y z (c :: d :: r) with
      | none => simp [hs] at h
      | some p =>
        simp [hs] at h
        obtain ⟨h1, h2⟩ := h
        have := splitAt3_sound x y z (c :: d :: r) p.1 p.2 (by rw [hs])
        rw [this, ← h1, ← h2]; rfl

/-- the environment `Response` renders the error page in -/
def errEnv (dbg : Bool) (path msg : Bytes) (line : Int) : Env :=
  [[(b "debugMode", .bool dbg), (b "line", .int (Int64.ofInt line)), (b "message", .str msg), (b "path", .str path)]]

theorem holesBound_of_names (env : Env) : ∀ ps : List Piece,
    ps.all okHole = true →
    (env.get (b "path")).isSome = true → (env.get (b "line")).isSome = true → (env.get (b "message")).isSome = true →
    holesBound env ps
  | [], _, _, _, _ => trivial
  | .text _ :: r, h, h1, h2, h3 => holesBound_of_names env r (by simpa [okHole] using h) h1 h2 h3
  | .hole n :: r, h, h1, h2, h3 => by
    simp only [List.all_cons, okHole, Bool.and_eq_true, Bool.or_eq_true, beq_iff_eq] at h
    refine ⟨?_, holesBound_of_names env r h.2 h1 h2 h3⟩
    rcases h.1 with (e | e) | e <;> subst e
    · exact h1
    · exact h2
    · exact h3

/-- a program of the debug shape whose holes are `path`, `line` and `message`, with "path:line" and
    the message among them, renders to a text that contains both -/
private theorem evalProg_debug_shows (c : Ctx) (env : Env) (path msg : Bytes) (n : Int64) (ss : List Stmt)
    (g1 : env.get (b "debugMode") = some (.bool true)) (g2 : env.get (b "path") = some (.str path))
    (g3 : env.get (b "line") = some (.int n)) (g4 : env.get (b "message") = some (.str msg))
    (h1 : debugSimple ss = true) (h2 : (debugPieces ss).all okHole = true)
    (h3 : (splitAt3 (.hole (b "path")) (.text (b ":")) (.hole (b "line")) (debugPieces ss)).isSome = true)
    (h4 : (debugPieces ss).contains (.hole (b "message")) = true)
    (h5 : ss.length + maxCons ss + 6 ≤ evalFuel) :
    evalProg evalFuel c env ss [] = .ok (fill env (debugPieces ss), env) ∧
    (∃ pre post : Bytes, fill env (debugPieces ss) = pre ++ (path ++ b ":" ++ int64ToBytes n) ++ post) ∧
    (∃ pre post : Bytes, fill env (debugPieces ss) = pre ++ msg ++ post) := by
  have hb := holesBound_of_names env (debugPieces ss) h2 (by rw [g2]; rfl) (by rw [g3]; rfl) (by rw [g4]; rfl)
  refine ⟨evalProg_debug c env g1 ss evalFuel [] h1 hb h5, ?_, ?_⟩
  · obtain ⟨p, hp⟩ := Option.isSome_iff_exists.mp h3
    rw [splitAt3_sound _ _ _ _ p.1 p.2 hp, fill_append]
    refine ⟨fill env p.1, fill env p.2, ?_⟩
    simp [fill, g2, g3, Val.toStr, List.append_assoc]
  · obtain ⟨l1, l2, hl⟩ := List.append_of_mem (List.contains_iff_mem.mp h4)
    rw [hl, fill_append]
    refine ⟨fill env l1, fill env l2, ?_⟩
    simp [fill, g4, Val.toStr, List.append_assoc]

/-!
  `Gen.defaultErrorPage` (F8) is parsed by kernel evaluation: `errorPage_facts` holds the parse
  and the finite facts about it that the theorems after it state (one evaluation serves them all). -/

def errorPageProg : Program :=
  match parseSource Gen.defaultErrorPage with
  | .ok p => p
  | _ => default

set_option maxRecDepth 100000 in
private theorem errorPage_facts :
    ((match parseSource Gen.defaultErrorPage with | .ok _ => true | _ => false) = true ∧
      debugGuarded errorPageProg.stmts = true ∧
      errorPageProg.stmts.length + maxAlt errorPageProg.stmts + 4 ≤ evalFuel) ∧
    (containsSub (quietText errorPageProg.stmts) (b "Oops!") = true ∧
      containsSub (quietText errorPageProg.stmts) (b "{{") = false) ∧
    (debugSimple errorPageProg.stmts = true ∧
      (debugPieces errorPageProg.stmts).all okHole = true ∧
      (splitAt3 (.hole (b "path")) (.text (b ":")) (.hole (b "line")) (debugPieces errorPageProg.stmts)).isSome = true ∧
      (debugPieces errorPageProg.stmts).contains (.hole (b "message")) = true ∧
      errorPageProg.stmts.length + maxCons errorPageProg.stmts + 6 ≤ evalFuel) := by
  decide +kernel

/-- F8 obligation: the embedded page parses, and has the guarded shape -/
theorem errorPage_shape :
    (match parseSource Gen.defaultErrorPage with | .ok _ => true | _ => false) = true ∧
    debugGuarded errorPageProg.stmts = true ∧
    errorPageProg.stmts.length + maxAlt errorPageProg.stmts + 4 ≤ evalFuel :=
  errorPage_facts.1

/-- the fixed text contains neither a template-path-like nor a message placeholder: it is the
    "Oops" page (checked on the regenerated page by kernel evaluation) -/
theorem quiet_page_is_oops :
    containsSub (quietText errorPageProg.stmts) (b "Oops!") = true ∧
    containsSub (quietText errorPageProg.stmts) (b "{{") = false :=
  errorPage_facts.2.1

/-- F8 obligation for debug mode: the embedded page has the shape, its holes are `path`, `line`
    and `message` only, "path:line" and the message occur in it, and the fuel suffices -/
theorem errorPage_debug_shape :
    debugSimple errorPageProg.stmts = true ∧
    (debugPieces errorPageProg.stmts).all okHole = true ∧
    (splitAt3 (.hole (b "path")) (.text (b ":")) (.hole (b "line")) (debugPieces errorPageProg.stmts)).isSome = true ∧
    (debugPieces errorPageProg.stmts).contains (.hole (b "message")) = true ∧
    errorPageProg.stmts.length + maxCons errorPageProg.stmts + 6 ≤ evalFuel :=
  errorPage_facts.2.2

/-- **no leak**: with debug mode off, the built-in error page renders to one fixed text — the
    same for every path, line and message of the error -/
theorem builtin_page_no_leak (c : Ctx) (path msg : Bytes) (line : Int) :
    evalProg evalFuel c [[(b "debugMode", .bool false), (b "line", .int (Int64.ofInt line)), (b "message", .str msg), (b "path", .str path)]]
      errorPageProg.stmts [] =
    .ok (quietText errorPageProg.stmts, [[(b "debugMode", .bool false), (b "line", .int (Int64.ofInt line)), (b "message", .str msg), (b "path", .str path)]]) :=
  (evalProg_quiet c _ rfl _ evalFuel [] errorPage_shape.2.1 errorPage_shape.2.2).trans (by rw [List.nil_append])

/-- **debug mode on, in general**: for every path, message and line the built-in error page is its
    fixed text with the holes filled — and "path:line" and the message are among the holes, so
    the body contains them -/
theorem builtin_page_debug (c : Ctx) (path msg : Bytes) (line : Int) :
    evalProg evalFuel c (errEnv true path msg line) errorPageProg.stmts [] =
      .ok (fill (errEnv true path msg line) (debugPieces errorPageProg.stmts), errEnv true path msg line) ∧
    (∃ pre post : Bytes, fill (errEnv true path msg line) (debugPieces errorPageProg.stmts) =
      pre ++ (path ++ b ":" ++ int64ToBytes (Int64.ofInt line)) ++ post) ∧
    (∃ pre post : Bytes, fill (errEnv true path msg line) (debugPieces errorPageProg.stmts) = pre ++ msg ++ post) := by
  obtain ⟨h1, h2, h3, h4, h5⟩ := errorPage_debug_shape
  exact evalProg_debug_shows c (errEnv true path msg line) path msg _ _ rfl rfl rfl rfl h1 h2 h3 h4 h5

theorem sorted_error_data {α} (v1 v2 v3 v4 : α) :
    sortByKey [(b "path", v1), (b "line", v2), (b "message", v3), (b "debugMode", v4)] =
      [(b "debugMode", v4), (b "line", v2), (b "message", v3), (b "path", v1)] := by
  have c1 : bytesLt (b "message") (b "debugMode") = false := by decide
  have c2 : bytesLt (b "line") (b "debugMode") = false := by decide
  have c3 : bytesLt (b "line") (b "message") = true := by decide
  have c4 : bytesLt (b "path") (b "debugMode") = false := by decide
  have c5 : bytesLt (b "path") (b "line") = false := by decide
  have c6 : bytesLt (b "path") (b "message") = false := by decide
  simp only [sortByKey, List.foldr, insertByKey, c1, c2, c3, c4, c5, c6, Bool.false_eq_true, if_false, if_true]

/-- the list is `errorPageData` with its four values as variables -/
theorem errEnv_of_data (dbg : Bool) (path msg : Bytes) (line : Int) :
    envFromMap [(b "path", .str path), (b "line", .int line), (b "message", .str msg), (b "debugMode", .bool dbg)] =
      .ok (errEnv dbg path msg line) := by
  unfold envFromMap
  simp only [sorted_error_data]
  have n1 : (b "debugMode" == b "loop") = false := by decide
  have n2 : (b "line" == b "loop") = false := by decide
  have n3 : (b "message" == b "loop") = false := by decide
  have n4 : (b "path" == b "loop") = false := by decide
  have k1 : (b "debugMode" == b "line") = false := by decide
  have k2 : (b "debugMode" == b "message") = false := by decide
  have k3 : (b "line" == b "message") = false := by decide
  have k4 : (b "debugMode" == b "path") = false := by decide
  have k5 : (b "line" == b "path") = false := by decide
  have k6 : (b "message" == b "path") = false := by decide
  simp only [envFromMap.go, nativeToObject, Env.set, Env.get, mapGet, mapSet, n1, n2, n3, n4, k1, k2, k3, k4, k5, k6,
    Bool.false_eq_true, if_false]
  rfl

theorem errorPage_env (w : World) (f : Fail) (cwd : Bytes) :
    envFromMap (errorPageData w f cwd) =
      .ok (errEnv w.cfg.debug (if f.path.isEmpty then [] else cleanPath (cwd ++ [47] ++ f.path)) f.msg f.line) :=
  errEnv_of_data _ _ _ _

theorem errorPageProg_parses : parseSource Gen.defaultErrorPage = .ok errorPageProg := by
  have h := errorPage_shape.1
  unfold errorPageProg
  generalize parseSource Gen.defaultErrorPage = r at h ⊢
  cases r <;> first | rfl | cases h

/-- `source_renders` for the API's `EvaluateString`, of which `errorPage` is an instance by definition; applied to `errorPage`
    directly, `source_renders` sends the elaborator into the parse of the page (the recursion limit is hit) -/
private theorem evaluateString_ok {w : World} {src : Bytes} {data : List (Bytes × GoVal)} {p : Program} {env env' : Env}
    {out : Bytes} (hp : parseSource src = .ok p) (he : envFromMap data = .ok env)
    (hev : evalProg evalFuel { custom := w.custom } env p.stmts [] = .ok (out, env')) :
    (evaluateString w src data).2 = .ok out :=
  source_renders hp he hev

/-- what `errorPage` returns, debug mode off: the fixed text -/
theorem errorPage_quiet (w : World) (f : Fail) (cwd : Bytes) (hd : w.cfg.debug = false) :
    (errorPage w f cwd).2 = .ok (quietText errorPageProg.stmts) :=
  evaluateString_ok errorPageProg_parses (hd ▸ errorPage_env w f cwd) (builtin_page_no_leak _ _ _ _)

/-- what `errorPage` returns, debug mode on: the text with path, line and message filled in -/
theorem errorPage_debug (w : World) (f : Fail) (cwd : Bytes) (hd : w.cfg.debug = true) :
    (errorPage w f cwd).2 = .ok (fill (errEnv true (if f.path.isEmpty then [] else cleanPath (cwd ++ [47] ++ f.path)) f.msg f.line)
      (debugPieces errorPageProg.stmts)) :=
  evaluateString_ok errorPageProg_parses (hd ▸ errorPage_env w f cwd) (builtin_page_debug _ _ _ _).1

/-- **`Response`, rendering failed, no custom page, debug mode off**: the body is
    the fixed "Oops" text — the same for every error -/
theorem response_quiet_body (w : World) (t : Template) (name : Bytes) (data : List (Bytes × GoVal)) (cwd : Bytes) (f : Fail)
    (h : tplString w t name data = .fail f) (hpage : w.cfg.errPage.isEmpty = true) (hd : w.cfg.debug = false) :
    (tplResponse w t name data cwd).2.body = quietText errorPageProg.stmts ∧ (tplResponse w t name data cwd).2.err = some f :=
  response_builtin_page w t name data cwd f h (by simp [hpage]) _ (errorPage_quiet w f cwd hd)

/-- **`Response`, rendering failed, debug mode on**: whatever page is configured, the body is the
    built-in page and contains "path:line" (the absolute path of the failing file) and the message -/
theorem response_debug_body (w : World) (t : Template) (name : Bytes) (data : List (Bytes × GoVal)) (cwd : Bytes) (f : Fail)
    (h : tplString w t name data = .fail f) (hd : w.cfg.debug = true) :
    (tplResponse w t name data cwd).2.err = some f ∧
    (∃ pre post : Bytes, (tplResponse w t name data cwd).2.body =
      pre ++ ((if f.path.isEmpty then [] else cleanPath (cwd ++ [47] ++ f.path)) ++ b ":" ++ int64ToBytes (Int64.ofInt f.line)) ++ post) ∧
    (∃ pre post : Bytes, (tplResponse w t name data cwd).2.body = pre ++ f.msg ++ post) := by
  obtain ⟨hb, he⟩ := response_builtin_page w t name data cwd f h (by simp [hd]) _ (errorPage_debug w f cwd hd)
  obtain ⟨_, h2, h3⟩ := builtin_page_debug { custom := w.custom } (if f.path.isEmpty then [] else cleanPath (cwd ++ [47] ++ f.path)) f.msg f.line
  rw [hb]
  exact ⟨he, h2, h3⟩

theorem containsSub_append (s post : Bytes) : ∀ pre : Bytes, containsSub (pre ++ s ++ post) s = true
  | [] => by
    cases s with
    | nil => cases post <;> simp [containsSub, isPrefixOf]
    | cons x xs => exact (Bool.or_eq_true _ _).mpr (Or.inl (isPrefixOf_append (x :: xs) post))
  | _ :: pre => by simp only [List.cons_append, containsSub, containsSub_append s post pre, Bool.or_true]

/-- with debug mode on the page shows message, path and line (`…_partial`: for one concrete
    error, an instance of `builtin_page_debug` on the parsed error page; `response_debug_body` is the
    general statement, and the examples of C06, C07 and C18 evaluate the whole pipeline) -/
theorem debug_page_shows_partial :
    (match evaluateStringPure [] Gen.defaultErrorPage
        [(b "path", .str (b "/srv/tpl/home.tw")), (b "line", .int 7), (b "message", .str (b "identifier 'x' not found")), (b "debugMode", .bool true)] with
      | .ok out => containsSub out (b "/srv/tpl/home.tw:7") && containsSub out (b "identifier 'x' not found")
      | _ => false) = true := by
  obtain ⟨hev, ⟨p1, q1, h1⟩, ⟨p2, q2, h2⟩⟩ := builtin_page_debug { custom := [] } (b "/srv/tpl/home.tw") (b "identifier 'x' not found") 7
  rw [source_renders errorPageProg_parses (env := errEnv true (b "/srv/tpl/home.tw") (b "identifier 'x' not found") 7) (errEnv_of_data _ _ _ _) hev]
  simp only []
  rw [Bool.and_eq_true]
  constructor
  · rw [h1]; exact containsSub_append _ _ _
  · rw [h2]; exact containsSub_append _ _ _

end Tw.C17
