/-
  TwProofs.Lemmas.Roundtrip — `Object.Val()` followed by `NativeToObject` is the identity on the
  values whose objects are key-sorted (`WFVal`; C20: arguments reach a custom function as the Go
  value of the same content, and its result comes back as if it had been passed as data).
-/
import TwProofs.Lemmas.Sort

namespace Tw

mutual
/-- every object in the value, at any depth, has its entries key-sorted: `nativeToObject` sorts the pairs of a map, and
    sorting is the identity on a sorted list (`sortByKey_of_sorted`).  That the values the model builds are such is not
    proved. -/
def WFVal : Val → Prop
  | .arr xs => WFList xs
  | .obj kvs => KeySorted kvs ∧ WFPairs kvs
  | _ => True
def WFList : List Val → Prop
  | [] => True
  | x :: r => WFVal x ∧ WFList r
def WFPairs : List (Bytes × Val) → Prop
  | [] => True
  | (_, v) :: r => WFVal v ∧ WFPairs r
end

mutual
theorem native_roundtrip : ∀ v : Val, WFVal v → nativeToObject (Val.toNative v) = some v
  | .nil, _ => by simp [Val.toNative, nativeToObject]
  | .bool _, _ => by simp [Val.toNative, nativeToObject]
  | .int i, _ => by simp [Val.toNative, nativeToObject]
  | .float _, _ => by simp [Val.toNative, nativeToObject]
  | .str _, _ => by simp [Val.toNative, nativeToObject]
  | .arr xs, h => by
    have := native_roundtrip_list xs (by simpa [WFVal] using h)
    simp [Val.toNative, nativeToObject, this]
  | .obj kvs, h => by
    have hw : KeySorted kvs ∧ WFPairs kvs := by simpa [WFVal] using h
    have := native_roundtrip_pairs kvs hw.2
    simp [Val.toNative, nativeToObject, this, sortByKey_of_sorted kvs hw.1]
theorem native_roundtrip_list : ∀ xs : List Val, WFList xs → nativeList (Val.toNativeList xs) = some xs
  | [], _ => by simp [Val.toNativeList, nativeList]
  | x :: r, h => by
    have hw : WFVal x ∧ WFList r := by simpa [WFList] using h
    simp [Val.toNativeList, nativeList, native_roundtrip x hw.1, native_roundtrip_list r hw.2]
theorem native_roundtrip_pairs : ∀ kvs : List (Bytes × Val), WFPairs kvs → nativePairs (Val.toNativePairs kvs) = some kvs
  | [], _ => by simp [Val.toNativePairs, nativePairs]
  | (k, v) :: r, h => by
    have hw : WFVal v ∧ WFPairs r := by simpa [WFPairs] using h
    simp [Val.toNativePairs, nativePairs, native_roundtrip v hw.1, native_roundtrip_pairs r hw.2]
end

end Tw
