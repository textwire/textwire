/-
  TwProofs.Lemmas.LexWsTop — the whitespace theorem for whole templates that begin with "{{":
  `tokenize_respaced` (C01), which is `whitespace_between_code_tokens` behind the first token, and an instance.
-/
import TwProofs.Lemmas.LexWs
namespace Tw
open Lx

theorem Respaced.left {a c : List (Bytes × Bytes)} (h : Respaced a c) : Respaced a a := by
  induction h with
  | nil => exact Respaced.nil
  | cons g g' ch v r r' hg _ _ hc _ ih => exact Respaced.cons g g ch v r r hg hg (fun h => h) hc ih

def codeState (r : Bytes) : Lx := { rest := r, isHTML := false }

/-- C01 `whitespace_in_braces_never_changes_the_tokens`, where the hypotheses are explained.  Stated from `codeState`,
    `Reads` is settled by `decide` (the example below) -/
theorem tokenize_respaced (tail : Bytes) (a c : List (Bytes × Bytes)) (h : Respaced a c) (hne : a ≠ [])
    (hcm : ¬ ((src a tail).headD 0 = 45 ∧ ((src a tail).drop 1).headD 0 = 45))
    (hreads : Reads (codeState (src a tail)) a) :
    ∃ r r', tokenize (123 :: 123 :: src a tail) = some r ∧ tokenize (123 :: 123 :: src c tail) = some r' ∧
      r'.toks.map key = r.toks.map key ∧ r'.insideCode = r.insideCode ∧ r'.panicked = r.panicked := by
  have hla := h.la tail
  have hcm' : ¬ ((src c tail).headD 0 = 45 ∧ ((src c tail).drop 1).headD 0 = 45) := by
    intro ⟨e1, e2⟩
    rcases hla with hw | ⟨q1, q2⟩
    · rw [e1] at hw; cases hw
    · rcases q2 with hw | q2
      · rw [e2] at hw; cases hw
      · exact hcm ⟨by rw [← q1]; exact e1, by rw [← q2]; exact e2⟩
  obtain ⟨t, s1, n1, k1, ne1, r1, p1, m1⟩ := open_step (Lx.init (123 :: 123 :: src a tail)) (src a tail) rfl rfl hcm
  obtain ⟨t', s1', n1', k1', ne1', r1', p1', m1'⟩ := open_step (Lx.init (123 :: 123 :: src c tail)) (src c tail) rfl rfl hcm'
  have run1 : Run (Lx.init (123 :: 123 :: src a tail)) [t] s1 := Run.cons _ _ _ _ _ n1 ne1 (Run.nil _)
  have run1' : Run (Lx.init (123 :: 123 :: src c tail)) [t'] s1' := Run.cons _ _ _ _ _ n1' ne1' (Run.nil _)
  obtain ⟨res, hres⟩ := lexAll_lexFuel (123 :: 123 :: src a tail)
  obtain ⟨f, ⟨ts0, sf0⟩, e1, e2, rfl⟩ := run1.lexAll_split _ res hres
  obtain ⟨ts1, sf1, q1, q2, q3⟩ := whitespace_between_code_tokens tail a c h hne s1 s1' (by rw [m1, m1']; rfl) r1 r1'
    (h.left.reads tail (codeState (src a tail)) s1 (by rw [m1]; rfl) rfl r1 hreads) f ts0 sf0 e2
  refine ⟨_, _, tokenize_eq_of_lexAll hres, tokenize_eq_of_lexAll (run1'.lexAll_append f (ts1, sf1) q1), ?_, ?_, ?_⟩
  · simp [q2, k1, k1']
  · simp [q3.html]
  · simp [q3.pan]

section examples
private def it (g u : String) : Bytes × Bytes := (b g, b u)
private def tight : List (Bytes × Bytes) :=
  [it "" "1", it "" "+", it "" "2", it "" "*", it "" "x", it "" ".", it "" "y", it "" "<=", it "" "-", it "" "3.5", it "" "}}"]
private def spaced : List (Bytes × Bytes) :=
  [it " " "1", it " " "+", it "\n" "2", it "\t" "*", it " " "x", it "" ".", it "  " "y", it " " "<=", it " " "-", it "\r\n" "3.5", it " " "}}"]
example : src tight (b "!") = b "1+2*x.y<=-3.5}}!" := by decide +kernel
example : src spaced (b "!") = b " 1 +\n2\t* x.  y <= -\r\n3.5 }}!" := by decide +kernel
private theorem tight_reads : Reads (codeState (src tight (b "!"))) tight := by decide +kernel
private theorem tight_spaced : respacedB tight spaced = true := by decide +kernel
example : Reads (codeState (src tight (b "!"))) tight := tight_reads
example : respacedB tight spaced = true := tight_spaced
theorem tokenize_respaced_instance : ∃ r r', tokenize (b "{{1+2*x.y<=-3.5}}!") = some r ∧ tokenize (b "{{ 1 +\n2\t* x.  y <= -\r\n3.5 }}!") = some r' ∧
    r'.toks.map key = r.toks.map key :=
  have ⟨r, r', h1, h2, h3, _, _⟩ := tokenize_respaced (b "!") tight spaced (respacedB_sound _ _ tight_spaced) (by decide +kernel) (by decide +kernel) tight_reads
  ⟨r, r', h1, h2, h3⟩
example : ∃ r r', tokenize (b "{{1+2*x.y<=-3.5}}!") = some r ∧ tokenize (b "{{ 1 +\n2\t* x.  y <= -\r\n3.5 }}!") = some r' ∧
    r'.toks.map key = r.toks.map key := tokenize_respaced_instance
end examples
end Tw
