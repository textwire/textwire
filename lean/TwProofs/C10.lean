/-
  TwProofs.C10 — string literals are HTML-escaped on output; raw() is the exact opt-out.
-/
import TwProofs.Lemmas.Escape
import TwProofs.Lemmas.TextIf
import TwProofs.Lemmas.TextCalls
import TwProofs.Lemmas.TextStrings

namespace Tw.C10
open Tw

/-- the value of every string literal is its text with `<`, `>`, `&` replaced by entities and
    nothing else changed (html.EscapeString followed by the restoration of the two quote entities) -/
theorem literal_value_eq_esc3 (s : Bytes) : literalValue s = esc3 s := by
  unfold literalValue replaceAll
  rw [b_q34, b_q39]
  simp only [List.isEmpty_cons, Bool.false_eq_true, if_false]
  rw [show htmlEscape s = s.flatMap esc5c from rfl, restore34, restore39]
  rfl

/-- no raw '<' or '>' coming from the literal reaches the output -/
theorem no_raw_angle (s : Bytes) : ∀ x ∈ literalValue s, x ≠ 60 ∧ x ≠ 62 := by
  rw [literal_value_eq_esc3]; exact esc3_no_angle s

/-- single and double quotes stay as written -/
theorem quotes_as_written (s : Bytes) :
    (literalValue s).count 34 = s.count 34 ∧ (literalValue s).count 39 = s.count 39 := by
  rw [literal_value_eq_esc3]; exact esc3_quotes s

/-- unescaping the value gives back the literal byte for byte -/
theorem unescape_literal (s : Bytes) : htmlUnescape (literalValue s) = s := by
  rw [literal_value_eq_esc3]; exact unescape_esc3 s

/-- evaluating a string literal yields the escaped text -/
theorem literal_evaluates_escaped (fuel : Nat) (c : Ctx) (env : Env) (t : Token) (s : Bytes) :
    evalExpr (fuel + 1) c env (.str t s) = .ok (.str (esc3 s)) := by
  simp [evalExpr, literal_value_eq_esc3]

/-- `raw()` on a literal yields exactly its original text -/
theorem raw_literal_exact (fuel : Nat) (c : Ctx) (env : Env) (t t2 : Token) (s : Bytes) :
    evalExpr (fuel + 3) c env (.call t (.str t2 s) (b "raw") []) = .ok (.str s) := by
  rw [show fuel + 3 = (fuel + 2) + 1 from rfl, evalExpr]
  simp only [evalExpr, evalExprs]
  have hcall : callBuiltin (.str (literalValue s)) (b "raw") [] = some (.ok (.str (htmlUnescape (literalValue s)))) := by
    simp (config := { decide := true }) [callBuiltin, strBuiltin]
  simp [Val.type, hasBuiltinTable, hcall, unescape_literal]

/-- escaping is context free: joining the values of two literals gives the escaped text of the two
    literals joined -/
theorem concat_escaped (s t : Bytes) (line : Nat) :
    strInfix (b "+") (literalValue s) (literalValue t) line = .ok (.str (esc3 (s ++ t))) := by
  simp (config := { decide := true }) [strInfix, literal_value_eq_esc3, esc3_append]

theorem print_string_exact (v : Bytes) : (Val.str v).toStr = v := by simp [Val.toStr]

example : literalValue (b "<b>&amp; \"q\" 'r' &#34;") = b "&lt;b&gt;&amp;amp; \"q\" 'r' &amp;#34;" := by decide +kernel
example : htmlUnescape (literalValue (b "a<&>\"'&lt;&#39;é")) = b "a<&>\"'&lt;&#39;é" := by decide +kernel

/-- **a string literal reaches the output HTML-escaped, from the source bytes on**: for either quote
    character, any white space around the literal inside the braces, and every literal text without
    that quote and without a backslash, the template `{{ "text" }}` — alone, or anywhere among text
    runs, comments, `{{ name }}` blocks and `@if … @end` constructs, by `witems_render` — renders
    `literalValue text`: no raw `<` or `>`, every `&` an entity, quotes as written, and unescaping
    gives the literal back (`no_raw_angle`, `quotes_as_written`, `unescape_literal` above) -/
theorem literal_prints_escaped_from_source (custom : List ((VType × Bytes) × Nat)) (g1 g2 c : Bytes) (q : Byte)
    (hg1 : allWs g1) (hg2 : allWs g2) (hq : q = 34 ∨ q = 39) (hp : PlainStr q c)
    (data : List (Bytes × GoVal)) (env : Env) (henv : envFromMap data = .ok env) :
    evaluateStringPure custom ([123, 123] ++ g1 ++ (q :: (c ++ [q])) ++ g2 ++ [125, 125]) data = .ok (literalValue c) := by
  have := witems_render custom [.lit g1 q c g2] ⟨hg1, hg2, hq, hp, trivial⟩ (by simp [wspec, evalFuel]) data env henv
    (by simp [wspec, wbound])
  simpa [witemsSrc, WItem.src, wspec, wrender] using this

example : evaluateStringPure [] (b "{{ '<b>&amp;\"x\"</b>' }}") [] = .ok (b "&lt;b&gt;&amp;amp;\"x\"&lt;/b&gt;") := by
  have h := literal_prints_escaped_from_source [] [32] [32] (b "<b>&amp;\"x\"</b>") 39 allWs_space allWs_space (Or.inr rfl) (by decide +kernel)
    [] [[]] (by rfl)
  have hs : [123, 123] ++ [32] ++ (39 :: (b "<b>&amp;\"x\"</b>" ++ [39])) ++ [32] ++ [125, 125] = b "{{ '<b>&amp;\"x\"</b>' }}" := by decide +kernel
  have h2 : literalValue (b "<b>&amp;\"x\"</b>") = b "&lt;b&gt;&amp;amp;\"x\"&lt;/b&gt;" := by decide +kernel
  rw [hs, h2] at h
  exact h

/-- **`raw()` is the exact opt-out, from the source bytes**: the template `{{ "text".raw() }}` — either
    quote, any white space inside the braces, any text without that quote and without a backslash,
    angle brackets and ampersands included — renders exactly `text`, for every data map. -/
theorem raw_literal_prints_exact_from_source (custom : List ((VType × Bytes) × Nat)) (g1 g2 c : Bytes) (q : Byte)
    (hg1 : allWs g1) (hg2 : allWs g2) (hq : q = 34 ∨ q = 39) (hp : PlainStr q c)
    (data : List (Bytes × GoVal)) (env : Env) (henv : envFromMap data = .ok env) :
    evaluateStringPure custom (rawSrc g1 q c g2) data = .ok c := by
  obtain ⟨prog, t2, t4, t6, hpp, hs⟩ := parse_raw_source g1 q c g2 hg1 hg2 hq hp
  have hraw : kwRaw = b "raw" := by decide
  rw [hraw] at hs
  exact renders_one custom (.str c) hpp hs henv (fun f => raw_literal_exact (f + 4) _ env t4 t2 c)

example : evaluateStringPure [] (b "{{ \"<b>a & b</b>\".raw() }}") [] = .ok (b "<b>a & b</b>") := by
  have := raw_literal_prints_exact_from_source [] [32] [32] (b "<b>a & b</b>") 34 (by decide +kernel) (by decide +kernel) (Or.inl rfl) (by decide +kernel) [] [[]] (by rfl)
  have hs : rawSrc [32] 34 (b "<b>a & b</b>") [32] = b "{{ \"<b>a & b</b>\".raw() }}" := by decide +kernel
  rw [hs] at this
  exact this

/-- **joined literals are escaped one by one, from the source bytes on**: `{{ "a" + 'b' }}` — either quote
    for each literal, any white space inside the braces and around the `+` — renders
    `literalValue a ++ literalValue b`: each literal escaped on its own, nothing escaped twice, nothing
    added by the join. -/
theorem joined_literals_print_escaped_from_source (custom : List ((VType × Bytes) × Nat)) (g1 g2 g3 g4 c1 c2 : Bytes) (q1 q2 : Byte)
    (hg1 : allWs g1) (hg2 : allWs g2) (hg3 : allWs g3) (hg4 : allWs g4) (hq1 : q1 = 34 ∨ q1 = 39) (hq2 : q2 = 34 ∨ q2 = 39)
    (hp1 : PlainStr q1 c1) (hp2 : PlainStr q2 c2)
    (data : List (Bytes × GoVal)) (env : Env) (henv : envFromMap data = .ok env) :
    evaluateStringPure custom (concatSrc g1 q1 c1 g3 g4 q2 c2 g2) data = .ok (literalValue c1 ++ literalValue c2) := by
  obtain ⟨prog, t2, t3, t4, hpp, hs⟩ := parse_concat_source g1 q1 c1 g3 g4 q2 c2 g2 hg1 hg2 hg3 hg4 hq1 hq2 hp1 hp2
  exact renders_one custom (.str _) hpp hs henv (concat_evals _ env t2 t3 t4 c1 c2)

example : evaluateStringPure [] (b "{{ \"<a>\" + '&' }}") [] = .ok (b "&lt;a&gt;&amp;") := by
  have h := joined_literals_print_escaped_from_source [] [32] [32] [32] [32] (b "<a>") (b "&") 34 39 allWs_space allWs_space allWs_space allWs_space
    (Or.inl rfl) (Or.inr rfl) (by decide +kernel) (by decide +kernel) [] [[]] (by rfl)
  have hs : concatSrc [32] 34 (b "<a>") [32] [32] 39 (b "&") [32] = b "{{ \"<a>\" + '&' }}" := by decide +kernel
  have h2 : literalValue (b "<a>") ++ literalValue (b "&") = b "&lt;a&gt;&amp;" := by decide +kernel
  rw [hs, h2] at h
  exact h

end Tw.C10
