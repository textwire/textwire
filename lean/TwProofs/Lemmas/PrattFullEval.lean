/-
  TwProofs.Lemmas.PrattFullEval — parser and evaluator composed: the trees the round trip returns satisfy
  `Expr.wf` when the operator tokens carry their canonical literals (`full_wf`; `fragment_wf` for the fragment
  `BE`, with its token-free form `BE.toS`), so the model evaluator's result on the parsed tokens agrees (`Agrees`,
  SpecSim) with the denotation of the printed tree (`RParses.evals`; C01).
-/
import TwProofs.Lemmas.SpecSim
import TwProofs.Lemmas.PrattFull
namespace Tw
open TwSpec

mutual
/-- the operator tokens carry their canonical literals (what the lexer produces for these types) -/
def FE.canon : FE → Prop
  | .atom _ => True
  | .pre op r => (op.ty = .SUB → op.lit = b "-") ∧ (op.ty = .NOT → op.lit = b "!") ∧ r.canon
  | .bin _ l r => l.canon ∧ r.canon
  | .tern _ _ cnd a bb => cnd.canon ∧ a.canon ∧ bb.canon
  | .post op l => (op.ty = .INC → op.lit = b "++") ∧ (op.ty = .DEC → op.lit = b "--") ∧ l.canon
  | .index _ l i => l.canon ∧ i.canon
  | .dot _ _ l => l.canon
  | .call _ _ l args => l.canon ∧ args.canon
  | .arr _ els => els.canon
  | .obj _ ps => ps.canon
def FEs.canon : FEs → Prop
  | .nil => True
  | .cons e r => e.canon ∧ r.canon
def FPs.canon : FPs → Prop
  | .nil => True
  | .cons _ _ v r => v.canon ∧ r.canon
end

theorem mapSet_wfPairs (l : List (Bytes × Expr)) (k : Bytes) (v : Expr) (hl : Expr.wfPairs l) (hv : v.wf) :
    Expr.wfPairs (mapSet l k v) :=
  (Expr.wfPairs_iff _).mpr fun p hp => (mapSet_mem hp).elim ((Expr.wfPairs_iff l).mp hl p) fun e => e ▸ hv

theorem atom_wf (t : Token) (a : Expr) (h : atomExpr t = some a) : a.wf := by
  unfold atomExpr at h
  cases hty : t.ty <;> rw [hty] at h <;> simp only [] at h <;> first | (cases h; done) | (cases h; simp [Expr.wf]) | skip
  · cases hv : parseInt64 t.lit with
    | none => rw [hv] at h; cases h
    | some v => rw [hv] at h; cases h; simp [Expr.wf]
  · cases hv : parseFloat64 t.lit with
    | none => rw [hv] at h; cases h
    | some v => rw [hv] at h; cases h; simp [Expr.wf]

mutual
theorem full_wf : ∀ (e : FE), e.ok → e.canon → Expr.wf e.toExpr
  | .atom t, hok, _ => by
    rw [FE.ok] at hok
    obtain ⟨a, ha⟩ := Option.isSome_iff_exists.mp hok
    rw [FE.toExpr, ha]
    exact atom_wf t a ha
  | .pre op r, hok, hc => by
    rw [FE.ok] at hok; rw [FE.canon] at hc
    rw [FE.toExpr, Expr.wf]
    exact ⟨hok.1.imp hc.1 hc.2.1, full_wf r hok.2 hc.2.2⟩
  | .bin op l r, hok, hc => by
    rw [FE.ok] at hok; rw [FE.canon] at hc
    rw [FE.toExpr, Expr.wf]
    exact ⟨full_wf l hok.2.1 hc.1, full_wf r hok.2.2 hc.2⟩
  | .tern q c cnd a bb, hok, hc => by
    rw [FE.ok] at hok; rw [FE.canon] at hc
    rw [FE.toExpr, Expr.wf]
    exact ⟨full_wf cnd hok.2.2.1 hc.1, full_wf a hok.2.2.2.1 hc.2.1, full_wf bb hok.2.2.2.2 hc.2.2⟩
  | .post op l, hok, hc => by
    rw [FE.ok] at hok; rw [FE.canon] at hc
    rw [FE.toExpr, Expr.wf]
    exact ⟨hok.1.imp hc.1 hc.2.1, full_wf l hok.2 hc.2.2⟩
  | .index lb l i, hok, hc => by
    rw [FE.ok] at hok; rw [FE.canon] at hc
    rw [FE.toExpr, Expr.wf]
    exact ⟨full_wf l hok.2.1 hc.1, full_wf i hok.2.2 hc.2⟩
  | .dot d name l, hok, hc => by
    rw [FE.ok] at hok; rw [FE.canon] at hc
    rw [FE.toExpr, Expr.wf]
    exact full_wf l hok.2.2 hc
  | .call d name l args, hok, hc => by
    rw [FE.ok] at hok; rw [FE.canon] at hc
    rw [FE.toExpr, Expr.wf]
    exact ⟨full_wf l hok.2.2.1 hc.1, full_wfList args hok.2.2.2 hc.2⟩
  | .arr lb els, hok, hc => by
    rw [FE.ok] at hok; rw [FE.canon] at hc
    rw [FE.toExpr, Expr.wf]
    exact full_wfList els hok.2 hc
  | .obj lbr ps, hok, hc => by
    rw [FE.ok] at hok; rw [FE.canon] at hc
    rw [FE.toExpr, Expr.wf]
    exact full_wfPairs ps hok.2 hc [] (by simp [Expr.wfPairs]) (by simp [KeysDistinct])
theorem full_wfList : ∀ (es : FEs), es.ok → es.canon → Expr.wfList es.toExprs
  | .nil, _, _ => by rw [FEs.toExprs]; simp [Expr.wfList]
  | .cons e r, hok, hc => by
    rw [FEs.ok] at hok; rw [FEs.canon] at hc
    rw [FEs.toExprs, Expr.wfList]
    exact ⟨full_wf e hok.1 hc.1, full_wfList r hok.2 hc.2⟩
theorem full_wfPairs : ∀ (ps : FPs), ps.ok → ps.canon → ∀ acc, Expr.wfPairs acc → KeysDistinct acc →
    Expr.wfPairs (ps.toPairs acc) ∧ KeysDistinct (ps.toPairs acc)
  | .nil, _, _ => by intro acc h1 h2; rw [FPs.toPairs]; exact ⟨h1, h2⟩
  | .cons key colon v r, hok, hc => by
    intro acc h1 h2
    rw [FPs.ok] at hok; rw [FPs.canon] at hc
    rw [FPs.toPairs]
    exact full_wfPairs r hok.2.2.2 hc.2 _ (mapSet_wfPairs acc key.lit v.toExpr h1 (full_wf v hok.2.2.1 hc.1))
      (mapSet_keysDistinct acc key.lit v.toExpr h2)
end

/-- the fragment's trees without tokens: `e.toExpr.toS` when the operator tokens are canonical (`fragment_wf`) -/
def BE.toS : BE → SExpr
  | .ident t => .var t.lit
  | .pre op r => if op.ty == .SUB then .neg r.toS else .not r.toS
  | .bin op l r => .bin op.lit l.toS r.toS
  | .tern _ _ cnd a bb => .tern cnd.toS a.toS bb.toS

theorem fragment_wf : ∀ (e : BE), e.ok → e.canon → Expr.wf e.toExpr ∧ e.toExpr.toS = e.toS
  | .ident t, _, _ => by simp [BE.toExpr, Expr.wf, Expr.toS, BE.toS]
  | .pre op r, hok, hc => by
    obtain ⟨hop, hr⟩ := hok
    obtain ⟨h1, h2, hcr⟩ := hc
    obtain ⟨ihw, ihs⟩ := fragment_wf r hr hcr
    rcases hop with ho | ho
    · have hl := h1 ho
      simp [BE.toExpr, Expr.wf, Expr.toS, BE.toS, hl, ho, ihw, ihs]
    · have hl := h2 ho
      have hne : (b "!" == b "-") = false := by decide
      simp [BE.toExpr, Expr.wf, Expr.toS, BE.toS, hl, ho, ihw, ihs, hne]
  | .bin op l r, hok, hc => by
    obtain ⟨_, hl, hr⟩ := hok
    obtain ⟨il, ils⟩ := fragment_wf l hl hc.1
    obtain ⟨ir, irs⟩ := fragment_wf r hr hc.2
    simp [BE.toExpr, Expr.wf, Expr.toS, BE.toS, il, ir, ils, irs]
  | .tern q c cnd a bb, hok, hc => by
    obtain ⟨_, _, h1, h2, h3⟩ := hok
    obtain ⟨i1, s1⟩ := fragment_wf cnd h1 hc.1
    obtain ⟨i2, s2⟩ := fragment_wf a h2 hc.2.1
    obtain ⟨i3, s3⟩ := fragment_wf bb h3 hc.2.2
    simp [BE.toExpr, Expr.wf, Expr.toS, BE.toS, i1, i2, i3, s1, s2, s3]

/-- a parse that returns a well-formed tree, followed by the evaluator: the result `Agrees` (SpecSim) with the denotation of the
    tree (of `.oof` and `.panic` it says nothing) -/
theorem RParses.evals {prec : Nat} {ts ts' : List Token} {ex : Expr} (h : RParses prec ts ex ts') (hw : ex.wf) :
    ∃ N, ∀ f, N ≤ f → ∀ p : PS, ∀ (fuel : Nat) (c : Ctx) (env : Env), c.custom = [] →
      Agrees (evalExpr fuel c env (parseExpression f prec (p.withToks ts)).1) (seval env ex.toS) :=
  let ⟨N, hN⟩ := h
  ⟨N, fun f hf p fuel c env hc => by rw [hN f hf p]; exact (eval_sim fuel).1 c env ex hc hw⟩

end Tw
