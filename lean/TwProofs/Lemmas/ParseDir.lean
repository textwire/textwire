/-
  TwProofs.Lemmas.ParseDir — the parser on the directives with an argument list: `@use("x")`, `@reserve("x")`,
  `@insert("x", "y")` and `@component("name", { key: "text" })`, as equations from any parser state (the tables
  `useName`, `inserts`, `reserves`, `components`, `nextId` are carried along).  As in Go (`parseUseStmt`,
  `parseReserveStmt`, the expression form of `parseInsertStmt`) the first three return with the cursor on their last
  argument and leave the ")" to the statement loop, where it costs a turn of its own; `parseComponentStmt` moves onto
  its ")", which the loop steps over in the same turn.  Hence two loop lemmas in ParseStmts, `loop_cons_rparen` (two
  turns) and `loop_cons_of` (one), and the fuel `2 * items.length + 3` of `loop_litems` / `loop_inserts` against
  `items.length + 6` of `loop_pitems`.
-/
import TwProofs.Lemmas.ParseStmts
namespace Tw

theorem aliasPath_of_ne (p : PS) (dir : String) (hne : p.cur.lit ≠ []) :
    aliasPath p dir = (if p.cur.lit.headD 0 == 126 then b dir ++ [47] ++ p.cur.lit.drop 1 else p.cur.lit, p) := by
  unfold aliasPath
  have : p.cur.lit.isEmpty = false := by simpa using hne
  simp only [this, Bool.false_eq_true, if_false]
  split <;> rfl

/-- the name a layout is looked up under: `~x` is `layouts/x` -/
def layoutName (n : Bytes) : Bytes := if n.headD 0 == 126 then b "layouts" ++ [47] ++ n.drop 1 else n

theorem parse_use_stmt (g : Nat) (p : PS) (t1 t2 t3 t4 : Token) (rest : List Token)
    (hp : p.toks = t1 :: t2 :: t3 :: t4 :: rest) (h1 : t1.ty = .USE) (h2 : t2.ty = .LPAREN) (h3 : t3.ty = .STR) (h4 : t4.ty = .RPAREN)
    (hclean : Clean rest) (hne : t3.lit ≠ []) :
    parseStatement (g + 1) p =
      (.use t1 (layoutName t3.lit), { p with toks := t3 :: t4 :: rest, useName := some (t1, layoutName t3.lit) }) := by
  have c4 : NoIll (t4 :: rest) := .of_ty h4 hclean
  conv => lhs; rw [← withToks_self hp, parseStatement_succ]
  unfold statementBody
  simp only [withToks_cur, h1, withToks_expectPeek p t1 t2 _ h2 (.of_ty h3 c4), Bool.not_true, Bool.false_eq_true, if_false, withToks_next p t2 t3 _ c4]
  rw [aliasPath_of_ne (p.withToks (t3 :: t4 :: rest)) _ hne]
  rfl

theorem parse_reserve_stmt (g : Nat) (p : PS) (t1 t2 t3 t4 : Token) (rest : List Token)
    (hp : p.toks = t1 :: t2 :: t3 :: t4 :: rest) (h1 : t1.ty = .RESERVE) (h2 : t2.ty = .LPAREN) (h4 : t4.ty = .RPAREN)
    (h3 : t3.ty ≠ .ILLEGAL) (hclean : Clean rest) :
    parseStatement (g + 1) p =
      (.reserve t1 t3.lit p.nextId,
        { p with toks := t3 :: t4 :: rest, reserves := mapSet p.reserves t3.lit p.nextId, nextId := p.nextId + 1 }) := by
  have c4 : NoIll (t4 :: rest) := .of_ty h4 hclean
  conv => lhs; rw [← withToks_self hp, parseStatement_succ]
  unfold statementBody
  simp only [withToks_cur, h1, withToks_expectPeek p t1 t2 _ h2 (.cons h3 c4), Bool.not_true, Bool.false_eq_true, if_false, withToks_next p t2 t3 _ c4]
  rfl

/-- of the fuel `g + 3` one unit goes to the statement and the rest to the second literal, an expression that needs 2 -/
theorem parse_insert_stmt (g : Nat) (p : PS) (t1 t2 t3 t4 t5 t6 : Token) (rest : List Token)
    (hp : p.toks = t1 :: t2 :: t3 :: t4 :: t5 :: t6 :: rest) (h1 : t1.ty = .INSERT) (h2 : t2.ty = .LPAREN) (h3 : t3.ty = .STR)
    (h4 : t4.ty = .COMMA) (h5 : t5.ty = .STR) (h6 : t6.ty = .RPAREN) (hclean : Clean rest)
    (hnew : mapGet p.inserts t3.lit = none) :
    parseStatement (g + 3) p =
      (.insert t1 t3.lit (some (.str t5 t5.lit)) none,
        { p with toks := t5 :: t6 :: rest,
                 inserts := mapSet p.inserts t3.lit { tok := t1, name := t3.lit, arg := some (.str t5 t5.lit), block := none } }) := by
  have c5 : NoIll (t5 :: t6 :: rest) := .of_ty h5 (.of_ty h6 hclean)
  have c3 : NoIll (t3 :: t4 :: t5 :: t6 :: rest) := .of_ty h3 (.of_ty h4 c5)
  have harg : ParsesAt 2 LOWEST (t5 :: t6 :: rest) (.str t5 t5.lit) (t5 :: t6 :: rest) := .one (atomExpr_str h5) (.rparen h6)
  have hnew' : mapGet (p.withToks (t3 :: t4 :: t5 :: t6 :: rest)).inserts t3.lit = none := hnew
  conv => lhs; rw [← withToks_self hp, parseStatement_succ]
  unfold statementBody
  simp only [withToks_cur, h1]
  rw [parseInsertStmt_eq, expectThen_on p t1 t2 _ h2 c3, withToks_next p t2 t3 _ c3.tail]
  simp only [withToks_cur, hnew', Option.isSome_none, Bool.false_eq_true, if_false, withToks_peekIs, h4, beq_self_eq_true, if_true,
    withToks_next p t3 t4 _ c5, withToks_next p t4 t5 _ c5.tail, harg (g + 2) (by omega) p]
  rfl

theorem ParsesAt.obj1 {t5 t6 t7 t8 t9 t10 : Token} {rest : List Token} (h5 : t5.ty = .LBRACE) (h6 : t6.ty = .IDENT) (h7 : t7.ty = .COLON)
    (h8 : t8.ty = .STR) (h9 : t9.ty = .RBRACE) (h10 : t10.ty = .RPAREN) (hclean : NoIll rest) :
    ParsesAt 4 LOWEST (t5 :: t6 :: t7 :: t8 :: t9 :: t10 :: rest) (.obj t5 [(t6.lit, .str t8 t8.lit)]) (t9 :: t10 :: rest) :=
  have c10 : NoIll (t10 :: rest) := .of_ty h10 hclean
  have c8 : NoIll (t8 :: t9 :: t10 :: rest) := .of_ty h8 (.of_ty h9 c10)
  .obj h5 (by rw [h6]; decide) (.of_ty h7 c8)
    (.last (.inl h6) h7 h9 c8 c10 (.one (atomExpr_str h8) (.le (by rw [h9]; decide))))
    (.stop (.rparen h10))

theorem parse_obj1 (g : Nat) (p : PS) (t5 t6 t7 t8 t9 t10 : Token) (rest : List Token)
    (hp : p.toks = t5 :: t6 :: t7 :: t8 :: t9 :: t10 :: rest) (h5 : t5.ty = .LBRACE) (h6 : t6.ty = .IDENT) (h7 : t7.ty = .COLON)
    (h8 : t8.ty = .STR) (h9 : t9.ty = .RBRACE) (h10 : t10.ty = .RPAREN) (hclean : Clean rest) :
    parseExpression (g + 4) LOWEST p = (.obj t5 [(t6.lit, .str t8 t8.lit)], { p with toks := t9 :: t10 :: rest }) :=
  (ParsesAt.obj1 h5 h6 h7 h8 h9 h10 hclean).on (by omega) hp

/-- the name a component file is looked up under: `~x` is `components/x` -/
def compName (n : Bytes) : Bytes := if n.headD 0 == 126 then b "components" ++ [47] ++ n.drop 1 else n

/-- no `@slot` token behind the ")" of a component use, under which `componentSlots` parses nothing.  Asked of the whole list, since
    `componentSlots` looks at the next token and, behind a text of white space, at the one after -/
def NoSlot (l : List Token) : Prop := ∀ x ∈ l, x.ty ≠ .SLOT

theorem componentSlots_none (pslots : List SlotUse → PS → List SlotUse × PS) (p : PS) (t : Token) (rest : List Token)
    (hp : p.toks = t :: rest) (hne : rest ≠ []) (hns : NoSlot rest) : componentSlots pslots p = ([], p) := by
  cases rest with
  | nil => exact absurd rfl hne
  | cons t2 r2 =>
    have h1 : p.peekIs .SLOT = false := by
      simpa [PS.peekIs, PS.peek, hp] using hns t2 (by simp)
    have hn : p.next.toks = t2 :: r2 := by rw [next_toks_tail, hp]; rfl
    have h2 : p.next.peekIs .SLOT = false := by
      have hm : p.next.peek ∈ t2 :: r2 := by
        unfold PS.peek
        rw [hn]
        cases r2 <;> simp
      simpa [PS.peekIs] using hns _ hm
    unfold componentSlots
    simp only [h1, h2, Bool.false_eq_true, if_false]
    split <;> rfl

/-- `@component("name", { key: "text" })` with no `@slot` after it -/
theorem parse_component_stmt (g : Nat) (p : PS) (t1 t2 t3 t4 t5 t6 t7 t8 t9 t10 : Token) (rest : List Token)
    (hp : p.toks = t1 :: t2 :: t3 :: t4 :: t5 :: t6 :: t7 :: t8 :: t9 :: t10 :: rest)
    (h1 : t1.ty = .COMPONENT) (h2 : t2.ty = .LPAREN) (h3 : t3.ty = .STR) (h4 : t4.ty = .COMMA) (h5 : t5.ty = .LBRACE)
    (h6 : t6.ty = .IDENT) (h7 : t7.ty = .COLON) (h8 : t8.ty = .STR) (h9 : t9.ty = .RBRACE) (h10 : t10.ty = .RPAREN)
    (hclean : Clean rest) (hne : t3.lit ≠ []) (hrne : rest ≠ []) (hns : NoSlot rest) :
    parseStatement (g + 5) p =
      (.component t1 (compName t3.lit) (some [(t6.lit, .str t8 t8.lit)]) p.nextId,
        { p with toks := t10 :: rest,
                 components := p.components ++ [{ tok := t1, name := compName t3.lit, cid := p.nextId, slots := [] }],
                 nextId := p.nextId + 1 }) := by
  have c5 : NoIll (t5 :: t6 :: t7 :: t8 :: t9 :: t10 :: rest) :=
    .of_ty h5 (.of_ty h6 (.of_ty h7 (.of_ty h8 (.of_ty h9 (.of_ty h10 hclean)))))
  have c3 : NoIll (t3 :: t4 :: t5 :: t6 :: t7 :: t8 :: t9 :: t10 :: rest) := .of_ty h3 (.of_ty h4 c5)
  have harg : componentArg (parseExpression (g + 4)) (p.withToks (t3 :: t4 :: t5 :: t6 :: t7 :: t8 :: t9 :: t10 :: rest)) =
      (some (some [(t6.lit, .str t8 t8.lit)]), p.withToks (t9 :: t10 :: rest)) := by
    unfold componentArg
    simp only [withToks_peekIs, h4, beq_self_eq_true, if_true, withToks_next p t3 t4 _ c5, withToks_next p t4 t5 _ c5.tail,
      ParsesAt.obj1 h5 h6 h7 h8 h9 h10 hclean (g + 4) (by omega) p]
  conv => lhs; rw [← withToks_self hp, parseStatement_succ]
  unfold statementBody
  simp only [withToks_cur, h1]
  unfold parseComponentStmt
  rw [withToks_expectPeek p t1 t2 _ h2 c3]
  simp only [Bool.not_true, Bool.false_eq_true, if_false]
  rw [withToks_next p t2 t3 _ c3.tail, aliasPath_of_ne (p.withToks (t3 :: t4 :: t5 :: t6 :: t7 :: t8 :: t9 :: t10 :: rest)) _ hne]
  simp only []
  rw [harg]
  simp only []
  rw [withToks_expectPeek p t9 t10 rest h10 hclean]
  simp only [Bool.not_true, Bool.false_eq_true, if_false]
  rw [componentSlots_none _ (p.withToks (t10 :: rest)) t10 rest rfl hrne hns]
  rfl

theorem loop_comp (f : Nat) (acc : List Stmt) (p p1 : PS) (st : Stmt) (tf t10 tn : Token) (r rest : List Token)
    (hp : p.toks = tf :: r) (hf : tf.ty ≠ .EOF)
    (hst : parseStatement (f + 1) p = (st, p1)) (hbad : st.isBad = false)
    (hp1 : p1.toks = t10 :: tn :: rest) (h10 : t10.ty = .RPAREN) (hclean : Clean rest) :
    parseProgramLoop (f + 2) acc p = parseProgramLoop (f + 1) (acc ++ [st]) { p1 with toks := tn :: rest } :=
  loop_turn_of hst hp hf hbad hp1 (by rw [h10]; decide) hclean acc

end Tw
