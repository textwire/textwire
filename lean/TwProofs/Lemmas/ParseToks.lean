/-
  TwProofs.Lemmas.ParseToks — every token stored in a node of the parsed program (and in the
  tables the parser fills: inserts, component uses, the `@use`) is one of the tokens the parser was
  given: the parser never makes a token up, never changes one (C13: the lines the evaluator
  reports are lines of tokens of the source).  Here: the token lists of the trees and the invariant
  of the parser state; the walk of the parser is `ParseWalk`.
-/
import TwProofs.Lemmas.EvalInv
import TwProofs.Lemmas.ParseShape

namespace Tw

mutual
/-- the tokens of a tree, in the order of `Expr.lines` / `Stmt.lines`: `lines` is `toks.map Token.errorLine` (`Expr.lines_eq`, `Stmt.lines_eq`) -/
def Expr.toks : Expr → List Token
  | .bad => []
  | .ident t _ => [t]
  | .int t _ => [t]
  | .float t _ => [t]
  | .str t _ => [t]
  | .nil t => [t]
  | .bool t _ => [t]
  | .arr t es => t :: Expr.toksL es
  | .obj t ps => t :: Expr.toksP ps
  | .pre t _ r => t :: r.toks
  | .inf t _ l r => t :: (l.toks ++ r.toks)
  | .post t _ l => t :: l.toks
  | .tern t c a bb => t :: (c.toks ++ (a.toks ++ bb.toks))
  | .index t l i => t :: (l.toks ++ i.toks)
  | .dot t l _ => t :: l.toks
  | .call t r _ args => t :: (r.toks ++ Expr.toksL args)
def Expr.toksL : List Expr → List Token
  | [] => []
  | e :: r => e.toks ++ Expr.toksL r
def Expr.toksP : List (Bytes × Expr) → List Token
  | [] => []
  | (_, e) :: r => e.toks ++ Expr.toksP r
end

mutual
theorem Expr.lines_eq : ∀ e : Expr, e.lines = e.toks.map Token.errorLine
  | .bad => rfl
  | .ident _ _ => rfl
  | .int _ _ => rfl
  | .float _ _ => rfl
  | .str _ _ => rfl
  | .nil _ => rfl
  | .bool _ _ => rfl
  | .arr t es => by simp [Expr.lines, Expr.toks, Expr.linesL_eq es]
  | .obj t ps => by simp [Expr.lines, Expr.toks, Expr.linesP_eq ps]
  | .pre t _ r => by simp [Expr.lines, Expr.toks, Expr.lines_eq r]
  | .inf t _ l r => by simp [Expr.lines, Expr.toks, Expr.lines_eq l, Expr.lines_eq r]
  | .post t _ l => by simp [Expr.lines, Expr.toks, Expr.lines_eq l]
  | .tern t c a bb => by simp [Expr.lines, Expr.toks, Expr.lines_eq c, Expr.lines_eq a, Expr.lines_eq bb]
  | .index t l i => by simp [Expr.lines, Expr.toks, Expr.lines_eq l, Expr.lines_eq i]
  | .dot t l _ => by simp [Expr.lines, Expr.toks, Expr.lines_eq l]
  | .call t r _ args => by simp [Expr.lines, Expr.toks, Expr.lines_eq r, Expr.linesL_eq args]
theorem Expr.linesL_eq : ∀ es : List Expr, Expr.linesL es = (Expr.toksL es).map Token.errorLine
  | [] => rfl
  | e :: r => by simp [Expr.linesL, Expr.toksL, Expr.lines_eq e, Expr.linesL_eq r]
theorem Expr.linesP_eq : ∀ ps : List (Bytes × Expr), Expr.linesP ps = (Expr.toksP ps).map Token.errorLine
  | [] => rfl
  | (_, e) :: r => by simp [Expr.linesP, Expr.toksP, Expr.lines_eq e, Expr.linesP_eq r]
end

def optT {α} (f : α → List Token) : Option α → List Token
  | none => []
  | some a => f a

mutual
def Stmt.toks : Stmt → List Token
  | .bad => []
  | .html t => [t]
  | .expr t e => t :: e.toks
  | .assign t _ e => t :: e.toks
  | .ifS t c cons alts alt => t :: (c.toks ++ (Stmt.toksL cons ++ (Stmt.toksA alts ++ Stmt.toksO alt)))
  | .forS t init cnd post body alt =>
    t :: (Stmt.toksOS init ++ (optT Expr.toks cnd ++ (Stmt.toksOS post ++ (Stmt.toksL body ++ Stmt.toksO alt))))
  | .eachS t _ arr body alt => t :: (arr.toks ++ (Stmt.toksL body ++ Stmt.toksO alt))
  | .use t _ => [t]
  | .reserve t _ _ => [t]
  | .insert t _ arg block => t :: (optT Expr.toks arg ++ Stmt.toksO block)
  | .breakIf t c => t :: c.toks
  | .continueIf t c => t :: c.toks
  | .component t _ arg _ => t :: optT Expr.toksP arg
  | .slot t _ body => t :: Stmt.toksO body
  | .dump t args => t :: Expr.toksL args
  | .brk t => [t]
  | .cont t => [t]
def Stmt.toksL : List Stmt → List Token
  | [] => []
  | s :: r => s.toks ++ Stmt.toksL r
def Stmt.toksO : Option (List Stmt) → List Token
  | none => []
  | some ss => Stmt.toksL ss
def Stmt.toksOS : Option Stmt → List Token
  | none => []
  | some s => s.toks
def Stmt.toksA : List (Expr × List Stmt) → List Token
  | [] => []
  | (e, ss) :: r => e.toks ++ (Stmt.toksL ss ++ Stmt.toksA r)
end

theorem optL_eq {α} (f : α → List Nat) (g : α → List Token) (h : ∀ a, f a = (g a).map Token.errorLine) :
    ∀ o : Option α, optL f o = (optT g o).map Token.errorLine
  | none => rfl
  | some a => h a

mutual
theorem Stmt.lines_eq : ∀ s : Stmt, s.lines = s.toks.map Token.errorLine
  | .bad => rfl
  | .html _ => rfl
  | .expr t e => by simp [Stmt.lines, Stmt.toks, Expr.lines_eq e]
  | .assign t _ e => by simp [Stmt.lines, Stmt.toks, Expr.lines_eq e]
  | .ifS t c cons alts alt => by
    simp [Stmt.lines, Stmt.toks, Expr.lines_eq c, Stmt.linesL_eq cons, Stmt.linesA_eq alts, Stmt.linesO_eq alt]
  | .forS t init cnd post body alt => by
    simp [Stmt.lines, Stmt.toks, Stmt.linesOS_eq init, optL_eq _ _ Expr.lines_eq cnd, Stmt.linesOS_eq post,
      Stmt.linesL_eq body, Stmt.linesO_eq alt]
  | .eachS t _ arr body alt => by simp [Stmt.lines, Stmt.toks, Expr.lines_eq arr, Stmt.linesL_eq body, Stmt.linesO_eq alt]
  | .use _ _ => rfl
  | .reserve _ _ _ => rfl
  | .insert t _ arg block => by simp [Stmt.lines, Stmt.toks, optL_eq _ _ Expr.lines_eq arg, Stmt.linesO_eq block]
  | .breakIf t c => by simp [Stmt.lines, Stmt.toks, Expr.lines_eq c]
  | .continueIf t c => by simp [Stmt.lines, Stmt.toks, Expr.lines_eq c]
  | .component t _ arg _ => by simp [Stmt.lines, Stmt.toks, optL_eq _ _ Expr.linesP_eq arg]
  | .slot t _ body => by simp [Stmt.lines, Stmt.toks, Stmt.linesO_eq body]
  | .dump t args => by simp [Stmt.lines, Stmt.toks, Expr.linesL_eq args]
  | .brk _ => rfl
  | .cont _ => rfl
theorem Stmt.linesL_eq : ∀ ss : List Stmt, Stmt.linesL ss = (Stmt.toksL ss).map Token.errorLine
  | [] => rfl
  | s :: r => by simp [Stmt.linesL, Stmt.toksL, Stmt.lines_eq s, Stmt.linesL_eq r]
theorem Stmt.linesO_eq : ∀ o : Option (List Stmt), Stmt.linesO o = (Stmt.toksO o).map Token.errorLine
  | none => rfl
  | some ss => by simp [Stmt.linesO, Stmt.toksO, Stmt.linesL_eq ss]
theorem Stmt.linesOS_eq : ∀ o : Option Stmt, Stmt.linesOS o = (Stmt.toksOS o).map Token.errorLine
  | none => rfl
  | some s => by simp [Stmt.linesOS, Stmt.toksOS, Stmt.lines_eq s]
theorem Stmt.linesA_eq : ∀ a : List (Expr × List Stmt), Stmt.linesA a = (Stmt.toksA a).map Token.errorLine
  | [] => rfl
  | (e, ss) :: r => by simp [Stmt.linesA, Stmt.toksA, Expr.lines_eq e, Stmt.linesL_eq ss, Stmt.linesA_eq r]
end

def InsertDef.toks (i : InsertDef) : List Token := i.tok :: (optT Expr.toks i.arg ++ Stmt.toksO i.block)
def SlotUse.toks (s : SlotUse) : List Token := s.tok :: Stmt.toksL s.body
def CompUse.toks (c : CompUse) : List Token := c.tok :: c.slots.flatMap SlotUse.toks

def TIn (S : List Token) (l : List Token) : Prop := ∀ x ∈ l, x ∈ S

theorem TIn.nil (S : List Token) : TIn S [] := fun _ h => by cases h
theorem TIn.cons {S : List Token} {t : Token} {l : List Token} (ht : t ∈ S) (hl : TIn S l) : TIn S (t :: l) :=
  List.forall_mem_cons.mpr ⟨ht, hl⟩
theorem TIn.append {S : List Token} {a c : List Token} (ha : TIn S a) (hc : TIn S c) : TIn S (a ++ c) :=
  List.forall_mem_append.mpr ⟨ha, hc⟩
theorem TIn.one {S : List Token} {t : Token} (ht : t ∈ S) : TIn S [t] := TIn.cons ht (TIn.nil S)
theorem TIn.left {S : List Token} {a c : List Token} (h : TIn S (a ++ c)) : TIn S a := fun x hx => h x (List.mem_append_left _ hx)
theorem TIn.right {S : List Token} {a c : List Token} (h : TIn S (a ++ c)) : TIn S c := fun x hx => h x (List.mem_append_right _ hx)

structure TokSrc (S : List Token) (p : PS) : Prop where
  ne : p.toks ≠ []
  sub : TIn S p.toks
  ins : ∀ kv ∈ p.inserts, TIn S kv.2.toks
  comps : ∀ cu ∈ p.components, TIn S cu.toks
  use : ∀ u, p.useName = some u → u.1 ∈ S

variable {S : List Token}

theorem TokSrc.cur {p : PS} (h : TokSrc S p) : p.cur ∈ S := by
  unfold PS.cur
  cases ht : p.toks with
  | nil => exact absurd ht h.ne
  | cons t r => exact h.sub t (by rw [ht]; simp)

theorem TokSrc.peek {p : PS} (h : TokSrc S p) : p.peek ∈ S := by
  unfold PS.peek
  cases ht : p.toks with
  | nil => exact absurd ht h.ne
  | cons t r =>
    cases r with
    | nil => exact h.sub t (by rw [ht]; simp)
    | cons t2 r2 => exact h.sub t2 (by rw [ht]; simp)

theorem Adv.tokSrc {p q : PS} (h : Adv p q) (hs : TokSrc S p) : TokSrc S q :=
  ⟨h.ne hs.ne, fun x hx => hs.sub x (h.toks.subset hx), by rw [h.ins]; exact hs.ins, by rw [h.comps]; exact hs.comps,
    by rw [h.use]; exact hs.use⟩

theorem TokSrc.err {p : PS} (h : TokSrc S p) (l : Nat) (c : String) (a : List Bytes) : TokSrc S (p.err l c a) :=
  (adv_err p l c a).tokSrc h
theorem TokSrc.oof {p : PS} (h : TokSrc S p) : TokSrc S p.outOfFuel := ⟨h.ne, h.sub, h.ins, h.comps, h.use⟩

theorem TokSrc.next {p : PS} (h : TokSrc S p) : TokSrc S p.next := (adv_next p).tokSrc h

theorem TokSrc.expectPeek {p : PS} (h : TokSrc S p) (t : TT) : TokSrc S (p.expectPeek t).2 :=
  (adv_expectPeek p t).tokSrc h

theorem TokSrc.aliasPath {p : PS} (h : TokSrc S p) (s : String) : TokSrc S (aliasPath p s).2 := (adv_aliasPath p s).tokSrc h

theorem Expr.mem_toksP (x : Token) : ∀ ps : List (Bytes × Expr), x ∈ Expr.toksP ps ↔ ∃ p ∈ ps, x ∈ p.2.toks
  | [] => by simp [Expr.toksP]
  | (k, e) :: r => by simp [Expr.toksP, Expr.mem_toksP x r]

theorem Stmt.mem_toksL (x : Token) : ∀ ss : List Stmt, x ∈ Stmt.toksL ss ↔ ∃ s ∈ ss, x ∈ s.toks
  | [] => by simp [Stmt.toksL]
  | s :: r => by simp [Stmt.toksL, Stmt.mem_toksL x r]

theorem Expr.toksP_mapSet {ps : List (Bytes × Expr)} {k : Bytes} {v : Expr} (hp : TIn S (Expr.toksP ps)) (hv : TIn S v.toks) :
    TIn S (Expr.toksP (mapSet ps k v)) := by
  intro x hx
  rw [Expr.mem_toksP] at hx
  obtain ⟨q, hq, hxq⟩ := hx
  rcases mapSet_mem hq with h | h
  · exact hp x ((Expr.mem_toksP x ps).mpr ⟨q, h, hxq⟩)
  · rw [h] at hxq; exact hv x hxq

theorem Expr.toksL_append (a c : List Expr) : Expr.toksL (a ++ c) = Expr.toksL a ++ Expr.toksL c := by
  induction a with
  | nil => simp [Expr.toksL]
  | cons e r ih => simp [Expr.toksL, ih]

theorem Stmt.toksL_append (a c : List Stmt) : Stmt.toksL (a ++ c) = Stmt.toksL a ++ Stmt.toksL c := by
  induction a with
  | nil => simp [Stmt.toksL]
  | cons e r ih => simp [Stmt.toksL, ih]

theorem Stmt.toksA_append (a c : List (Expr × List Stmt)) : Stmt.toksA (a ++ c) = Stmt.toksA a ++ Stmt.toksA c := by
  induction a with
  | nil => simp [Stmt.toksA]
  | cons e r ih => obtain ⟨e1, e2⟩ := e; simp [Stmt.toksA, ih]

theorem TokSrc.setUse {p : PS} (h : TokSrc S p) (t : Token) (name : Bytes) (ht : t ∈ S) : TokSrc S { p with useName := some (t, name) } :=
  ⟨h.ne, h.sub, h.ins, h.comps, fun u hu => by cases hu; exact ht⟩

theorem TokSrc.reserve {p : PS} (h : TokSrc S p) (r : List (Bytes × Nat)) (n : Nat) : TokSrc S { p with reserves := r, nextId := n } :=
  ⟨h.ne, h.sub, h.ins, h.comps, h.use⟩

theorem TokSrc.setInsert {p : PS} (h : TokSrc S p) (name : Bytes) (ins : InsertDef) (hi : TIn S ins.toks) :
    TokSrc S { p with inserts := mapSet p.inserts name ins } := by
  refine ⟨h.ne, h.sub, ?_, h.comps, h.use⟩
  intro kv hkv
  rcases mapSet_mem hkv with hx | hx
  · exact h.ins kv hx
  · rw [hx]; exact hi

theorem TokSrc.addComponent {p : PS} (h : TokSrc S p) (cu : CompUse) (n : Nat) (hc : TIn S cu.toks) :
    TokSrc S { p with components := p.components ++ [cu], nextId := n } := by
  refine ⟨h.ne, h.sub, h.ins, ?_, h.use⟩
  intro x hx
  rcases List.mem_append.mp hx with hx | hx
  · exact h.comps x hx
  · rw [List.mem_singleton.mp hx]; exact hc

theorem TIn.compUse {t : Token} {name : Bytes} {cid : Nat} {slots : List SlotUse} (ht : t ∈ S) (hsl : ∀ s ∈ slots, TIn S s.toks) :
    TIn S ({ tok := t, name := name, cid := cid, slots := slots } : CompUse).toks := by
  unfold CompUse.toks
  refine TIn.cons ht ?_
  intro x hx
  obtain ⟨s, hs, hxs⟩ := List.mem_flatMap.mp hx
  exact hsl s hs x hxs

theorem initParser_tokSrc (toks : List Token) (base : Nat) (hne : toks ≠ []) : TokSrc toks (initParser toks base) :=
  (adv_initParser toks base).tokSrc
    ⟨hne, fun x hx => hx, fun kv h => (by cases h), fun cu h => (by cases h), fun u h => (by cases h)⟩

def Program.toks (prog : Program) : List Token :=
  prog.tok :: (Stmt.toksL prog.stmts ++ (prog.inserts.flatMap (fun kv => kv.2.toks) ++ (prog.components.flatMap CompUse.toks ++
    (match prog.useName with | some u => [u.1] | none => []))))

theorem Program.stmts_toks (prog : Program) : Stmt.toksL prog.stmts ⊆ prog.toks :=
  fun _ ht => List.mem_cons_of_mem _ (List.mem_append_left _ ht)

theorem Program.insert_toks {prog : Program} {kv : Bytes × InsertDef} (hkv : kv ∈ prog.inserts) : kv.2.toks ⊆ prog.toks :=
  fun _ ht => List.mem_cons_of_mem _ (List.mem_append_right _ (List.mem_append_left _ (List.mem_flatMap.mpr ⟨kv, hkv, ht⟩)))

theorem Program.comp_toks {prog : Program} {cu : CompUse} (hcu : cu ∈ prog.components) : cu.toks ⊆ prog.toks :=
  fun _ ht => List.mem_cons_of_mem _ (List.mem_append_right _ (List.mem_append_right _ (List.mem_append_left _
    (List.mem_flatMap.mpr ⟨cu, hcu, ht⟩))))

theorem Program.use_tok {prog : Program} {u : Token × Bytes} (hu : prog.useName = some u) : u.1 ∈ prog.toks := by
  unfold Program.toks
  refine List.mem_cons_of_mem _ (List.mem_append_right _ (List.mem_append_right _ (List.mem_append_right _ ?_)))
  rw [hu]
  exact List.mem_singleton.mpr rfl

theorem CompUse.slot_toks {use : CompUse} {sl : SlotUse} (h : sl ∈ use.slots) : Stmt.toksL sl.body ⊆ use.toks :=
  fun _ hx => List.mem_cons_of_mem _ (List.mem_flatMap.mpr ⟨sl, h, List.mem_cons_of_mem _ hx⟩)

end Tw
