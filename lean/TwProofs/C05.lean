/-
  TwProofs.C05 — text outside Textwire syntax is emitted byte for byte.
-/
import TwProofs.Lemmas.TextPieces
import TwProofs.Lemmas.TextRuns
import TwProofs.Lemmas.TextVars

namespace Tw.C05
open Tw

/-- `readHTML` copies plain text unchanged, whatever precedes it -/
theorem readHTML_copies_plain (rest : Bytes) (prev : Byte) (h : Plain rest) :
    htmlScan prev [] 0 false rest = (rest.reverse, rest.length, false) := by
  have := htmlScan_plainBefore rest [] prev [] 0 false ((plainBefore_nil rest).mpr h)
  rw [List.append_nil] at this
  simp [this, htmlScan]

/-- **plain text renders to itself**: for *every* byte string that contains no "{{" and no '@'
    followed by a directive keyword — including ones that begin with "}}", contain single braces,
    backslashes, CR, LF, NUL or bytes ≥ 0x80 — `EvaluateString` (lexer, parser and evaluator
    composed) returns exactly that string, for every data map that converts -/
theorem plain_text_identity (custom : List ((VType × Bytes) × Nat)) (s : Bytes) (hp : Plain s)
    (data : List (Bytes × GoVal)) (env : Env) (henv : envFromMap data = .ok env) :
    ∃ out, evaluateStringPure custom s data = .ok out ∧ out = s := by
  cases s with
  | nil => exact ⟨[], items_render custom [] trivial (by decide) data env henv, rfl⟩
  | cons c r =>
    have := items_render custom [.text [.plain (c :: r)]] ⟨trivial, ⟨(plainBefore_nil _).mpr hp, trivial⟩, trivial, trivial⟩
      (by show 1 + 1 ≤ evalFuel; decide) data env henv
    exact ⟨c :: r, by simpa [itemsSrc, Item.src, segsSrc, Seg.src, itemsLits, segsLit, Seg.lit] using this, rfl⟩

/-- a text statement evaluates to its token's literal -/
theorem html_stmt_verbatim (fuel : Nat) (c : Ctx) (env : Env) (t : Token) :
    evalStmt (fuel + 1) c env (.html t) = .ok ({ text := t.lit }, env) := rfl

/-- **a comment renders nothing**: text `a`, a comment with *any* body that does not contain the
    terminator (code, directives, braces, newlines, dashes), text `b` render as `a ++ b`.
    `PlainBefore a tl`: no "{{" and no directive keyword starts inside `a` when `tl` follows;
    `lastOr a 0 ≠ 92`: `a` does not end in a backslash (that would escape the "{{") -/
theorem comment_is_silent (custom : List ((VType × Bytes) × Nat)) (a cm b : Bytes) (ha : a ≠ []) (hb : b ≠ [])
    (hpa : PlainBefore a ([123, 123, 45, 45] ++ cm ++ [45, 45, 125, 125] ++ b)) (hesc : lastOr a 0 ≠ 92) (hpb : Plain b)
    (hcm : commentScan (cm ++ [45, 45, 125, 125] ++ b) = cm.length)
    (data : List (Bytes × GoVal)) (env : Env) (henv : envFromMap data = .ok env) :
    evaluateStringPure custom (a ++ ([123, 123, 45, 45] ++ cm ++ [45, 45, 125, 125] ++ b)) data = .ok (a ++ b) := by
  obtain ⟨c, r, rfl⟩ := List.exists_cons_of_ne_nil ha
  obtain ⟨c2, r2, rfl⟩ := List.exists_cons_of_ne_nil hb
  have hok : ItemsOK [.text [.plain (c :: r)], .comment cm, .text [.plain (c2 :: r2)]] := by
    simpa [ItemsOK, SegsOK, startsRun, afterRun, itemsSrc, Item.src, segsSrc, Seg.src, plainBefore_nil] using
      (show _ ∧ _ ∧ _ ∧ _ from ⟨hpa, hesc, hcm, hpb⟩)
  have := items_render custom _ hok (by show 2 + 1 ≤ evalFuel; decide) data env henv
  simpa [itemsSrc, Item.src, segsSrc, Seg.src, itemsLits, segsLit, Seg.lit] using this

example : evaluateStringPure [] (b "one {{-- {{ x }} @if(y) }} \n - --}} two") [] = .ok (b "one  two") := by
  have := comment_is_silent [] (b "one ") (b " {{ x }} @if(y) }} \n - ") (b " two") (by decide) (by decide)
    (by decide) (by decide) (by decide) (by decide) [] [[]] rfl
  exact this

/-- **an escaped "{{" is text**: `a \{{ b` renders as `a {{ b` — the backslash disappears and
    nothing between the braces is evaluated (`Plain (123 :: b)`: `b` is plain and does not start
    with a third brace) -/
theorem escaped_braces_are_text (custom : List ((VType × Bytes) × Nat)) (a b : Bytes)
    (hpa : PlainBefore (a ++ [92]) (123 :: 123 :: b)) (hpb : Plain (123 :: b))
    (data : List (Bytes × GoVal)) (env : Env) (henv : envFromMap data = .ok env) :
    evaluateStringPure custom ((a ++ [92]) ++ 123 :: 123 :: b) data = .ok (a ++ 123 :: 123 :: b) :=
  render_escaped custom a 123 (123 :: b) hpa (by simp [isSyn]) hpb data env henv

example : evaluateStringPure [] (b "use \\{{ name }} here") [] = .ok (b "use {{ name }} here") := by
  have := escaped_braces_are_text [] (b "use ") (b " name }} here") (by decide) (by decide) [] [[]] rfl
  exact this

/-- **an escaped directive is text**: `a \@if(x) …` renders as `a @if(x) …` -/
theorem escaped_directive_is_text (custom : List ((VType × Bytes) × Nat)) (a b : Bytes)
    (hpa : PlainBefore (a ++ [92]) (64 :: b)) (hd : hasDirectivePrefix (64 :: b) = true) (hpb : Plain b)
    (data : List (Bytes × GoVal)) (env : Env) (henv : envFromMap data = .ok env) :
    evaluateStringPure custom ((a ++ [92]) ++ 64 :: b) data = .ok (a ++ 64 :: b) :=
  render_escaped custom a 64 b hpa (by simp [isSyn, hd]) hpb data env henv

example : evaluateStringPure [] (b "write \\@if(x) to branch") [] = .ok (b "write @if(x) to branch") := by
  have := escaped_directive_is_text [] (b "write ") (b "if(x) to branch") (by decide) (by decide) (by decide) [] [[]] rfl
  exact this

/-- **text and comments in general**: a template made of any number of text runs — each a sequence
    of plain pieces and escapes (`\{{`, `\@directive`) — separated by comments with arbitrary
    bodies renders as the concatenation of the runs with the escaping backslashes removed, for
    every data map and every set of custom functions: one HTML token per run (`tokenize_items`),
    one text statement per token (`parse_texts`), nothing evaluated.
    `ItemsOK`: the plain pieces hold no "{{" and no directive keyword (given what follows), every
    escape stands in front of something it escapes, a run that is followed by a comment does not
    end in a backslash, the comment bodies do not hold the terminator.  The bound on the number of
    runs is the model's evaluation fuel. -/
theorem text_and_comments_render (custom : List ((VType × Bytes) × Nat)) (items : List Item) (hok : ItemsOK items)
    (hsize : (itemsLits items).length + 1 ≤ evalFuel)
    (data : List (Bytes × GoVal)) (env : Env) (henv : envFromMap data = .ok env) :
    evaluateStringPure custom (itemsSrc items) data = .ok (itemsLits items).flatten :=
  items_render custom items hok hsize data env henv

/-- the token list of such a template: one HTML token per run, its literal the run's text -/
theorem text_and_comments_tokens (items : List Item) (hok : ItemsOK items) :
    ∃ toks e, tokenize (itemsSrc items) = some { toks := toks ++ [e], insideCode := false, panicked := false } ∧
      toks.map (·.lit) = itemsLits items ∧ (∀ t ∈ toks, t.ty = .HTML) ∧ e.ty = .EOF :=
  tokenize_items items hok

/-- **text around code, from the source bytes to the output** — templates of text runs (with any
    number of escaped "{{" and escaped directives), comments and `{{ name }}` blocks with any
    white space around the name: every byte of text appears unchanged and in order, the escaping
    backslashes are gone, the comments leave nothing, and each block is replaced by the printed
    value of its name.  The whole pipeline — lexer, parser, evaluator — for every such template
    and every data map that binds the printed names. -/
theorem text_comments_and_variables_render (custom : List ((VType × Bytes) × Nat)) (items : List VItem) (hok : VItemsOK items)
    (hsize : (vpieces items).length + 3 ≤ evalFuel)
    (data : List (Bytes × GoVal)) (env : Env) (henv : envFromMap data = .ok env) (hb : holesBound env (vpieces items)) :
    evaluateStringPure custom (vitemsSrc items) data = .ok (fill env (vpieces items)) :=
  vitems_render custom items hok hsize data env henv hb

/-- its token list: text tokens, and LBRACES IDENT RBRACES for every block whatever the spacing -/
theorem text_comments_and_variables_tokens (items : List VItem) (hok : VItemsOK items) :
    ∃ toks e, tokenize (vitemsSrc items) = some { toks := toks ++ [e], insideCode := false, panicked := false } ∧
      toks.map key = vkeys items ∧ e.ty = .EOF :=
  tokenize_vitems items hok

section example_vars
private def exItems : List VItem := [.text [.plain (b "Hi ")], .print (b " ") (b "name") (b " "), .text [.plain (b "!")], .comment (b " c "),
  .text [.plain (b " "), .esc 123, .plain (b "{ x }} ")], .print [] (b "n") [], .print (b "\n\t") (b "name") (b "\n")]
private def exEnv : Env := [[(b "n", .int 3), (b "name", .str (b "Ann"))]]
private def exData : List (Bytes × GoVal) := [(b "name", .str (b "Ann")), (b "n", .int 3)]

example : evaluateStringPure [] (b "Hi {{ name }}!{{-- c --}} \\{{ x }} {{n}}{{\n\tname\n}}") exData = .ok (b "Hi Ann! {{ x }} 3Ann") := by
  have hk : VItemsOK exItems ∧ holesBound exEnv (vpieces exItems) := by decide +kernel
  have h := text_comments_and_variables_render [] exItems hk.1 (by decide +kernel) exData exEnv (by rfl) hk.2
  have h1 : vitemsSrc exItems = b "Hi {{ name }}!{{-- c --}} \\{{ x }} {{n}}{{\n\tname\n}}" := by decide +kernel
  have h2 : fill exEnv (vpieces exItems) = b "Hi Ann! {{ x }} 3Ann" := by decide +kernel
  rw [h1, h2] at h
  exact h
end example_vars

example :
    let items : List Item := [.text [.plain (b "a "), .esc 123, .plain (b "{ b }} "), .esc 64, .plain (b "if(x)")],
      .comment (b " {{ y }} @end "), .comment [], .text [.plain (b " z\\")]]
    ItemsOK items ∧ itemsSrc items = b "a \\{{ b }} \\@if(x){{-- {{ y }} @end --}}{{----}} z\\" ∧
      (itemsLits items).flatten = b "a {{ b }} @if(x) z\\" := by
  decide +kernel

example : Plain (b "}} a { } \\ x@y @ix @ \r\n") := by decide +kernel
example : ¬ Plain (b "a{{") := by decide +kernel
example : ¬ Plain (b "x@if(") := by decide +kernel
example : (match evaluateStringPure [] (b "a\\{{ x }} b{{-- c --x} ---}} --}}c") [] with | .ok o => o == b "a{{ x }} b --}}c" | _ => false) = true := by
  decide +kernel

end Tw.C05
