/-
  TwProofs.C01 — expressions: typed arithmetic, and what the parse of an expression is.

  `TwSpec.seval` is a token-free denotational semantics (wrapping 64-bit integers, IEEE doubles,
  byte strings, same-typed operands only, no messages).  `eval_is_denotation`: the model's
  evaluator — the transcription of evaluator.go that the correspondence check ties to the real
  code — computes exactly these values and fails exactly where they do not exist.  The grouping
  of operators is decided by the parser: the facts about its precedence table are obligations in
  `TwProofs.Facts` (levels, precedences, the `parseExpression` call sites of F3); the theorems
  below state the parser's one-step behaviour the property names, the round trip
  `parse (print tree) = tree` for the whole expression language (`parse_of_print_full`), that white
  space and positions do not matter, kernel-evaluated instances of whole renders, and whole
  templates from the source bytes.
-/
import TwModel
import TwSpec
import TwProofs.Lemmas.SpecSim
import TwProofs.Lemmas.PrattRoundTrip
import TwProofs.Lemmas.PrattFragment
import TwProofs.Lemmas.PrattFull
import TwProofs.Lemmas.PrattFullEval
import TwProofs.Lemmas.LexWsTop
import TwProofs.Lemmas.PrattErase
import TwProofs.Lemmas.TextArith
import TwProofs.Lemmas.TextPrecedence
import TwProofs.Lemmas.TextTernary
import TwProofs.Lemmas.TextStrings
import TwProofs.Lemmas.TextAround

namespace Tw.C01
open Tw TwSpec

/-- **the evaluator computes the denotational semantics** (any fuel, any environment, no custom
    functions in play): a value is the specified value, an error means there is none.  Of the
    outcomes "out of fuel" and panic nothing is said here: an answer other than "out of fuel" is the
    answer at every larger fuel (`evalExpr_mono`), and a tree without nil nodes never panics
    (C09 `expr_no_panic`). -/
theorem eval_is_denotation (fuel : Nat) (c : Ctx) (env : Env) (e : Expr) (hc : c.custom = []) (hw : Expr.wf e) :
    (∀ v, evalExpr fuel c env e = .ok v → seval env e.toS = some v) ∧
    (∀ code line args, evalExpr fuel c env e = .err code line args → seval env e.toS = none) := by
  have := (eval_sim fuel).1 c env e hc hw
  constructor
  · intro v h; rw [h] at this; exact this
  · intro code line args h; rw [h] at this; exact this

/-! The next four are facts of the specification (`seval`, `binOp`), read off its definition; they
    speak of the model's evaluator through `eval_is_denotation` only. -/

/-- integers wrap at 64 bits (`Int64` arithmetic), e.g. the largest integer plus one -/
theorem int_add_wraps (env : Env) (a c : Int64) :
    seval env (.bin (b "+") (.int a) (.int c)) = some (.int (a + c)) := by
  simp (config := { decide := true }) [seval, binOp, intOp]

example : (9223372036854775807 : Int64) + 1 = -9223372036854775808 := by decide

/-- integer division and modulo by zero have no value -/
theorem int_div_mod_zero (env : Env) (a : Int64) :
    seval env (.bin (b "/") (.int a) (.int 0)) = none ∧ seval env (.bin (b "%") (.int a) (.int 0)) = none := by
  constructor <;> simp (config := { decide := true }) [seval, binOp, intOp]

/-- operands of different types have no value, for every operator -/
theorem mixed_types_have_no_value (op : Bytes) (l r : Val) (h : l.type ≠ r.type) : binOp op l r = none := by
  cases l <;> cases r <;> simp_all [binOp, Val.type]

/-- an unknown identifier has no value -/
theorem unknown_identifier (env : Env) (n : Bytes) (h : env.get n = none) : seval env (.var n) = none := by
  simp [seval, h]

/-- an integer literal beyond 2^63 - 1 is rejected by `parseInt64`, with which the parser reads
    integer literals -/
theorem int_literal_out_of_range (lit : Bytes) (h : 9223372036854775807 < digitsToNat lit) : parseInt64 lit = none := by
  unfold parseInt64
  simp only []
  split
  · rfl
  · rw [if_neg (by omega)]

/-- a binary operator's right operand is parsed at the operator's own precedence, so operators of
    equal precedence group to the left and a tighter one to the right binds first -/
theorem binary_right_operand_level (pe : Nat → PS → Expr × PS) (pl : TT → PS → List Expr × PS) (left : Expr) (p : PS)
    (hop : isBinaryOp p.cur.ty = true) (hnb : p.next.curIs .RBRACES = false) :
    infixBody pe pl left p = (.inf p.cur p.cur.lit left (pe p.curPrecedence p.next).1, (pe p.curPrecedence p.next).2) := by
  unfold infixBody
  rw [if_pos hop, if_neg (by rw [hnb]; simp)]

/-- the loop of `parseExpression` goes on only while the next operator binds tighter than the
    level it was called with: at a lower or equal level it hands the left operand back -/
theorem loop_stops_at_lower_or_equal (fuel prec : Nat) (left : Expr) (p : PS) (h : ¬ prec < p.peekPrecedence) :
    prattLoop (fuel + 1) prec left p = (left, p) := by
  rw [prattLoop_succ, if_pos (by simp [h])]

/-- the ternary: the then-part is parsed at the TERNARY level (a nested `?` does not continue
    it), the else-part at LOWEST (so a ternary nests to the right in its else part) -/
theorem ternary_levels (pe : Nat → PS → Expr × PS) (pl : TT → PS → List Expr × PS) (left : Expr) (p : PS)
    (hnb : isBinaryOp p.cur.ty = false) (hq : p.cur.ty = .QUESTION)
    (hcolon : ((pe TERNARY p.next).2.expectPeek .COLON).1 = true) :
    infixBody pe pl left p =
      (.tern p.cur left (pe TERNARY p.next).1 (pe LOWEST ((pe TERNARY p.next).2.expectPeek .COLON).2.next).1,
        (pe LOWEST ((pe TERNARY p.next).2.expectPeek .COLON).2.next).2) := by
  unfold infixBody
  rw [if_neg (by rw [hnb]; simp), if_pos (by rw [hq]; rfl), if_neg (by rw [hcolon]; simp)]

/-- the value of an assignment is a complete expression: it is parsed at LOWEST -/
theorem assignment_value_is_complete (pe : Nat → PS → Expr × PS) (p : PS)
    (h1 : p.next.curIs .RBRACES = false) (h2 : (p.next.cur.ty == .IDENT && p.next.peekIs .ASSIGN) = true)
    (h3 : (p.next.expectPeek .ASSIGN).2.next.curIs .RBRACES = false) :
    parseEmbeddedCode pe p =
      (.assign p.next.cur p.next.cur.lit (pe LOWEST (p.next.expectPeek .ASSIGN).2.next).1,
        (pe LOWEST (p.next.expectPeek .ASSIGN).2.next).2) := by
  unfold parseEmbeddedCode
  simp only []
  rw [if_neg (by rw [h1]; simp), if_pos h2, if_neg (by rw [h3]; simp)]

/-- redundant parentheses: a parenthesised expression is the expression itself (no node is
    made for the parentheses) -/
theorem parentheses_make_no_node (pe : Nat → PS → Expr × PS) (pl : TT → PS → List Expr × PS)
    (po : Token → List (Bytes × Expr) → PS → Expr × PS) (p : PS) (hlp : p.cur.ty = .LPAREN)
    (hclose : ((pe LOWEST p.next).2.expectPeek .RPAREN).1 = true) :
    prefixBody pe pl po p = some ((pe LOWEST p.next).1, ((pe LOWEST p.next).2.expectPeek .RPAREN).2) := by
  unfold prefixBody
  rw [hlp]
  simp only []
  rw [if_pos hclose]

/-- **round trip**: print a tree of identifiers, prefix operators, binary operators and ternaries
    with the parentheses the precedence order requires (ternary < equality < comparison <
    additive < multiplicative < prefix; equal levels group to the left; a ternary nests to the
    right in its else part and needs parentheses everywhere else) plus any redundant pairs; the model's
    `parseExpression(LOWEST)` returns exactly that tree from every parser state, with enough fuel, stops on
    the expression's last token and records no error -/
theorem parse_of_print (lp rp : Token) (hlp : lp.ty = .LPAREN) (hrp : rp.ty = .RPAREN) (extra : BE → Bool)
    (e : BE) (hok : e.ok) (k : List Token) (hk : NoIll k) (hstop : StopR LOWEST k) :
    ∃ N, ∀ f, N ≤ f → ∀ p : PS,
      parseExpression f LOWEST (p.withToks (showAt lp rp extra (LOWEST + 1) e ++ k)) =
        (e.toExpr, p.withToks (lastTok (showAt lp rp extra (LOWEST + 1) e) :: k)) :=
  BE.parse_print lp rp hlp hrp extra e hok k hk hstop

/-- redundant parentheses never change the parse -/
theorem redundant_parentheses_do_not_matter (lp rp : Token) (hlp : lp.ty = .LPAREN) (hrp : rp.ty = .RPAREN)
    (extra1 extra2 : BE → Bool) (e : BE) (hok : e.ok) (k : List Token) (hk : NoIll k) (hstop : StopR LOWEST k) :
    ∃ N, ∀ f, N ≤ f → ∀ p : PS,
      (parseExpression f LOWEST (p.withToks (showAt lp rp extra1 (LOWEST + 1) e ++ k))).1 =
      (parseExpression f LOWEST (p.withToks (showAt lp rp extra2 (LOWEST + 1) e ++ k))).1 :=
  RParses.fst_eq (parse_of_print lp rp hlp hrp extra1 e hok k hk hstop) (parse_of_print lp rp hlp hrp extra2 e hok k hk hstop)

/-- **parser and evaluator composed**: the value the model computes for the printed tokens is the
    denotation `seval` of the tree that was printed (errors where there is none) -/
theorem parsed_tokens_evaluate_to_the_denotation (lp rp : Token) (hlp : lp.ty = .LPAREN) (hrp : rp.ty = .RPAREN)
    (extra : BE → Bool) (e : BE) (hok : e.ok) (hcanon : e.canon) (k : List Token) (hk : NoIll k) (hstop : StopR LOWEST k) :
    ∃ N, ∀ f, N ≤ f → ∀ p : PS, ∀ (fuel : Nat) (c : Ctx) (env : Env), c.custom = [] →
      Agrees (evalExpr fuel c env (parseExpression f LOWEST (p.withToks (showAt lp rp extra (LOWEST + 1) e ++ k))).1)
        (seval env e.toS) :=
  (fragment_wf e hok hcanon).2 ▸ RParses.evals (parse_of_print lp rp hlp hrp extra e hok k hk hstop) (fragment_wf e hok hcanon).1

/-- non-vacuity: `c ? a : d ? -b : e + f` is the right-nested ternary, printed without parentheses;
    a ternary as condition or as operand needs them -/
example :
    let t (ty : TT) (s : String) : Token := { ty := ty, lit := b s, pos := {} }
    let i (s : String) : BE := .ident (t .IDENT s)
    showAt (t .LPAREN "(") (t .RPAREN ")") (fun _ => false) (LOWEST + 1)
      (.tern (t .QUESTION "?") (t .COLON ":") (i "c") (i "a")
        (.tern (t .QUESTION "?") (t .COLON ":") (i "d") (.pre (t .SUB "-") (i "b")) (.bin (t .ADD "+") (i "e") (i "f")))) =
    [t .IDENT "c", t .QUESTION "?", t .IDENT "a", t .COLON ":", t .IDENT "d", t .QUESTION "?", t .SUB "-", t .IDENT "b",
     t .COLON ":", t .IDENT "e", t .ADD "+", t .IDENT "f"] := by decide

example :
    let t (ty : TT) (s : String) : Token := { ty := ty, lit := b s, pos := {} }
    let i (s : String) : BE := .ident (t .IDENT s)
    showAt (t .LPAREN "(") (t .RPAREN ")") (fun _ => false) (LOWEST + 1)
      (.bin (t .ADD "+") (.tern (t .QUESTION "?") (t .COLON ":") (i "c") (i "a") (i "d")) (i "x")) =
    [t .LPAREN "(", t .IDENT "c", t .QUESTION "?", t .IDENT "a", t .COLON ":", t .IDENT "d", t .RPAREN ")", t .ADD "+", t .IDENT "x"] := by
  decide

/-- non-vacuity: `a - b - c * d` is the left-nested tree, printed without parentheses -/
example :
    let t (ty : TT) (s : String) : Token := { ty := ty, lit := b s, pos := {} }
    showAt (t .LPAREN "(") (t .RPAREN ")") (fun _ => false) (LOWEST + 1)
      (.bin (t .SUB "-") (.bin (t .SUB "-") (.ident (t .IDENT "a")) (.ident (t .IDENT "b")))
        (.bin (t .MUL "*") (.ident (t .IDENT "c")) (.ident (t .IDENT "d")))) =
    [t .IDENT "a", t .SUB "-", t .IDENT "b", t .SUB "-", t .IDENT "c", t .MUL "*", t .IDENT "d"] := by decide

/-- … and `a - (b - c)` needs its parentheses -/
example :
    let t (ty : TT) (s : String) : Token := { ty := ty, lit := b s, pos := {} }
    showAt (t .LPAREN "(") (t .RPAREN ")") (fun _ => false) (LOWEST + 1)
      (.bin (t .SUB "-") (.ident (t .IDENT "a")) (.bin (t .SUB "-") (.ident (t .IDENT "b")) (.ident (t .IDENT "c")))) =
    [t .IDENT "a", t .SUB "-", t .LPAREN "(", t .IDENT "b", t .SUB "-", t .IDENT "c", t .RPAREN ")"] := by decide

/-- **parse ∘ print = id on every expression**: literals, identifiers, prefix `-` `!`, binary
    operators, the ternary, postfix `++` `--`, `l[i]`, `l.name`, `l.name(args…)`, `[…]`, `{k: v, …}`
    and parentheses.  The printer `Full.showAt` decides parentheses from the precedence table alone
    (an operand is bare iff the loop of its position consumes every operator on its left spine and
    the loop still open at its right end stops at what follows), adds any redundant pairs `extra`
    asks for, and the model's `parseExpression(LOWEST)` returns exactly the printed tree from every
    parser state, stopping on the expression's last token and recording no error. -/
theorem parse_of_print_full (lp rp rbk rbr cm : Token) (hlp : lp.ty = .LPAREN) (hrp : rp.ty = .RPAREN)
    (hrbk : rbk.ty = .RBRACKET) (hrbr : rbr.ty = .RBRACE) (hcm : cm.ty = .COMMA) (extra : FE → Bool)
    (e : FE) (hok : e.ok) (k : List Token) (hk : NoIll k) (hstop : StopR LOWEST k) :
    ∃ N, ∀ f, N ≤ f → ∀ p : PS,
      parseExpression f LOWEST (p.withToks (Full.showAt lp rp rbk rbr cm extra (LOWEST + 1) e ++ k)) =
        (e.toExpr, p.withToks (lastTok (Full.showAt lp rp rbk rbr cm extra (LOWEST + 1) e) :: k)) :=
  Full.parse_print lp rp rbk rbr cm hlp hrp hrbk hrbr hcm extra e hok k hk hstop

/-- redundant parentheses never change the parse (whole language) -/
theorem redundant_parentheses_do_not_matter_full (lp rp rbk rbr cm : Token) (hlp : lp.ty = .LPAREN) (hrp : rp.ty = .RPAREN)
    (hrbk : rbk.ty = .RBRACKET) (hrbr : rbr.ty = .RBRACE) (hcm : cm.ty = .COMMA)
    (extra1 extra2 : FE → Bool) (e : FE) (hok : e.ok) (k : List Token) (hk : NoIll k) (hstop : StopR LOWEST k) :
    ∃ N, ∀ f, N ≤ f → ∀ p : PS,
      (parseExpression f LOWEST (p.withToks (Full.showAt lp rp rbk rbr cm extra1 (LOWEST + 1) e ++ k))).1 =
      (parseExpression f LOWEST (p.withToks (Full.showAt lp rp rbk rbr cm extra2 (LOWEST + 1) e ++ k))).1 :=
  RParses.fst_eq (parse_of_print_full lp rp rbk rbr cm hlp hrp hrbk hrbr hcm extra1 e hok k hk hstop)
    (parse_of_print_full lp rp rbk rbr cm hlp hrp hrbk hrbr hcm extra2 e hok k hk hstop)

/-- two trees with the same minimal printing have the same tree of the model (`toExpr`): the
    grammar is unambiguous on the printer's image.  `FE.toExpr` forgets the colon token of a ternary
    and the dot token of a call, so this is less than `e1 = e2`. -/
theorem printing_is_injective_full (lp rp rbk rbr cm : Token) (hlp : lp.ty = .LPAREN) (hrp : rp.ty = .RPAREN)
    (hrbk : rbk.ty = .RBRACKET) (hrbr : rbr.ty = .RBRACE) (hcm : cm.ty = .COMMA)
    (e1 e2 : FE) (h1 : e1.ok) (h2 : e2.ok) (k : List Token) (hk : NoIll k) (hstop : StopR LOWEST k)
    (heq : Full.showAt lp rp rbk rbr cm (fun _ => false) (LOWEST + 1) e1 = Full.showAt lp rp rbk rbr cm (fun _ => false) (LOWEST + 1) e2) :
    e1.toExpr = e2.toExpr :=
  Full.print_injective lp rp rbk rbr cm hlp hrp hrbk hrbr hcm e1 e2 h1 h2 k hk hstop heq

/-- **parser and evaluator composed, whole language**: the model evaluator's result on the parsed
    tokens is the denotation `seval` of the printed tree (an error where there is none) -/
theorem parsed_tokens_evaluate_to_the_denotation_full (lp rp rbk rbr cm : Token) (hlp : lp.ty = .LPAREN) (hrp : rp.ty = .RPAREN)
    (hrbk : rbk.ty = .RBRACKET) (hrbr : rbr.ty = .RBRACE) (hcm : cm.ty = .COMMA)
    (extra : FE → Bool) (e : FE) (hok : e.ok) (hcanon : e.canon) (k : List Token) (hk : NoIll k) (hstop : StopR LOWEST k) :
    ∃ N, ∀ f, N ≤ f → ∀ p : PS, ∀ (fuel : Nat) (c : Ctx) (env : Env), c.custom = [] →
      Agrees (evalExpr fuel c env
          (parseExpression f LOWEST (p.withToks (Full.showAt lp rp rbk rbr cm extra (LOWEST + 1) e ++ k))).1)
        (TwSpec.seval env e.toExpr.toS) :=
  RParses.evals (parse_of_print_full lp rp rbk rbr cm hlp hrp hrbk hrbr hcm extra e hok k hk hstop) (full_wf e hok hcanon)

/-- the trees of the round trip are the ones `eval_is_denotation` speaks about -/
theorem printed_trees_are_wellformed (e : FE) (hok : e.ok) (hcanon : e.canon) : Expr.wf e.toExpr := full_wf e hok hcanon

section examples
private def tk (ty : TT) (s : String) : Token := { ty := ty, lit := b s, pos := {} }
private def idt (s : String) : FE := .atom (tk .IDENT s)
private def shw (e : FE) : List Token :=
  Full.showAt (tk .LPAREN "(") (tk .RPAREN ")") (tk .RBRACKET "]") (tk .RBRACE "}") (tk .COMMA ",") (fun _ => false) (LOWEST + 1) e

/-- non-vacuity: `a.b[0].c(1, x)[2]++` is printed without parentheses … -/
example :
    shw (.post (tk .INC "++") (.index (tk .LBRACKET "[")
      (.call (tk .DOT ".") (tk .IDENT "c") (.index (tk .LBRACKET "[") (.dot (tk .DOT ".") (tk .IDENT "b") (idt "a")) (.atom (tk .INT "0")))
        (.cons (.atom (tk .INT "1")) (.cons (idt "x") .nil))) (.atom (tk .INT "2")))) =
    [tk .IDENT "a", tk .DOT ".", tk .IDENT "b", tk .LBRACKET "[", tk .INT "0", tk .RBRACKET "]", tk .DOT ".", tk .IDENT "c",
     tk .LPAREN "(", tk .INT "1", tk .COMMA ",", tk .IDENT "x", tk .RPAREN ")", tk .LBRACKET "[", tk .INT "2", tk .RBRACKET "]", tk .INC "++"] := by
  decide
/-- … `-a.b` is the property of `-a`, `-(a.b)` needs its parentheses, `(-a)[0]` and `(a + b).c` too, `-a++` does not -/
example : shw (.dot (tk .DOT ".") (tk .IDENT "b") (.pre (tk .SUB "-") (idt "a"))) = [tk .SUB "-", tk .IDENT "a", tk .DOT ".", tk .IDENT "b"] := by
  decide
example : shw (.pre (tk .SUB "-") (.dot (tk .DOT ".") (tk .IDENT "b") (idt "a"))) =
    [tk .SUB "-", tk .LPAREN "(", tk .IDENT "a", tk .DOT ".", tk .IDENT "b", tk .RPAREN ")"] := by decide
example : shw (.index (tk .LBRACKET "[") (.pre (tk .SUB "-") (idt "a")) (.atom (tk .INT "0"))) =
    [tk .LPAREN "(", tk .SUB "-", tk .IDENT "a", tk .RPAREN ")", tk .LBRACKET "[", tk .INT "0", tk .RBRACKET "]"] := by decide
example : shw (.dot (tk .DOT ".") (tk .IDENT "c") (.bin (tk .ADD "+") (idt "a") (idt "b"))) =
    [tk .LPAREN "(", tk .IDENT "a", tk .ADD "+", tk .IDENT "b", tk .RPAREN ")", tk .DOT ".", tk .IDENT "c"] := by decide
example : shw (.pre (tk .SUB "-") (.post (tk .INC "++") (idt "a"))) = [tk .SUB "-", tk .IDENT "a", tk .INC "++"] := by decide
/-- an object literal with an array and a ternary inside -/
example :
    shw (.obj (tk .LBRACE "{") (.cons (tk .IDENT "k") (tk .COLON ":") (.arr (tk .LBRACKET "[") (.cons (idt "a") .nil))
      (.cons (tk .STR "s") (tk .COLON ":") (.tern (tk .QUESTION "?") (tk .COLON ":") (idt "c") (idt "x") (idt "y")) .nil))) =
    [tk .LBRACE "{", tk .IDENT "k", tk .COLON ":", tk .LBRACKET "[", tk .IDENT "a", tk .RBRACKET "]", tk .COMMA ",",
     tk .STR "s", tk .COLON ":", tk .IDENT "c", tk .QUESTION "?", tk .IDENT "x", tk .COLON ":", tk .IDENT "y", tk .RBRACE "}"] := by decide
end examples

/-- **what the lexer does next depends on the remaining bytes, the previous byte and the mode
    only** — never on the line, the column or what was consumed: from two states that agree on
    those it returns token lists with the same kinds and literals -/
theorem tokens_depend_on_the_remaining_input_only (fuel : Nat) (a c : Lx) (h : Sim a c) (ts : List Token) (sf : Lx)
    (hl : lexAll fuel a = some (ts, sf)) :
    ∃ ts' sf', lexAll fuel c = some (ts', sf') ∧ ts'.map key = ts.map key ∧ Sim sf sf' :=
  lexAll_sim fuel a c h ts sf hl

/-- **whitespace between the tokens of code is irrelevant** (any lexer state in code: inside
    `{{ }}`, inside the parentheses of a directive).  `a` lists the lexemes the lexer reads from `s`
    with the gaps in front of them (`Reads s a`: each `NextToken` consumes exactly the next lexeme);
    `c` lists the same lexemes with other gaps — spaces, tabs, newlines, carriage returns, none —
    where a gap that was not empty stays non-empty (`Respaced a c`).  Then from every state in the
    same mode the lexer returns tokens of the same kinds and literals for the second spacing, and
    goes on identically with the common `tail`. -/
theorem whitespace_between_tokens_never_changes_the_tokens (tail : Bytes) (a c : List (Bytes × Bytes)) (h : Respaced a c)
    (hne : a ≠ []) (s s' : Lx) (hm : mode s' = mode s) (hr : s.rest = src a tail) (hr' : s'.rest = src c tail)
    (hreads : Reads s a) (fuel : Nat) (ts : List Token) (sf : Lx) (hl : lexAll fuel s = some (ts, sf)) :
    ∃ ts' sf', lexAll fuel s' = some (ts', sf') ∧ ts'.map key = ts.map key ∧ Sim sf sf' :=
  whitespace_between_code_tokens tail a c h hne s s' hm hr hr' hreads fuel ts sf hl

/-- the same for whole templates that begin with "{{": the two templates have token lists of the
    same kinds and literals, and the same `insideCode` and `panicked`.  `hcm`: the code does not begin
    with "--" ("{{--" opens a comment); `hreads` is stated from `codeState`, which has the mode the
    lexer is in behind the opening "{{" (what is read depends on the state through `mode` and
    `rest` only, `Respaced.reads`); `hne`, here and above: behind the lexemes the two lexer states
    are compared with their previous byte (`Sim`), which is the last byte of a lexeme only if one
    was read. -/
theorem whitespace_in_braces_never_changes_the_tokens (tail : Bytes) (a c : List (Bytes × Bytes)) (h : Respaced a c) (hne : a ≠ [])
    (hcm : ¬ ((src a tail).headD 0 = 45 ∧ ((src a tail).drop 1).headD 0 = 45))
    (hreads : Reads (codeState (src a tail)) a) :
    ∃ r r', tokenize (123 :: 123 :: src a tail) = some r ∧ tokenize (123 :: 123 :: src c tail) = some r' ∧
      r'.toks.map key = r.toks.map key ∧ r'.insideCode = r.insideCode ∧ r'.panicked = r.panicked :=
  tokenize_respaced tail a c h hne hcm hreads

/-- **positions never change the value**: two well-formed trees whose (minimal) printings have the
    same token kinds and literals — which is what two sources that differ in whitespace and
    newlines only give, by the theorems above — have the same denotation `seval` -/
theorem token_positions_never_change_the_value (lp rp rbk rbr cm lp' rp' rbk' rbr' cm' : Token)
    (hlp : lp.ty = .LPAREN) (hrp : rp.ty = .RPAREN) (hrbk : rbk.ty = .RBRACKET) (hrbr : rbr.ty = .RBRACE) (hcm : cm.ty = .COMMA)
    (klp : key lp' = key lp) (krp : key rp' = key rp) (krbk : key rbk' = key rbk) (krbr : key rbr' = key rbr) (kcm : key cm' = key cm)
    (e1 e2 : FE) (h1 : e1.ok) (h2 : e2.ok)
    (heq : (Full.showAt lp rp rbk rbr cm (fun _ => false) (LOWEST + 1) e1).map key =
           (Full.showAt lp' rp' rbk' rbr' cm' (fun _ => false) (LOWEST + 1) e2).map key) (env : Env) :
    TwSpec.seval env e1.toExpr.toS = TwSpec.seval env e2.toExpr.toS := by
  rw [same_keys_same_denotation lp rp rbk rbr cm lp' rp' rbk' rbr' cm' hlp hrp hrbk hrbr hcm klp krp krbk krbr kcm e1 e2 h1 h2 heq]

section examples
private def it (g u : String) : Bytes × Bytes := (b g, b u)
private def tight : List (Bytes × Bytes) :=
  [it "" "1", it "" "+", it "" "2", it "" "*", it "" "x", it "" ".", it "" "y", it "" "<=", it "" "-", it "" "3.5", it "" "}}"]
private def spaced : List (Bytes × Bytes) :=
  [it " " "1", it " " "+", it "\n" "2", it "\t" "*", it " " "x", it "" ".", it "  " "y", it " " "<=", it " " "-", it "\r\n" "3.5", it " " "}}"]
/-- the hypotheses are met by "{{1+2*x.y<=-3.5}}!" and "{{ 1 +\n2\t* x.  y <= -\r\n3.5 }}!" -/
example : ∃ r r', tokenize (b "{{1+2*x.y<=-3.5}}!") = some r ∧ tokenize (b "{{ 1 +\n2\t* x.  y <= -\r\n3.5 }}!") = some r' ∧
    r'.toks.map key = r.toks.map key := tokenize_respaced_instance
/-- a gap may not vanish between two lexemes that would merge: "a b" and "ab" -/
example : respacedB [it " " "a", it " " "b"] [it " " "a", it "" "b"] = false := by decide
end examples

/-- whole renders evaluated in the kernel: tests of the composed pipeline on single inputs, not theorems about it -/
def renders (src : String) (data : List (Bytes × GoVal)) (expect : String) : Bool :=
  match evaluateStringPure [] (b src) data with
  | .ok out => out == b expect
  | _ => false

def failsWith (src : String) (data : List (Bytes × GoVal)) (code : String) (args : List Bytes) : Bool :=
  match evaluateStringPure [] (b src) data with
  | .fail f => f.msg == formatMsg code args
  | _ => false

example : renders "{{ 1 + 2 * 3 }}|{{ 7 / 2 * 3 }}|{{ 10 - 4 - 3 }}|{{ (1 + 2) * 3 }}|{{ ((1)) + (((2))) }}" [] "7|9|3|9|3" = true := by
  decide +kernel
example : renders "{{ 3 == 1 + 2 }}|{{ 1 + 1 < 3 }}|{{ -2 * 3 }}|{{ true ? 1 : false ? 2 : 3 }}|{{ false ? 1 : false ? 2 : 3 }}" []
    "1|1|-6|1|3" = true := by decide +kernel
example : renders "{{ x = 1 + 2 * 3 }}{{ x }}|{{\n1\n+\n2\n}}" [] "7|3" = true := by decide +kernel
example : renders "{{ 9223372036854775807 + 1 }}" [] "-9223372036854775808" = true := by decide +kernel
example : failsWith "{{ 1 + \"a\" }}" [] "ErrTypeMismatch" [b "INTEGER", b "+", b "STRING"] = true := by decide +kernel
example : failsWith "{{ 9223372036854775808 }}" [] "ErrCouldNotParseAs" [b "9223372036854775808", b "INT"] = true := by
  decide +kernel

/-- **an integer literal is decimal, from the source bytes on**: `{{ d }}` for a string of decimal digits
    `d` that fits in an int64 — leading zeros or not, any white space inside the braces — renders the
    number with that decimal value (`010` is ten, not eight). -/
theorem int_literal_prints_from_source (custom : List ((VType × Bytes) × Nat)) (data : List (Bytes × GoVal)) (env : Env)
    (h : envFromMap data = .ok env) (d : Bytes) (hd : isDigits d) (hb : digitsToNat d < 2 ^ 63)
    (g1 g2 : Bytes) (hg1 : allWs g1) (hg2 : allWs g2) :
    evaluateStringPure custom (intSrc g1 d g2) data = .ok (int64ToBytes (Int64.ofNat (digitsToNat d))) :=
  (intCode_parses g1 d g2 hg1 hg2 hd (by omega)).renders_expr custom data env (.int _) h fun t2 _ e f => e ▸ evalExpr_int _ _ env t2 _

/-- **all five arithmetic operators between two integer literals, from the source bytes on**: `{{ a op b }}`
    for `+`, `-` (not doubled), `*`, `/`, `%` — any white space around the numbers and the operator —
    renders what `intInfix` answers on the two decimal values. -/
theorem int_arithmetic_prints_from_source (custom : List ((VType × Bytes) × Nat)) (data : List (Bytes × GoVal)) (env : Env)
    (h : envFromMap data = .ok env) (a b' : Bytes) (ha : isDigits a) (hbd : isDigits b') (hba : digitsToNat a < 2 ^ 63)
    (hbb : digitsToNat b' < 2 ^ 63) (c : Byte) (ty : TT) (pr : Nat) (hop : ArithOp c ty pr)
    (g1 g2 g3 g4 : Bytes) (hg1 : allWs g1) (hg2 : allWs g2) (hg3 : allWs g3) (hg4 : allWs g4) (v : Val)
    (hv : ∀ line, intInfix [c] (Int64.ofNat (digitsToNat a)) (Int64.ofNat (digitsToNat b')) line = .ok v) :
    evaluateStringPure custom (arithSrc g1 a g3 c g4 b' g2) data = .ok v.toStr :=
  (arith2Code_parses g1 a g3 c ty g4 b' g2 hg1 hg2 hg3 hg4 ha hbd pr hop (by omega) (by omega)).renders_expr custom data env v h
    fun t4 _ ⟨t2, t3, e⟩ f => e ▸ (arith2_evals _ env t2 t3 t4 [c] _ _ f).trans (hv _)

/-- **`*`, `/` and `%` between two integer literals, from the source bytes on**: `{{ a op b }}` — any white
    space around the numbers and the operator — renders what `intInfix` (Go's int64 arithmetic: wrap-around
    product, truncated quotient, remainder with the sign of the dividend) answers on the two decimal
    values. -/
theorem int_product_level_prints_from_source (custom : List ((VType × Bytes) × Nat)) (data : List (Bytes × GoVal)) (env : Env)
    (h : envFromMap data = .ok env) (a b' : Bytes) (ha : isDigits a) (hbd : isDigits b') (hba : digitsToNat a < 2 ^ 63)
    (hbb : digitsToNat b' < 2 ^ 63) (c : Byte) (ty : TT) (hop : ProdOp c ty)
    (g1 g2 g3 g4 : Bytes) (hg1 : allWs g1) (hg2 : allWs g2) (hg3 : allWs g3) (hg4 : allWs g4) (v : Val)
    (hv : ∀ line, intInfix [c] (Int64.ofNat (digitsToNat a)) (Int64.ofNat (digitsToNat b')) line = .ok v) :
    evaluateStringPure custom (arithSrc g1 a g3 c g4 b' g2) data = .ok v.toStr :=
  int_arithmetic_prints_from_source custom data env h a b' ha hbd hba hbb c ty PRODUCT (Or.inl ⟨hop, rfl⟩) g1 g2 g3 g4 hg1 hg2 hg3 hg4 v hv

/-- the product of two integer literals is Go's int64 product -/
theorem int_product_prints_from_source (custom : List ((VType × Bytes) × Nat)) (data : List (Bytes × GoVal)) (env : Env)
    (h : envFromMap data = .ok env) (a b' : Bytes) (ha : isDigits a) (hbd : isDigits b') (hba : digitsToNat a < 2 ^ 63)
    (hbb : digitsToNat b' < 2 ^ 63) (g1 g2 g3 g4 : Bytes) (hg1 : allWs g1) (hg2 : allWs g2) (hg3 : allWs g3) (hg4 : allWs g4) :
    evaluateStringPure custom (arithSrc g1 a g3 42 g4 b' g2) data =
      .ok (int64ToBytes (Int64.ofNat (digitsToNat a) * Int64.ofNat (digitsToNat b'))) :=
  int_arithmetic_prints_from_source custom data env h a b' ha hbd hba hbb 42 .MUL PRODUCT (Or.inl ⟨Or.inl ⟨rfl, rfl⟩, rfl⟩) g1 g2 g3 g4 hg1 hg2 hg3 hg4
    (.int (Int64.ofNat (digitsToNat a) * Int64.ofNat (digitsToNat b'))) (fun _ => by rfl)

/-- the sum and the difference of two integer literals are Go's int64 sum and difference (wrap-around) -/
theorem int_sum_prints_from_source (custom : List ((VType × Bytes) × Nat)) (data : List (Bytes × GoVal)) (env : Env)
    (h : envFromMap data = .ok env) (a b' : Bytes) (ha : isDigits a) (hbd : isDigits b') (hba : digitsToNat a < 2 ^ 63)
    (hbb : digitsToNat b' < 2 ^ 63) (g1 g2 g3 g4 : Bytes) (hg1 : allWs g1) (hg2 : allWs g2) (hg3 : allWs g3) (hg4 : allWs g4) :
    evaluateStringPure custom (arithSrc g1 a g3 43 g4 b' g2) data =
      .ok (int64ToBytes (Int64.ofNat (digitsToNat a) + Int64.ofNat (digitsToNat b'))) :=
  int_arithmetic_prints_from_source custom data env h a b' ha hbd hba hbb 43 .ADD SUM (Or.inr ⟨Or.inl ⟨rfl, rfl⟩, rfl⟩)
    g1 g2 g3 g4 hg1 hg2 hg3 hg4 (.int (Int64.ofNat (digitsToNat a) + Int64.ofNat (digitsToNat b'))) (fun _ => by rfl)

theorem int_difference_prints_from_source (custom : List ((VType × Bytes) × Nat)) (data : List (Bytes × GoVal)) (env : Env)
    (h : envFromMap data = .ok env) (a b' : Bytes) (ha : isDigits a) (hbd : isDigits b') (hba : digitsToNat a < 2 ^ 63)
    (hbb : digitsToNat b' < 2 ^ 63) (g1 g2 g3 g4 : Bytes) (hg1 : allWs g1) (hg2 : allWs g2) (hg3 : allWs g3) (hg4 : allWs g4) :
    evaluateStringPure custom (arithSrc g1 a g3 45 g4 b' g2) data =
      .ok (int64ToBytes (Int64.ofNat (digitsToNat a) - Int64.ofNat (digitsToNat b'))) :=
  int_arithmetic_prints_from_source custom data env h a b' ha hbd hba hbb 45 .SUB SUM (Or.inr ⟨Or.inr ⟨rfl, rfl⟩, rfl⟩)
    g1 g2 g3 g4 hg1 hg2 hg3 hg4 (.int (Int64.ofNat (digitsToNat a) - Int64.ofNat (digitsToNat b'))) (fun _ => by rfl)

example : evaluateStringPure [] (b "{{ 3-5 }}") [] = .ok (b "-2") := by
  have := int_difference_prints_from_source [] [] [[]] (by rfl) (b "3") (b "5") (by decide +kernel) (by decide +kernel) (by decide +kernel) (by decide +kernel)
    [32] [32] [] [] allWs_space allWs_space allWs_nil allWs_nil
  have hs : arithSrc [32] (b "3") [] 45 [] (b "5") [32] = b "{{ 3-5 }}" := by decide +kernel
  rw [hs] at this
  rw [this]; rfl

/-- **the comparisons `<` and `>` next to the arithmetic operators, from the source bytes on**: in
    `{{ a op1 b op2 d }}` — three integer literals, any two of `+ - * / % < >`, any white space — a second
    operator that binds tighter takes `b` (`1 < 2 + 3` is `1 < (2 + 3)`) … -/
theorem binary_operators_tighter_second_from_source (custom : List ((VType × Bytes) × Nat)) (data : List (Bytes × GoVal)) (env : Env)
    (h : envFromMap data = .ok env) (a b' d : Bytes) (ha : isDigits a) (hbd : isDigits b') (hdd : isDigits d)
    (hba : digitsToNat a < 2 ^ 63) (hbb : digitsToNat b' < 2 ^ 63) (hbd' : digitsToNat d < 2 ^ 63)
    (c1 : Byte) (ty1 : TT) (pr1 : Nat) (c2 : Byte) (ty2 : TT) (pr2 : Nat) (hop1 : Op1 c1 ty1 pr1) (hop2 : Op1 c2 ty2 pr2)
    (hlt : pr1 < pr2)
    (g1 g2 g3 g4 g5 g6 : Bytes) (hg1 : allWs g1) (hg2 : allWs g2) (hg3 : allWs g3) (hg4 : allWs g4) (hg5 : allWs g5) (hg6 : allWs g6)
    (y : Int64) (v : Val)
    (h1 : ∀ line, intInfix [c2] (Int64.ofNat (digitsToNat b')) (Int64.ofNat (digitsToNat d)) line = .ok (.int y))
    (h2 : ∀ line, intInfix [c1] (Int64.ofNat (digitsToNat a)) y line = .ok v) :
    evaluateStringPure custom (arith3Src g1 a g3 c1 g4 b' g5 c2 g6 d g2) data = .ok v.toStr := by
  exact (arith3Code_parses g1 a g3 c1 ty1 pr1 g4 b' g5 c2 ty2 pr2 g6 d g2 hg1 hg2 hg3 hg4 hg5 hg6 ha hbd hdd hop1 hop2 (by omega) (by omega)
    (by omega)).renders_expr custom data env v h fun t6 _ ⟨t2, t3, t4, t5, l3, l5, e⟩ => by
      rw [e, arith3Tree, if_pos hlt, l3, l5]; exact arith3_evals_right _ env t2 t3 t4 t5 t6 [c1] [c2] _ _ _ y v h1 h2

/-- … and otherwise the first operator keeps it (`2 + 3 < 4` is `(2 + 3) < 4`, `5 - 2 > 1` is `(5 - 2) > 1`) -/
theorem binary_operators_group_to_the_left_from_source (custom : List ((VType × Bytes) × Nat)) (data : List (Bytes × GoVal)) (env : Env)
    (h : envFromMap data = .ok env) (a b' d : Bytes) (ha : isDigits a) (hbd : isDigits b') (hdd : isDigits d)
    (hba : digitsToNat a < 2 ^ 63) (hbb : digitsToNat b' < 2 ^ 63) (hbd' : digitsToNat d < 2 ^ 63)
    (c1 : Byte) (ty1 : TT) (pr1 : Nat) (c2 : Byte) (ty2 : TT) (pr2 : Nat) (hop1 : Op1 c1 ty1 pr1) (hop2 : Op1 c2 ty2 pr2)
    (hge : ¬ pr1 < pr2)
    (g1 g2 g3 g4 g5 g6 : Bytes) (hg1 : allWs g1) (hg2 : allWs g2) (hg3 : allWs g3) (hg4 : allWs g4) (hg5 : allWs g5) (hg6 : allWs g6)
    (x : Int64) (v : Val)
    (h1 : ∀ line, intInfix [c1] (Int64.ofNat (digitsToNat a)) (Int64.ofNat (digitsToNat b')) line = .ok (.int x))
    (h2 : ∀ line, intInfix [c2] x (Int64.ofNat (digitsToNat d)) line = .ok v) :
    evaluateStringPure custom (arith3Src g1 a g3 c1 g4 b' g5 c2 g6 d g2) data = .ok v.toStr := by
  exact (arith3Code_parses g1 a g3 c1 ty1 pr1 g4 b' g5 c2 ty2 pr2 g6 d g2 hg1 hg2 hg3 hg4 hg5 hg6 ha hbd hdd hop1 hop2 (by omega) (by omega)
    (by omega)).renders_expr custom data env v h fun t6 _ ⟨t2, t3, t4, t5, l3, l5, e⟩ => by
      rw [e, arith3Tree, if_neg hge, l3, l5]; exact arith3_evals_left _ env t2 t3 t4 t5 t6 [c1] [c2] _ _ _ x v h1 h2

/-- **two operators group by binding power, from the source bytes on (the tighter second operator)**:
    in `{{ a op1 b op2 d }}` — three integer literals, two of the five arithmetic operators, any white
    space — a second operator that binds tighter than the first takes `b`: the render is
    `a op1 (b op2 d)`. -/
theorem tighter_second_operator_takes_the_middle_from_source (custom : List ((VType × Bytes) × Nat)) (data : List (Bytes × GoVal)) (env : Env)
    (h : envFromMap data = .ok env) (a b' d : Bytes) (ha : isDigits a) (hbd : isDigits b') (hdd : isDigits d)
    (hba : digitsToNat a < 2 ^ 63) (hbb : digitsToNat b' < 2 ^ 63) (hbd' : digitsToNat d < 2 ^ 63)
    (c1 : Byte) (ty1 : TT) (pr1 : Nat) (c2 : Byte) (ty2 : TT) (pr2 : Nat) (hop1 : ArithOp c1 ty1 pr1) (hop2 : ArithOp c2 ty2 pr2)
    (hlt : pr1 < pr2)
    (g1 g2 g3 g4 g5 g6 : Bytes) (hg1 : allWs g1) (hg2 : allWs g2) (hg3 : allWs g3) (hg4 : allWs g4) (hg5 : allWs g5) (hg6 : allWs g6)
    (y : Int64) (v : Val)
    (h1 : ∀ line, intInfix [c2] (Int64.ofNat (digitsToNat b')) (Int64.ofNat (digitsToNat d)) line = .ok (.int y))
    (h2 : ∀ line, intInfix [c1] (Int64.ofNat (digitsToNat a)) y line = .ok v) :
    evaluateStringPure custom (arith3Src g1 a g3 c1 g4 b' g5 c2 g6 d g2) data = .ok v.toStr :=
  binary_operators_tighter_second_from_source custom data env h a b' d ha hbd hdd hba hbb hbd' c1 ty1 pr1 c2 ty2 pr2 (.of_arith hop1) (.of_arith hop2) hlt
    g1 g2 g3 g4 g5 g6 hg1 hg2 hg3 hg4 hg5 hg6 y v h1 h2

/-- **… and otherwise to the left**: a second operator that binds no tighter than the first (the same
    level, or a lower one) applies to the result of the first: the render is `(a op1 b) op2 d`. -/
theorem operators_of_one_level_group_to_the_left_from_source (custom : List ((VType × Bytes) × Nat)) (data : List (Bytes × GoVal)) (env : Env)
    (h : envFromMap data = .ok env) (a b' d : Bytes) (ha : isDigits a) (hbd : isDigits b') (hdd : isDigits d)
    (hba : digitsToNat a < 2 ^ 63) (hbb : digitsToNat b' < 2 ^ 63) (hbd' : digitsToNat d < 2 ^ 63)
    (c1 : Byte) (ty1 : TT) (pr1 : Nat) (c2 : Byte) (ty2 : TT) (pr2 : Nat) (hop1 : ArithOp c1 ty1 pr1) (hop2 : ArithOp c2 ty2 pr2)
    (hge : ¬ pr1 < pr2)
    (g1 g2 g3 g4 g5 g6 : Bytes) (hg1 : allWs g1) (hg2 : allWs g2) (hg3 : allWs g3) (hg4 : allWs g4) (hg5 : allWs g5) (hg6 : allWs g6)
    (x : Int64) (v : Val)
    (h1 : ∀ line, intInfix [c1] (Int64.ofNat (digitsToNat a)) (Int64.ofNat (digitsToNat b')) line = .ok (.int x))
    (h2 : ∀ line, intInfix [c2] x (Int64.ofNat (digitsToNat d)) line = .ok v) :
    evaluateStringPure custom (arith3Src g1 a g3 c1 g4 b' g5 c2 g6 d g2) data = .ok v.toStr :=
  binary_operators_group_to_the_left_from_source custom data env h a b' d ha hbd hdd hba hbb hbd' c1 ty1 pr1 c2 ty2 pr2 (.of_arith hop1) (.of_arith hop2) hge
    g1 g2 g3 g4 g5 g6 hg1 hg2 hg3 hg4 hg5 hg6 x v h1 h2

example : evaluateStringPure [] (b "{{ 2 + 3 * 4 }}") [] = .ok (b "14") := by
  have := tighter_second_operator_takes_the_middle_from_source [] [] [[]] (by rfl) (b "2") (b "3") (b "4") (by decide +kernel) (by decide +kernel) (by decide +kernel)
    (by decide +kernel) (by decide +kernel) (by decide +kernel) 43 .ADD SUM 42 .MUL PRODUCT (Or.inr ⟨Or.inl ⟨rfl, rfl⟩, rfl⟩) (Or.inl ⟨Or.inl ⟨rfl, rfl⟩, rfl⟩) (by decide +kernel)
    [32] [32] [32] [32] [32] [32] allWs_space allWs_space allWs_space allWs_space allWs_space allWs_space 12 (.int 14) (fun _ => by rfl) (fun _ => by rfl)
  have hs : arith3Src [32] (b "2") [32] 43 [32] (b "3") [32] 42 [32] (b "4") [32] = b "{{ 2 + 3 * 4 }}" := by decide +kernel
  rw [hs] at this
  rw [this]; rfl

example : evaluateStringPure [] (b "{{ 10 - 4 - 3 }}") [] = .ok (b "3") := by
  have := operators_of_one_level_group_to_the_left_from_source [] [] [[]] (by rfl) (b "10") (b "4") (b "3") (by decide +kernel) (by decide +kernel) (by decide +kernel)
    (by decide +kernel) (by decide +kernel) (by decide +kernel) 45 .SUB SUM 45 .SUB SUM (Or.inr ⟨Or.inr ⟨rfl, rfl⟩, rfl⟩) (Or.inr ⟨Or.inr ⟨rfl, rfl⟩, rfl⟩) (by decide +kernel)
    [32] [32] [32] [32] [32] [32] allWs_space allWs_space allWs_space allWs_space allWs_space allWs_space 6 (.int 3) (fun _ => by rfl) (fun _ => by rfl)
  have hs : arith3Src [32] (b "10") [32] 45 [32] (b "4") [32] 45 [32] (b "3") [32] = b "{{ 10 - 4 - 3 }}" := by decide +kernel
  rw [hs] at this
  rw [this]; rfl

/-- **parentheses override the binding powers, from the source bytes on**: `{{ a op1 ( b op2 d ) }}` —
    three integer literals, any two of the five arithmetic operators, any white space around every token —
    renders `a op1 (b op2 d)`, whatever the two binding powers are (`10 - (4 - 3)` is nine,
    `2 * (3 + 4)` is fourteen). -/
theorem parentheses_override_binding_power_from_source (custom : List ((VType × Bytes) × Nat)) (data : List (Bytes × GoVal)) (env : Env)
    (h : envFromMap data = .ok env) (a b' d : Bytes) (ha : isDigits a) (hbd : isDigits b') (hdd : isDigits d)
    (hba : digitsToNat a < 2 ^ 63) (hbb : digitsToNat b' < 2 ^ 63) (hbd' : digitsToNat d < 2 ^ 63)
    (c1 : Byte) (ty1 : TT) (pr1 : Nat) (c2 : Byte) (ty2 : TT) (pr2 : Nat) (hop1 : ArithOp c1 ty1 pr1) (hop2 : ArithOp c2 ty2 pr2)
    (g1 g2 g3 g4 g5 g6 g7 g8 : Bytes) (hg1 : allWs g1) (hg2 : allWs g2) (hg3 : allWs g3) (hg4 : allWs g4) (hg5 : allWs g5) (hg6 : allWs g6)
    (hg7 : allWs g7) (hg8 : allWs g8) (y : Int64) (v : Val)
    (h1 : ∀ line, intInfix [c2] (Int64.ofNat (digitsToNat b')) (Int64.ofNat (digitsToNat d)) line = .ok (.int y))
    (h2 : ∀ line, intInfix [c1] (Int64.ofNat (digitsToNat a)) y line = .ok v) :
    evaluateStringPure custom (parenSrc g1 a g3 c1 g4 g5 b' g6 c2 g7 d g8 g2) data = .ok v.toStr := by
  exact (parenCode_parses g1 a g3 c1 ty1 pr1 g4 g5 b' g6 c2 ty2 pr2 g7 d g8 g2 hg1 hg2 hg3 hg4 hg5 hg6 hg7 hg8 ha hbd hdd hop1 hop2 (by omega)
    (by omega) (by omega)).renders_expr custom data env v h
    fun _ _ ⟨t2, t3, t5, t6, t7, e⟩ => e ▸ arith3_evals_right _ env t2 t3 t5 t6 t7 [c1] [c2] _ _ _ y v h1 h2

example : evaluateStringPure [] (b "{{ 10 - (4 - 3) }}") [] = .ok (b "9") := by
  have := parentheses_override_binding_power_from_source [] [] [[]] (by rfl) (b "10") (b "4") (b "3") (by decide +kernel) (by decide +kernel) (by decide +kernel)
    (by decide +kernel) (by decide +kernel) (by decide +kernel) 45 .SUB SUM 45 .SUB SUM (Or.inr ⟨Or.inr ⟨rfl, rfl⟩, rfl⟩) (Or.inr ⟨Or.inr ⟨rfl, rfl⟩, rfl⟩)
    [32] [32] [32] [32] [] [32] [32] [] allWs_space allWs_space allWs_space allWs_space allWs_nil allWs_space allWs_space allWs_nil
    1 (.int 9) (fun _ => by rfl) (fun _ => by rfl)
  have hs : parenSrc [32] (b "10") [32] 45 [32] [] (b "4") [32] 45 [32] (b "3") [] [32] = b "{{ 10 - (4 - 3) }}" := by decide +kernel
  rw [hs] at this
  rw [this]; rfl

/-- **the ternary selects by the truthiness of its condition, from the source bytes on**: `{{ k ? a : b }}` —
    a name bound in the data, two integer literals, any white space around every token — renders `a`
    when the value of `k` is truthy and `b` when it is not; the other branch is not evaluated. -/
theorem ternary_selects_from_source (custom : List ((VType × Bytes) × Nat)) (data : List (Bytes × GoVal)) (env : Env)
    (h : envFromMap data = .ok env) (k : Bytes) (hk : isName k) (v : Val) (hget : env.get k = some v)
    (a b' : Bytes) (ha : isDigits a) (hbd : isDigits b') (hba : digitsToNat a < 2 ^ 63) (hbb : digitsToNat b' < 2 ^ 63)
    (g1 g2 g3 g4 g5 g6 : Bytes) (hg1 : allWs g1) (hg2 : allWs g2) (hg3 : allWs g3) (hg4 : allWs g4) (hg5 : allWs g5) (hg6 : allWs g6) :
    evaluateStringPure custom (ternSrc g1 k g3 g4 a g5 g6 b' g2) data =
      .ok (int64ToBytes (Int64.ofNat (digitsToNat (if isTruthy v then a else b')))) := by
  refine ((ternCode_parses g1 k g3 g4 a g5 g6 b' g2 hg1 hg2 hg3 hg4 hg5 hg6 hk ha hbd (by omega) (by omega)).renders_expr custom data env _ h
    fun t6 _ ⟨t2, t3, t4, e⟩ => e ▸ tern_evals _ env k v hget t2 t3 t4 t6 _ _).trans ?_
  cases isTruthy v <;> rfl

example : evaluateStringPure [] (b "{{ ok ? 1 : 2 }}") [(b "ok", .str [])] = .ok (b "2") := by
  have := ternary_selects_from_source [] [(b "ok", .str [])] [[(b "ok", .str [])]] (by rfl) (b "ok") (by decide +kernel) (.str []) (by rfl)
    (b "1") (b "2") (by decide +kernel) (by decide +kernel) (by decide +kernel) (by decide +kernel) [32] [32] [32] [32] [32] [32]
    allWs_space allWs_space allWs_space allWs_space allWs_space allWs_space
  have hs : ternSrc [32] (b "ok") [32] [32] (b "1") [32] [32] (b "2") [32] = b "{{ ok ? 1 : 2 }}" := by decide +kernel
  rw [hs] at this
  rw [this]; rfl

/-- **the prefix minus negates an integer literal, from the source bytes on**: `{{ -d }}` (white space after
    the braces — `{{--` opens a comment —, any white space between the sign and the number) renders Go's
    int64 negation of the decimal value. -/
theorem negated_literal_prints_from_source (custom : List ((VType × Bytes) × Nat)) (data : List (Bytes × GoVal)) (env : Env)
    (h : envFromMap data = .ok env) (d : Bytes) (hd : isDigits d) (hb : digitsToNat d < 2 ^ 63)
    (w : Byte) (hw : isWs w = true) (g1 g2 g3 : Bytes) (hg1 : allWs g1) (hg2 : allWs g2) (hg3 : allWs g3) :
    evaluateStringPure custom (negSrc w g1 g3 d g2) data = .ok (int64ToBytes (-(Int64.ofNat (digitsToNat d)))) :=
  (negCode_parses w g1 g3 d g2 hw hg1 hg2 hg3 hd (by omega)).renders_expr custom data env (.int _) h
    fun t3 _ ⟨t2, e⟩ => e ▸ neg_evals _ env t2 t3 _

example : evaluateStringPure [] (b "{{ -7 }}") [] = .ok (b "-7") := by
  have := negated_literal_prints_from_source [] [] [[]] (by rfl) (b "7") (by decide +kernel) (by decide +kernel) 32 (by decide +kernel) [] [32] [] allWs_nil allWs_space allWs_nil
  have hs : negSrc 32 [] [] (b "7") [32] = b "{{ -7 }}" := by decide +kernel
  rw [hs] at this
  rw [this]; rfl

/-- **integer division and modulo by zero fail, from the source bytes on**: `{{ a / z }}` and `{{ a % z }}`
    with a literal `z` of value zero (`0`, `00`, …) — any white space — do not render: the result is the
    division-by-zero error. -/
theorem division_by_zero_fails_from_source (custom : List ((VType × Bytes) × Nat)) (data : List (Bytes × GoVal)) (env : Env)
    (h : envFromMap data = .ok env) (a z : Bytes) (ha : isDigits a) (hz : isDigits z) (hba : digitsToNat a < 2 ^ 63)
    (hzero : digitsToNat z = 0) (c : Byte) (ty : TT) (hc : (c = 47 ∧ ty = .DIV) ∨ (c = 37 ∧ ty = .MOD))
    (g1 g2 g3 g4 : Bytes) (hg1 : allWs g1) (hg2 : allWs g2) (hg3 : allWs g3) (hg4 : allWs g4) :
    ∃ line, evaluateStringPure custom (arithSrc g1 a g3 c g4 z g2) data = .fail (failOf "ErrDivisionByZero" line [] []) := by
  have hop : ArithOp c ty PRODUCT := by
    rcases hc with ⟨rfl, rfl⟩ | ⟨rfl, rfl⟩
    · exact Or.inl ⟨Or.inr (Or.inl ⟨rfl, rfl⟩), rfl⟩
    · exact Or.inl ⟨Or.inr (Or.inr ⟨rfl, rfl⟩), rfl⟩
  refine (arith2Code_parses g1 a g3 c ty g4 z g2 hg1 hg2 hg3 hg4 ha hz PRODUCT hop (by omega) (by omega)).fails_expr custom data env _ _ h
    fun t4 _ ⟨t2, t3, e⟩ => ⟨(Expr.int t2 (Int64.ofNat (digitsToNat a))).line, fun f => e ▸ (arith2_evals _ env t2 t3 t4 [c] _ _ f).trans ?_⟩
  rw [hzero]
  rcases hc with ⟨rfl, _⟩ | ⟨rfl, _⟩ <;> rfl

example : ∃ line, evaluateStringPure [] (b "{{ 7 % 0 }}") [] = .fail (failOf "ErrDivisionByZero" line [] []) := by
  have := division_by_zero_fails_from_source [] [] [[]] (by rfl) (b "7") (b "0") (by decide +kernel) (by decide +kernel) (by decide +kernel) (by decide +kernel) 37 .MOD
    (Or.inr ⟨rfl, rfl⟩) [32] [32] [32] [32] allWs_space allWs_space allWs_space allWs_space
  have hs : arithSrc [32] (b "7") [32] 37 [32] (b "0") [32] = b "{{ 7 % 0 }}" := by decide +kernel
  rw [hs] at this
  exact this

/-- **mixed operand types fail, from the source bytes on**: `{{ d + "text" }}` — an integer literal and a
    string literal, either quote, any white space — does not render: the result is the type-mismatch error
    that names `INTEGER`, the operator and `STRING`. -/
theorem mixed_operands_fail_from_source (custom : List ((VType × Bytes) × Nat)) (data : List (Bytes × GoVal)) (env : Env)
    (h : envFromMap data = .ok env) (d : Bytes) (hd : isDigits d) (hb : digitsToNat d < 2 ^ 63) (q : Byte) (hq : q = 34 ∨ q = 39)
    (c : Bytes) (hp : PlainStr q c) (g1 g2 g3 g4 : Bytes) (hg1 : allWs g1) (hg2 : allWs g2) (hg3 : allWs g3) (hg4 : allWs g4) :
    ∃ line, evaluateStringPure custom (mixedSrc g1 d g3 g4 q c g2) data =
      .fail (failOf "ErrTypeMismatch" line [b "INTEGER", [43], b "STRING"] []) := by
  obtain ⟨prog, t2, t3, t4, hpp, hs⟩ := parse_mixed_source g1 d g3 g4 q c g2 hg1 hg2 hg3 hg4 hd hq hp (by omega)
  exact ⟨_, fails_one custom hpp hs h (mixed_evals _ env t2 t3 t4 _ c)⟩

example : ∃ line, evaluateStringPure [] (b "{{ 1 + 'a' }}") [] = .fail (failOf "ErrTypeMismatch" line [b "INTEGER", b "+", b "STRING"] []) := by
  have := mixed_operands_fail_from_source [] [] [[]] (by rfl) (b "1") (by decide +kernel) (by decide +kernel) 39 (Or.inr rfl) (b "a") (by decide +kernel)
    [32] [32] [32] [32] allWs_space allWs_space allWs_space allWs_space
  have hs : mixedSrc [32] (b "1") [32] [32] 39 (b "a") [32] = b "{{ 1 + 'a' }}" := by decide +kernel
  rw [hs] at this
  exact this

/-- **an unknown identifier fails, from the source bytes on**: `{{ k }}` — any white space around the name —
    with a name that is not bound in the data does not render: the result is the identifier-not-found
    error that names `k`. -/
theorem unknown_identifier_fails_from_source (custom : List ((VType × Bytes) × Nat)) (data : List (Bytes × GoVal)) (env : Env)
    (h : envFromMap data = .ok env) (k : Bytes) (hk : isName k) (hget : env.get k = none)
    (g1 g2 : Bytes) (hg1 : allWs g1) (hg2 : allWs g2) :
    ∃ line, evaluateStringPure custom ([123, 123] ++ g1 ++ k ++ g2 ++ [125, 125]) data =
      .fail (failOf "ErrIdentifierNotFound" line [k] []) :=
  (printCode_parses g1 k g2 hg1 hg2 hk).fails_expr custom data env _ _ h fun t2 _ e =>
    ⟨t2.errorLine, fun f => by simp only [e, evalExpr, hget]⟩

example : ∃ line, evaluateStringPure [] (b "{{ nosuch }}") [(b "x", .int 1)] = .fail (failOf "ErrIdentifierNotFound" line [b "nosuch"] []) :=
  unknown_identifier_fails_from_source [] [(b "x", .int 1)] [[(b "x", .int 1)]] (by rfl) (b "nosuch") (by decide +kernel) (by rfl) [32] [32] allWs_space allWs_space

example : evaluateStringPure [] (b "{{ 1 < 2 + 3 }}") [] = .ok (b "1") := by
  have := binary_operators_tighter_second_from_source [] [] [[]] (by rfl) (b "1") (b "2") (b "3") (by decide +kernel) (by decide +kernel) (by decide +kernel)
    (by decide +kernel) (by decide +kernel) (by decide +kernel) 60 .LTHAN LESS_GREATER 43 .ADD SUM (Op1.of_cmp (Or.inl ⟨rfl, rfl⟩))
    (Op1.of_arith (Or.inr ⟨Or.inl ⟨rfl, rfl⟩, rfl⟩)) (by decide +kernel)
    [32] [32] [32] [32] [32] [32] allWs_space allWs_space allWs_space allWs_space allWs_space allWs_space 5 (.bool true) (fun _ => by rfl) (fun _ => by rfl)
  have hs : arith3Src [32] (b "1") [32] 60 [32] (b "2") [32] 43 [32] (b "3") [32] = b "{{ 1 < 2 + 3 }}" := by decide +kernel
  rw [hs] at this
  rw [this]; rfl

example : evaluateStringPure [] (b "{{ 2 + 3 > 4 }}") [] = .ok (b "1") := by
  have := binary_operators_group_to_the_left_from_source [] [] [[]] (by rfl) (b "2") (b "3") (b "4") (by decide +kernel) (by decide +kernel) (by decide +kernel)
    (by decide +kernel) (by decide +kernel) (by decide +kernel) 43 .ADD SUM 62 .GTHAN LESS_GREATER (Op1.of_arith (Or.inr ⟨Or.inl ⟨rfl, rfl⟩, rfl⟩))
    (Op1.of_cmp (Or.inr ⟨rfl, rfl⟩)) (by decide +kernel)
    [32] [32] [32] [32] [32] [32] allWs_space allWs_space allWs_space allWs_space allWs_space allWs_space 5 (.bool true) (fun _ => by rfl) (fun _ => by rfl)
  have hs : arith3Src [32] (b "2") [32] 43 [32] (b "3") [32] 62 [32] (b "4") [32] = b "{{ 2 + 3 > 4 }}" := by decide +kernel
  rw [hs] at this
  rw [this]; rfl

/-- **a ternary nests to the right in its else part, from the source bytes on**: `{{ k ? a : j ? b : d }}` is
    `k ? a : (j ? b : d)` — `a` when `k` is truthy, otherwise `b` when `j` is truthy, otherwise `d` —, for
    two names bound in the data, three integer literals and any white space around every token. -/
theorem ternary_nests_to_the_right_from_source (custom : List ((VType × Bytes) × Nat)) (data : List (Bytes × GoVal)) (env : Env)
    (h : envFromMap data = .ok env) (k j : Bytes) (hk : isName k) (hj : isName j) (v w : Val) (hgk : env.get k = some v)
    (hgj : env.get j = some w) (a b' d : Bytes) (ha : isDigits a) (hbd : isDigits b') (hdd : isDigits d)
    (hba : digitsToNat a < 2 ^ 63) (hbb : digitsToNat b' < 2 ^ 63) (hbd' : digitsToNat d < 2 ^ 63)
    (g1 g2 g3 g4 g5 g6 g7 g8 g9 g10 : Bytes) (hg1 : allWs g1) (hg2 : allWs g2) (hg3 : allWs g3) (hg4 : allWs g4) (hg5 : allWs g5)
    (hg6 : allWs g6) (hg7 : allWs g7) (hg8 : allWs g8) (hg9 : allWs g9) (hg10 : allWs g10) :
    evaluateStringPure custom (tern2Src g1 k g3 g4 a g5 g6 j g7 g8 b' g9 g10 d g2) data =
      .ok (int64ToBytes (Int64.ofNat (digitsToNat (if isTruthy v then a else if isTruthy w then b' else d)))) := by
  refine ((tern2Code_parses g1 k g3 g4 a g5 g6 j g7 g8 b' g9 g10 d g2 hg1 hg2 hg3 hg4 hg5 hg6 hg7 hg8 hg9 hg10 hk hj ha hbd hdd (by omega)
    (by omega) (by omega)).renders_expr custom data env _ h
    fun t10 _ ⟨t2, t3, t4, t6, t7, t8, e⟩ => e ▸ tern2_evals _ env k j v w hgk hgj t2 t3 t4 t6 t7 t8 t10 _ _ _).trans ?_
  cases isTruthy v <;> cases isTruthy w <;> rfl

example : evaluateStringPure [] (b "{{ x ? 1 : y ? 2 : 3 }}") [(b "x", .int 0), (b "y", .str (b "s"))] = .ok (b "2") := by
  have := ternary_nests_to_the_right_from_source [] [(b "x", .int 0), (b "y", .str (b "s"))] [[(b "x", .int 0), (b "y", .str (b "s"))]] (by rfl)
    (b "x") (b "y") (by decide +kernel) (by decide +kernel) (.int 0) (.str (b "s")) (by rfl) (by rfl) (b "1") (b "2") (b "3") (by decide +kernel) (by decide +kernel) (by decide +kernel)
    (by decide +kernel) (by decide +kernel) (by decide +kernel) [32] [32] [32] [32] [32] [32] [32] [32] [32] [32]
    allWs_space allWs_space allWs_space allWs_space allWs_space allWs_space allWs_space allWs_space allWs_space allWs_space
  have hs : tern2Src [32] (b "x") [32] [32] (b "1") [32] [32] (b "y") [32] [32] (b "2") [32] [32] (b "3") [32] = b "{{ x ? 1 : y ? 2 : 3 }}" := by decide +kernel
  rw [hs] at this
  rw [this]; rfl

/-- **redundant parentheses change nothing, from the source bytes on**: `{{ ( d ) }}` — any white space around
    the parentheses and the number — renders what `{{ d }}` renders. -/
theorem redundant_parentheses_change_nothing_from_source (custom : List ((VType × Bytes) × Nat)) (data : List (Bytes × GoVal)) (env : Env)
    (h : envFromMap data = .ok env) (d : Bytes) (hd : isDigits d) (hb : digitsToNat d < 2 ^ 63)
    (g1 g2 g3 g4 g5 g6 : Bytes) (hg1 : allWs g1) (hg2 : allWs g2) (hg3 : allWs g3) (hg4 : allWs g4) (hg5 : allWs g5) (hg6 : allWs g6) :
    evaluateStringPure custom (parenIntSrc g1 g3 d g4 g2) data = evaluateStringPure custom (intSrc g5 d g6) data := by
  rw [int_literal_prints_from_source custom data env h d hd hb g5 g6 hg5 hg6]
  exact (parenIntCode_parses g1 g3 d g4 g2 hg1 hg2 hg3 hg4 hd (by omega)).renders_expr custom data env (.int _) h
    fun _ _ ⟨t3, e⟩ f => e ▸ evalExpr_int _ _ env t3 _

/-- **`Total: {{ 6 * 7 }}.`: an arithmetic expression between two runs of text, from the source bytes on**:
    `pre {{ a op b }} post` — any two runs of text with escapes, any of the five arithmetic operators, any
    white space inside the braces — renders the text of `pre`, the value of `a op b`, the text of `post`. -/
theorem int_arithmetic_prints_in_text (custom : List ((VType × Bytes) × Nat)) (data : List (Bytes × GoVal)) (env : Env)
    (h : envFromMap data = .ok env) (a b' : Bytes) (ha : isDigits a) (hbd : isDigits b') (hba : digitsToNat a < 2 ^ 63)
    (hbb : digitsToNat b' < 2 ^ 63) (c : Byte) (ty : TT) (pr : Nat) (hop : ArithOp c ty pr)
    (g1 g2 g3 g4 : Bytes) (hg1 : allWs g1) (hg2 : allWs g2) (hg3 : allWs g3) (hg4 : allWs g4) (v : Val)
    (hv : ∀ line, intInfix [c] (Int64.ofNat (digitsToNat a)) (Int64.ofNat (digitsToNat b')) line = .ok v)
    (pre post : List Seg) (hitems : GItemsOK [.text pre, .code (arith2Code g1 a g3 c ty g4 b' g2), .text post]) :
    evaluateStringPure custom (segsSrc pre ++ (arithSrc g1 a g3 c g4 b' g2 ++ segsSrc post)) data = .ok (segsLit pre ++ v.toStr ++ segsLit post) :=
  text_code_text custom pre post (arith2Code g1 a g3 c ty g4 b' g2) data env h v.toStr
    ((arith2Code_parses g1 a g3 c ty g4 b' g2 hg1 hg2 hg3 hg4 ha hbd pr hop (by omega) (by omega)).oneStmt_of_expr env _ v
      fun t4 _ ⟨t2, t3, e⟩ f => e ▸ (arith2_evals _ env t2 t3 t4 [c] _ _ f).trans (hv _)) hitems

example : evaluateStringPure [] (b "Total: {{ 6 * 7 }}.") [] = .ok (b "Total: 42.") := by
  have hop : ArithOp 42 .MUL PRODUCT := Or.inl ⟨Or.inl ⟨rfl, rfl⟩, rfl⟩
  have hitems : GItemsOK [.text [.plain (b "Total: ")], .code (arith2Code [32] (b "6") [32] 42 .MUL [32] (b "7") [32]), .text [.plain (b ".")]] :=
    ⟨by decide, by decide, by simp only [afterRunG]; decide,
      (arith2_block [32] (b "6") [32] 42 .MUL [32] (b "7") [32] allWs_space (by decide +kernel) (by decide +kernel) (by decide +kernel) (by decide +kernel) (by decide +kernel) PRODUCT hop false).ok,
      by decide, by decide, trivial, trivial⟩
  have := int_arithmetic_prints_in_text [] [] [[]] (by rfl) (b "6") (b "7") (by decide +kernel) (by decide +kernel) (by decide +kernel) (by decide +kernel) 42 .MUL PRODUCT hop
    [32] [32] [32] [32] allWs_space allWs_space allWs_space allWs_space (.int 42) (fun _ => by rfl) [.plain (b "Total: ")] [.plain (b ".")] hitems
  have hs : segsSrc [.plain (b "Total: ")] ++ (arithSrc [32] (b "6") [32] 42 [32] (b "7") [32] ++ segsSrc [.plain (b ".")]) = b "Total: {{ 6 * 7 }}." := by decide +kernel
  rw [hs] at this
  rw [this]; rfl

example : evaluateStringPure [] (b "{{ 010 }}") [] = .ok (b "10") := by
  have := int_literal_prints_from_source [] [] [[]] (by rfl) (b "010") (by decide +kernel) (by decide +kernel) [32] [32] allWs_space allWs_space
  have hs : intSrc [32] (b "010") [32] = b "{{ 010 }}" := by decide +kernel
  rw [hs] at this
  rw [this]; rfl

example : evaluateStringPure [] (b "{{ 6 * 7 }}") [] = .ok (b "42") := by
  have := int_product_prints_from_source [] [] [[]] (by rfl) (b "6") (b "7") (by decide +kernel) (by decide +kernel) (by decide +kernel) (by decide +kernel)
    [32] [32] [32] [32] allWs_space allWs_space allWs_space allWs_space
  have hs : arithSrc [32] (b "6") [32] 42 [32] (b "7") [32] = b "{{ 6 * 7 }}" := by decide +kernel
  rw [hs] at this
  rw [this]; rfl

end Tw.C01
