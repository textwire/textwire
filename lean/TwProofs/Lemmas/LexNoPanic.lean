/-
  TwProofs.Lemmas.LexNoPanic — the lexer never reaches `out.Truncate(-1)` in `readHTML`:
  a text token never starts right after a backslash (the only place where the buffer could be
  empty when an escaped "{{" or directive is met).  `HInv`, `tokenize_no_panic` (C08, C09, C18).
-/
import TwProofs.Lemmas.LexProgress

namespace Tw
open Lx

def HInv (s : Lx) : Prop := s.panicked = false ∧ (s.isHTML = true → s.rest ≠ [] → s.prev ≠ 92)

theorem HInv.of_code {s : Lx} (hp : s.panicked = false) (hh : s.isHTML = false) : HInv s :=
  ⟨hp, fun h => by rw [hh] at h; cases h⟩

theorem emit_panicked (s : Lx) (n : Nat) (ty : TT) (lit : Bytes) : (emit s n ty lit).2.panicked = s.panicked := by
  unfold emit; exact advance_panicked _ _
theorem emit_isHTML (s : Lx) (n : Nat) (ty : TT) (lit : Bytes) : (emit s n ty lit).2.isHTML = s.isHTML := by
  unfold emit; exact advance_isHTML _ _
theorem emit_prev_split (s : Lx) (ty : TT) (lit : Bytes) (a : Bytes) (c : Byte) (r : Bytes) (h : s.rest = a ++ c :: r) :
    (emit s (a.length + 1) ty lit).2.prev = c := by
  unfold emit; exact advance_prev_split _ a c r h

theorem htmlScan_pan_out (prev : Byte) (out : Bytes) (n : Nat) (pan : Bool) (rest : Bytes) (ho : out ≠ []) :
    (htmlScan prev out n pan rest).2.2 = pan := by
  induction rest generalizing prev out n pan with
  | nil => simp [htmlScan]
  | cons c r ih =>
    simp only [htmlScan]
    split
    · rfl
    · split
      · rw [ih _ _ _ _ (by simp)]
        cases out with
        | nil => exact absurd rfl ho
        | cons x xs => simp
      · exact ih _ _ _ _ (by simp)

theorem htmlScan_nopanic (prev : Byte) (rest : Bytes) (hp : prev ≠ 92) :
    (htmlScan prev [] 0 false rest).2.2 = false := by
  cases rest with
  | nil => simp [htmlScan]
  | cons c r =>
    simp only [htmlScan]
    have hesc : (prev == 92) = false := by simpa using hp
    split
    · rfl
    · rename_i h1
      split
      · rename_i h2
        simp only [hesc, Bool.not_false, Bool.and_true] at h1
        exact absurd h2 h1
      · exact htmlScan_pan_out _ _ _ _ _ (by simp)

/-- the count runs on from `n`, so `… - n` bytes were read -/
theorem htmlScan_stop (rest : Bytes) : ∀ (prev : Byte) (out : Bytes) (n : Nat) (pan : Bool),
    rest.drop ((htmlScan prev out n pan rest).2.1 - n) ≠ [] → lastOr (rest.take ((htmlScan prev out n pan rest).2.1 - n)) prev ≠ 92 := by
  induction rest with
  | nil => intro prev out n pan h; simp at h
  | cons c r ih =>
    intro prev out n pan
    simp only [htmlScan]
    have step : ∀ (o : Bytes) (pn : Bool),
        (c :: r).drop ((htmlScan c o (n + 1) pn r).2.1 - n) ≠ [] →
          lastOr ((c :: r).take ((htmlScan c o (n + 1) pn r).2.1 - n)) prev ≠ 92 := by
      intro o pn
      have hc := htmlScan_count c o (n + 1) pn r
      have hk : (htmlScan c o (n + 1) pn r).2.1 - n = ((htmlScan c o (n + 1) pn r).2.1 - (n + 1)) + 1 := by omega
      rw [hk, List.take_succ_cons, lastOr_cons]
      intro hd
      exact ih c o (n + 1) pn (by simpa using hd)
    split
    · rename_i hstop
      intro _
      rw [Nat.sub_self]
      intro h92
      simp [show prev = 92 from h92] at hstop
    · split
      · exact step _ _
      · exact step _ _

theorem htmlToken_hinv (s : Lx) (h : HInv s) (hh : s.isHTML = true) (hne : s.rest ≠ []) : HInv (htmlToken s).2 := by
  have hprev := h.2 hh hne
  unfold htmlToken
  simp only []
  refine ⟨?_, ?_⟩
  · show ((emit s _ TT.HTML _).2.panicked || _) = false
    rw [emit_panicked, h.1, htmlScan_nopanic _ _ hprev]; rfl
  · intro _ hrest
    have hrest' : (emit s (htmlScan s.prev [] 0 false s.rest).2.1 TT.HTML (htmlScan s.prev [] 0 false s.rest).1.reverse).2.rest ≠ [] := hrest
    rw [emit_rest] at hrest'
    show (advance s.tokenBegins _).prev ≠ 92
    rw [advance_prev_byte]
    exact htmlScan_stop s.rest s.prev [] 0 false hrest'

theorem strDesc_st (s : Lx) : (strDesc s).st = s := rfl

theorem codeDesc_emit_hinv (s : Lx) (h : HInv s) (hh : s.isHTML = false) (hne : s.rest ≠ []) :
    HInv (codeDesc s).emit.2 := by
  have hd := codeDesc_ok s hne
  unfold TokDesc.emit
  rcases hd.html with hf | ⟨hn, h41⟩
  · exact HInv.of_code (by rw [emit_panicked, hd.pan]; exact h.1) (by rw [emit_isHTML, hf]; exact hh)
  · refine ⟨by rw [emit_panicked, hd.pan]; exact h.1, fun _ _ => ?_⟩
    rw [hn]
    have := emit_prev_split (codeDesc s).st (codeDesc s).ty (codeDesc s).lit [] s.char _ (by rw [hd.same.rest]; exact s.rest_eq_cons hne)
    simp only [List.length_nil, Nat.zero_add] at this
    rw [this, h41]; decide

theorem bracesToken_rbraces_hinv (s : Lx) (h : HInv s) (hc : s.char = 125) (hp : s.peek = 125) :
    HInv (bracesToken s .RBRACES [125, 125]).2 := by
  unfold bracesToken
  refine ⟨by rw [emit_panicked]; exact h.1, fun _ _ => ?_⟩
  have hr := s.rest_eq_cons2 (by rw [hp]; decide)
  rw [hc, hp] at hr
  have := emit_prev_split { s with isHTML := (TT.RBRACES != TT.LBRACES) } .RBRACES [125, 125] [125] 125 _ hr
  simp only [List.length_cons, List.length_nil] at this
  rw [this]; decide

theorem bracesToken_lbraces_isHTML (s : Lx) : (bracesToken s .LBRACES [123, 123]).2.isHTML = false := by
  unfold bracesToken; rw [emit_isHTML]; rfl

theorem bracesToken_lbraces_panicked (s : Lx) : (bracesToken s .LBRACES [123, 123]).2.panicked = s.panicked := by
  unfold bracesToken; rw [emit_panicked]

theorem skipComment_hinv (s : Lx) (hp : s.panicked = false) (hh : s.isHTML = false) : HInv (skipComment s) := by
  rw [skipComment_eq]
  split
  · exact HInv.of_code (by rw [advance_panicked]; exact hp) (by rw [advance_isHTML]; exact hh)
  · rename_i hneof
    refine ⟨by rw [advance_panicked]; exact hp, fun _ _ => ?_⟩
    have hrest : ∀ a : Lx, a.rest = s.rest → (advance a (2 + commentScan (s.rest.drop 2))).rest =
        (s.rest.drop 2).drop (commentScan (s.rest.drop 2)) := fun a e => by rw [advance_rest, e, List.drop_drop]
    rcases commentScan_stop (s.rest.drop 2) with hnil | ⟨r, hr⟩
    · exact absurd ((isEOF_iff _).mpr ((hrest s rfl).trans hnil)) hneof
    · rw [← advance_add]
      have := advance_prev_split (advance (s.withHTML true) (2 + commentScan (s.rest.drop 2))) [45, 45, 125] 125 r
        (by rw [hrest (s.withHTML true) rfl, hr]; rfl)
      simp only [List.length_cons, List.length_nil] at this
      rw [this]; decide

theorem advance_prev_mem (s : Lx) (n : Nat) (h1 : 1 ≤ n) (h2 : n ≤ s.rest.length) :
    (advance s n).prev ∈ s.rest.take n := by
  rw [advance_prev_byte]
  refine lastOr_mem (fun h => ?_) _
  have := congrArg List.length h
  rw [List.length_take, List.length_nil] at this
  omega

theorem letter_ne_backslash (c : Byte) (h : isLetterWord c = true) : c ≠ 92 := by
  intro h92; rw [h92] at h; revert h; decide

theorem directiveToken_hinv (s : Lx) (h : HInv s) (hd : (isDirectiveToken s).1 = true) :
    HInv (directiveToken s).2 := by
  obtain ⟨m, hm, hmle⟩ := dirScan_prefix s.rest [] .ILLEGAL
  simp only [List.nil_append] at hm
  have hlen : (dirScan [] .ILLEGAL s.rest).1.length = m := by rw [hm, List.length_take]; omega
  have hpos : 1 ≤ m := by rw [← hlen]; exact (directiveDesc_eq s hd ▸ directiveDesc_ok s hd).n_pos
  have hall := dirScan_letters s.rest [] .ILLEGAL rfl
  unfold directiveToken
  rw [directiveDesc_eq s hd]
  simp only [TokDesc.emit]
  -- the byte before the state the token leaves is the last letter of the keyword
  have hprev : (emit s (dirScan [] .ILLEGAL s.rest).1.length (dirScan [] .ILLEGAL s.rest).2 (dirScan [] .ILLEGAL s.rest).1).2.prev ≠ 92 := by
    unfold emit
    rw [hlen]
    have hmem := advance_prev_mem s.tokenBegins m hpos hmle
    rw [tokenBegins_rest, ← hm] at hmem
    exact letter_ne_backslash _ (List.all_eq_true.mp hall _ hmem)
  split
  · exact ⟨by rw [emit_panicked]; exact h.1, fun _ _ => hprev⟩
  · exact ⟨by show (emit _ _ _ _).2.panicked = false; rw [emit_panicked]; exact h.1, fun _ _ => hprev⟩

theorem skipWs_hinv (s : Lx) (h : HInv s) : HInv (skipWs s) := by
  unfold skipWs
  split
  · rename_i hh
    have hh' : s.isHTML = false := by simpa using hh
    exact .of_code (by rw [advance_panicked]; exact h.1) (by rw [advance_isHTML]; exact hh')
  · exact h

/-- why each branch keeps `HInv`.  The flag: only `readHTML` sets it, and started behind a byte other than a backslash it
    never truncates an empty buffer (`htmlScan_nopanic`).  The previous byte, of a state in text mode with input left:
    behind "}}" and behind a comment it is "}"; a token of code stays in code unless it is ")" (`CodeOK.html`), and then
    it is ")"; behind a directive keyword it is a byte of the keyword, a letter or "@" (`dirScan_letters`); `readHTML`
    stops before the end of the input only where an unescaped "{{" or directive begins, so not behind a backslash
    (`htmlScan_stop`).  "{{" and a comment left open end in code, EOF with no input left -/
theorem stepAt_hinv (s : Lx) (h : HInv s) : HInv (stepAt s).2 :=
  stepAt_cases (P := fun r => HInv r.2) s
    (fun heof => ⟨h.1, fun _ hr => absurd heof hr⟩)
    (fun _ _ _ => skipComment_hinv _ (by rw [bracesToken_lbraces_panicked]; exact h.1) (bracesToken_lbraces_isHTML s))
    (fun _ _ => HInv.of_code (by rw [bracesToken_lbraces_panicked]; exact h.1) (bracesToken_lbraces_isHTML s))
    (fun _ _ hc hp _ => bracesToken_rbraces_hinv s h hc hp)
    (fun hne hh => codeDesc_emit_hinv s h hh hne)
    (fun _ _ hd => directiveToken_hinv s h hd)
    (fun hne hh _ _ => htmlToken_hinv s h hh hne)

theorem nextStep_hinv {s : Lx} (h : HInv s) {st : LexStep} {s1 : Lx} (hn : nextStep s = (st, s1)) : HInv s1 := by
  have := stepAt_hinv (skipWs s) (skipWs_hinv s h)
  rwa [show stepAt (skipWs s) = (st, s1) from hn] at this

theorem lexAll_hinv {fuel : Nat} {s : Lx} {ts : List Token} {sf : Lx} (hi : HInv s) (h : lexAll fuel s = some (ts, sf)) : HInv sf := by
  refine lexAll_induct (P := fun _ s _ sf => HInv s → HInv sf) ?_ ?_ ?_ fuel s ts sf h hi
  · intro _ s t s1 hn _ hi; exact nextStep_hinv hi hn
  · intro _ s s1 _ _ hn ih hi; exact ih (nextStep_hinv hi hn)
  · intro _ s t s1 _ _ hn _ ih hi; exact ih (nextStep_hinv hi hn)

/-- C09 `lexer_no_panic`: `HInv` holds of `Lx.init inp`, whose previous byte is 0 -/
theorem tokenize_no_panic (inp : Bytes) (r : LexResult) (h : tokenize inp = some r) : r.panicked = false := by
  obtain ⟨sf, hl, _, hp⟩ := tokenize_some h
  rw [hp]
  exact (lexAll_hinv ⟨rfl, fun _ _ => by simp [Lx.prev, Lx.init]⟩ hl).1

end Tw
