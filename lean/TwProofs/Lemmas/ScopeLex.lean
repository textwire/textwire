/-
  TwProofs.Lemmas.ScopeLex — the lexer on the pieces of code of the scope templates (C04; the template language, `SItem`,
  is in Lemmas/ScopeTop): `{{ name = "text" }}` (`assign_block`), a body of plain text, prints and assignments
  (`AItem`, `lexRun_abody`), and `@if(name) body @end` as one piece of code (`ifbCode_ok`).
-/
import TwProofs.Lemmas.TextArith
import TwProofs.Lemmas.TextIf
namespace Tw
open Lx

/-- `{{ g1 n g2 = g3 q v q g4 }}` -/
def assignSrc (g1 n g2 g3 : Bytes) (q : Byte) (v g4 : Bytes) : Bytes :=
  [123, 123] ++ g1 ++ n ++ g2 ++ [61] ++ g3 ++ strLit q v ++ g4 ++ [125, 125]

def assignKeys (n v : Bytes) : List (TT × Bytes) :=
  [(.LBRACES, [123, 123]), (.IDENT, n), (.ASSIGN, [61]), (.STR, v), (.RBRACES, [125, 125])]

def assignCode (g1 n g2 g3 : Bytes) (q : Byte) (v g4 : Bytes) : Code := { src := assignSrc g1 n g2 g3 q v g4, keys := assignKeys n v }

theorem assign_block (g1 n g2 g3 : Bytes) (q : Byte) (v g4 : Bytes) (hg1 : allWs g1) (hg2 : allWs g2) (hg3 : allWs g3) (hg4 : allWs g4)
    (hn : isName n) (hq : q = 34 ∨ q = 39) (hp : PlainStr q v) (dir : Bool) :
    Block dir (assignCode g1 n g2 g3 q v g4) [(g1, .word n), (g2, .sym 61 .ASSIGN), (g3, .str q v)] g4 where
  src tl := by simp [assignCode, assignSrc, lexemesSrc, Lexeme.src]
  keys := by simp [assignCode, blockKeys, Lexeme.key, assignKeys, hn.2.2]
  gap := hg4
  first _ _ h := by cases h
  lexemes _ := ⟨hg1, Lexeme.word_ok (isName_word hn) hg2 (fun _ => rfl),
    hg2, Lexeme.sym_ok (z := 0) (isSym_assign dir (by decide)) hg3
      (fun _ => isSym_assign dir (by rcases hq with rfl | rfl <;> exact fun e => by cases e)),
    hg3, ⟨hq, hp⟩, trivial⟩

theorem lex_assign (s : Lx) (g1 n g2 g3 : Bytes) (q : Byte) (v g4 tl : Bytes) (hh : s.isHTML = true) (hb : s.braces = 0)
    (hg1 : allWs g1) (hg2 : allWs g2) (hg3 : allWs g3) (hg4 : allWs g4) (hn : isName n) (hq : q = 34 ∨ q = 39) (hp : PlainStr q v)
    (hr : s.rest = assignSrc g1 n g2 g3 q v g4 ++ tl) :
    ∃ toks s5, Run s toks s5 ∧ toks.map key = assignKeys n v ∧ s5.rest = tl ∧ s5.prev = 125 ∧
      mode s5 = (true, s.isDirective, s.parens, 0, s.panicked) :=
  (assign_block g1 n g2 g3 q v g4 hg1 hg2 hg3 hg4 hn hq hp _).lex rfl hh hb hr

/-- an item of a body that stands inside a piece of code (`ifbCode`, `eachElseCode`).  `Code.OK` is asked in front of every
    tail, so the text is `VeryPlain` and `AOK` does not mention what follows; the `BodyOK tl` of `BItem` (Lemmas/TextEach),
    whose text is a run with escapes, does.  And a body here may assign. -/
inductive AItem where
  | text (t : Bytes)
  | print (g1 n g2 : Bytes)
  | assign (g1 n g2 g3 : Bytes) (q : Byte) (v g4 : Bytes)

def AItem.src : AItem → Bytes
  | .text t => t
  | .print g1 n g2 => [123, 123] ++ g1 ++ n ++ g2 ++ [125, 125]
  | .assign g1 n g2 g3 q v g4 => assignSrc g1 n g2 g3 q v g4

def asrc : List AItem → Bytes
  | [] => []
  | i :: r => i.src ++ asrc r

def akeys : List AItem → List (TT × Bytes)
  | [] => []
  | .text t :: r => (.HTML, t) :: akeys r
  | .print _ n _ :: r => (.LBRACES, [123, 123]) :: (.IDENT, n) :: (.RBRACES, [125, 125]) :: akeys r
  | .assign _ n _ _ _ v _ :: r => assignKeys n v ++ akeys r

/-- `notTextFirst` (Lemmas/TextEach), for `AItem` -/
def noTextFirst : List AItem → Prop
  | .text _ :: _ => False
  | _ => True

instance : (r : List AItem) → Decidable (noTextFirst r)
  | [] => isTrue trivial
  | .text _ :: _ => isFalse (fun h => h)
  | .print _ _ _ :: _ => isTrue trivial
  | .assign _ _ _ _ _ _ _ :: _ => isTrue trivial

def AOK : List AItem → Prop
  | [] => True
  | .text t :: r => VeryPlain t ∧ t ≠ [] ∧ noTextFirst r ∧ AOK r
  | .print g1 n g2 :: r => allWs g1 ∧ allWs g2 ∧ isName n ∧ AOK r
  | .assign g1 n g2 g3 q v g4 :: r =>
    allWs g1 ∧ allWs g2 ∧ allWs g3 ∧ allWs g4 ∧ isName n ∧ (q = 34 ∨ q = 39) ∧ PlainStr q v ∧ AOK r

instance : (body : List AItem) → Decidable (AOK body)
  | [] => isTrue trivial
  | .text t :: r => by have := instDecidableAOK r; unfold AOK; exact inferInstance
  | .print g1 n g2 :: r => by have := instDecidableAOK r; unfold AOK; exact inferInstance
  | .assign g1 n g2 g3 q v g4 :: r => by have := instDecidableAOK r; unfold AOK; exact inferInstance

theorem Stops.abody {tl : Bytes} (hs : Stops tl) : ∀ r : List AItem, noTextFirst r → Stops (asrc r ++ tl)
  | [], _ => hs
  | .text _ :: _, h => h.elim
  | .print _ _ _ :: _, _ => .braces _
  | .assign _ _ _ _ _ _ _ :: _, _ => .braces _

theorem lexRun_abody (tl : Bytes) (hs : Stops tl) : ∀ (body : List AItem), AOK body → ∀ (s : Lx), s.rest = asrc body ++ tl →
    s.isHTML = true → s.braces = 0 → s.isDirective = false → s.prev ≠ 92 →
    ∃ ts sf, Run s ts sf ∧ ts.map key = akeys body ∧ sf.rest = tl ∧ sf.isHTML = true ∧ sf.braces = 0 ∧ sf.isDirective = false ∧
      sf.prev ≠ 92 ∧ sf.panicked = s.panicked ∧ sf.parens = s.parens
  | [], _, s, hr, hh, hb, hd, hpv => ⟨[], s, Run.nil s, rfl, by simpa [asrc] using hr, hh, hb, hd, hpv, rfl, rfl⟩
  | .text t :: r, hok, s, hr, hh, hb, hd, _ => by
    obtain ⟨hvp, hne, hnt, hokr⟩ := hok
    have hr' : s.rest = t ++ (asrc r ++ tl) := by rw [hr]; simp [asrc, AItem.src]
    obtain ⟨tk, s1, st1, k1, ne1, r1, pv1, m1⟩ := lex_vplain s t _ hh hvp hne hr' (hs.abody r hnt)
    obtain ⟨ts, sf, run, hk, rf, hf, bf, df, pvf, pf, paf⟩ := lexRun_abody tl hs r hokr s1 r1 (by rw [mode_html m1]; exact hh)
      (by rw [mode_braces m1]; exact hb) (by rw [mode_dir m1]; exact hd) pv1
    exact ⟨tk :: ts, sf, Run.cons _ _ _ _ _ st1 ne1 run, by simp [akeys, k1, hk], rf, hf, bf, df, pvf, by rw [pf, mode_pan m1], by rw [paf, mode_parens m1]⟩
  | .print g1 n g2 :: r, hok, s, hr, hh, hb, hd, _ => by
    obtain ⟨hg1, hg2, hn, hokr⟩ := hok
    obtain ⟨t1, t2, t3, s3, run3, k1, k2, k3, r3, h3, b3, p3, pv3, d3, pa3⟩ := lex_print s g1 n g2 (asrc r ++ tl) hh hb hg1 hg2 hn
      (by rw [hr]; simp [asrc, AItem.src])
    obtain ⟨ts, sf, run, hk, rf, hf, bf, df, pvf, pf, paf⟩ := lexRun_abody tl hs r hokr s3 r3 h3 b3 (by rw [d3]; exact hd) (by rw [pv3]; decide)
    exact ⟨t1 :: t2 :: t3 :: ts, sf, Run.append run3 run, by simp [akeys, k1, k2, k3, hk], rf, hf, bf, df, pvf, by rw [pf, p3], by rw [paf, pa3]⟩
  | .assign g1 n g2 g3 q v g4 :: r, hok, s, hr, hh, hb, hd, _ => by
    obtain ⟨hg1, hg2, hg3, hg4, hn, hq, hp, hokr⟩ := hok
    obtain ⟨toks, s5, run5, k5, r5, pv5, m5⟩ := lex_assign s g1 n g2 g3 q v g4 (asrc r ++ tl) hh hb hg1 hg2 hg3 hg4 hn hq hp
      (by rw [hr]; simp [asrc, AItem.src])
    obtain ⟨f1, f2, f3, f4, f5⟩ := mode_fields m5
    obtain ⟨ts, sf, run, hk, rf, hf, bf, df, pvf, pf, paf⟩ := lexRun_abody tl hs r hokr s5 r5 f1 f4 (by rw [f2]; exact hd) (by rw [pv5]; decide)
    exact ⟨toks ++ ts, sf, Run.append run5 run, by simp [akeys, k5, hk], rf, hf, bf, df, pvf, by rw [pf, f5], by rw [paf, f3]⟩

theorem printCode_ok (g1 n g2 : Bytes) (hg1 : allWs g1) (hg2 : allWs g2) (hn : isName n) : (printCode g1 n g2).OK :=
  (print_block g1 n g2 hg1 hg2 hn false).ok

theorem assignCode_ok (g1 n g2 g3 : Bytes) (q : Byte) (v g4 : Bytes) (hg1 : allWs g1) (hg2 : allWs g2) (hg3 : allWs g3) (hg4 : allWs g4)
    (hn : isName n) (hq : q = 34 ∨ q = 39) (hp : PlainStr q v) : (assignCode g1 n g2 g3 q v g4).OK :=
  (assign_block g1 n g2 g3 q v g4 hg1 hg2 hg3 hg4 hn hq hp false).ok

/-- `@if( g1 c g2 ) body @end` -/
def ifbCode (g1 c g2 : Bytes) (body : List AItem) : Code :=
  { src := kwIf ++ (40 :: (g1 ++ (c ++ (g2 ++ (41 :: (asrc body ++ kwEnd)))))),
    keys := [(.IF, kwIf), (.LPAREN, [40]), (.IDENT, c), (.RPAREN, [41])] ++ (akeys body ++ [(.END, kwEnd)]) }

theorem ifbCode_ok (g1 c g2 : Bytes) (body : List AItem) (hg1 : allWs g1) (hg2 : allWs g2) (hc : isName c) (hbody : AOK body) :
    (ifbCode g1 c g2 body).OK := by
  refine .of_run ?_ ?_
  · intro tl
    have := Stops.kw isKw_if ((40 :: (g1 ++ (c ++ (g2 ++ (41 :: (asrc body ++ kwEnd)))))) ++ tl)
    simpa [ifbCode, List.append_assoc] using this
  · intro s tl hr hh hb hpa hd hpv
    have hr' : s.rest = kwIf ++ (40 :: (g1 ++ (c ++ (g2 ++ (41 :: (asrc body ++ (kwEnd ++ tl))))))) := by
      rw [hr]; simp [ifbCode, List.append_assoc]
    obtain ⟨t1, t2, t3, t4, s4, run4, k1, k2, k3, k4, r4, pv4, m4⟩ := lex_cond_header kwIf .IF dirKw_if s g1 c g2 _ hh hpv hpa hg1 hg2 hc hr'
    obtain ⟨f1, f2, f3, f4, f5⟩ := mode_fields m4
    obtain ⟨ts, sb, runb, kb, rb, hhb, bb, db, pvb, pb, pab⟩ := lexRun_abody _ (Stops.kw isKw_end tl) body hbody s4 r4 f1 (by rw [f4]; exact hb) f2
      (by rw [pv4]; decide)
    obtain ⟨t7, s7, st7, k7, ne7, r7, pv7, m7⟩ := end_step sb tl hhb pvb rb
    exact ⟨[t1, t2, t3, t4] ++ ts ++ [t7], s7, Run.snoc (Run.append run4 runb) st7 ne7, by simp [ifbCode, k1, k2, k3, k4, kb, k7], r7, pv7,
      by rw [m7, pab, f3, bb, pb, f5]⟩

end Tw
