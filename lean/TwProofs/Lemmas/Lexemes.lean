/-
  TwProofs.Lemmas.Lexemes — the tokens of code from a list of lexemes.  A piece of code is written as
  its lexemes (a word, a number, a plain string, a one-byte token), each with the white space in front
  of it; the single steps of CodeSteps chain along every such list, between "{{" and "}}" or behind a
  directive keyword and its "(".  The shapes of block and directive in the Text… and Lex… files are
  instances, first among them `{{ "text" }}`, `{{ name }}` and `@kw( name )`; `@end` and `@else` take
  no argument list.
-/
import TwProofs.Lemmas.CodeSteps
namespace Tw
open Lx

/-- `op` is a one-byte operator known only by what `Op1` says of it -/
inductive Lexeme where
  | word (n : Bytes)
  | int (d : Bytes)
  | str (q : Byte) (c : Bytes)
  | sym (c : Byte) (ty : TT)
  | op (c : Byte) (ty : TT) (pr : Nat) (h : Op1 c ty pr)

def Lexeme.src : Lexeme → Bytes
  | .word n => n
  | .int d => d
  | .str q c => strLit q c
  | .sym c _ => [c]
  | .op c _ _ _ => [c]

def Lexeme.key : Lexeme → TT × Bytes
  | .word n => (lookupIdent n, n)
  | .int d => (.INT, d)
  | .str _ c => (.STR, c)
  | .sym c ty => (ty, [c])
  | .op c ty _ _ => (ty, [c])

/-- the lexeme is well formed and the byte `z` behind it does not continue it -/
def Lexeme.OKBefore (dir : Bool) : Lexeme → Byte → Prop
  | .word n, z => isWord n ∧ (isIdentCh z || isNumberCh z) = false
  | .int d, z => isDigits d ∧ isNumberCh z = false ∧ z ≠ 46
  | .str q c, _ => (q = 34 ∨ q = 39) ∧ PlainStr q c
  | .sym c ty, z => IsSym dir c ty z
  | .op c _ _ _, z => z ≠ c ∧ z ≠ 61

theorem Lexeme.OKBefore.ws {dir : Bool} {l : Lexeme} {z w : Byte} (h : l.OKBefore dir z) (hw : isWs w = true) : l.OKBefore dir w := by
  cases l with
  | word n => exact ⟨h.1, by rw [ws_not_ident hw, ws_not_number hw]; rfl⟩
  | int d => exact ⟨h.1, ws_not_number hw, fun e => by rw [e] at hw; cases hw⟩
  | str q c => exact h
  | sym c ty => exact IsSym.after_ws h hw
  | op c ty pr ho => exact ⟨fun e => (by rw [e, ho.not_ws] at hw; cases hw), fun e => (by rw [e] at hw; cases hw)⟩

theorem Lexeme.OKBefore.gap {dir : Bool} {l : Lexeme} {z : Byte} {g u : Bytes} (h : l.OKBefore dir z) (hg : allWs g)
    (hz : g = [] → l.OKBefore dir (u.headD 0)) : l.OKBefore dir ((g ++ u).headD 0) := by
  cases g with
  | nil => exact hz rfl
  | cons w t => exact h.ws (hg w List.mem_cons_self)

theorem Lexeme.word_ok {dir : Bool} {n g u : Bytes} (hn : isWord n) (hg : allWs g)
    (hz : g = [] → (isIdentCh (u.headD 0) || isNumberCh (u.headD 0)) = false) : (Lexeme.word n).OKBefore dir ((g ++ u).headD 0) :=
  -- 32 only feeds `OKBefore.gap`: any byte that does not continue the lexeme would do
  Lexeme.OKBefore.gap (z := 32) ⟨hn, rfl⟩ hg (fun e => ⟨hn, hz e⟩)

/-- the byte behind the gap is named: at a use the two conditions are about a numeral (`rfl`, `by decide`) -/
theorem Lexeme.int_before {dir : Bool} {d g x : Bytes} {c : Byte} (hd : isDigits d) (hg : allWs g) (h2 : isNumberCh c = false) (h3 : c ≠ 46) :
    (Lexeme.int d).OKBefore dir ((g ++ c :: x).headD 0) :=
  Lexeme.OKBefore.gap (z := 32) ⟨hd, rfl, by decide⟩ hg (fun _ => ⟨hd, h2, h3⟩)

theorem Lexeme.sym_ok {dir : Bool} {c : Byte} {ty : TT} {z : Byte} {g u : Bytes} (h : IsSym dir c ty z) (hg : allWs g)
    (hz : g = [] → IsSym dir c ty (u.headD 0)) : (Lexeme.sym c ty).OKBefore dir ((g ++ u).headD 0) :=
  Lexeme.OKBefore.gap (l := .sym c ty) h hg hz

def lexemesSrc : List (Bytes × Lexeme) → Bytes → Bytes
  | [], x => x
  | (g, l) :: r, x => g ++ (l.src ++ lexemesSrc r x)

def LexemesOK (dir : Bool) (x : Bytes) : List (Bytes × Lexeme) → Prop
  | [] => True
  | (g, l) :: r => allWs g ∧ l.OKBefore dir ((lexemesSrc r x).headD 0) ∧ LexemesOK dir x r

theorem LexemesOK.clean {dir : Bool} {x : Bytes} : ∀ {b : List (Bytes × Lexeme)}, LexemesOK dir x b → ∀ k ∈ b.map (·.2.key), k.1 ≠ .ILLEGAL
  | [], _, _, hk => nomatch hk
  | (_, l) :: _, h, k, hk => by
    rcases List.mem_cons.mp hk with rfl | hk
    · cases l with
      | word n => exact lookupIdent_ne_illegal n
      | int d => exact nofun
      | str q c => exact nofun
      | sym c ty => exact IsSym.ne_illegal h.2.1
      | op c ty pr ho => exact ho.ne_illegal
    · exact h.2.2.clean k hk

theorem lexeme_step (s : Lx) (g x : Bytes) (l : Lexeme) (hh : s.isHTML = false) (hg : allWs g) (hr : s.rest = g ++ (l.src ++ x))
    (hl : l.OKBefore s.isDirective (x.headD 0)) :
    ∃ last t s1, nextStep s = (.tok t, s1) ∧ key t = l.key ∧ t.ty ≠ .EOF ∧ After s s1 x last := by
  cases l with
  | word n => exact ⟨_, code_word_step s g n x hh hg hl.1 hr hl.2⟩
  | int d => exact ⟨_, code_int_step s g d x hh hg hl.1 hr hl.2.1 hl.2.2⟩
  | str q c => exact ⟨_, code_str_step s g q c x hh hg hl.1 hl.2 (by rw [hr]; simp [Lexeme.src, strLit])⟩
  | sym c ty =>
    obtain ⟨t, s1, h1, h2, _, h4⟩ := code_sym_step s c ty g x hh hg hr hl
    exact ⟨_, t, s1, h1, h2, key_ne_eof h2 hl.ne_eof, h4⟩
  | op c ty pr ho =>
    obtain ⟨t, s1, h1, h2, _, h4⟩ := ho.step s g x hh hg hr hl.1 hl.2
    exact ⟨_, t, s1, h1, h2, key_ne_eof h2 ho.ne_eof, h4⟩

/-- `LexemesOK` is asked at `s.isDirective`: in the argument list of a directive "(" and ")" are counted, so they are
    `IsSym` only outside one -/
theorem lex_lexemes (x : Bytes) : ∀ (b : List (Bytes × Lexeme)) (s : Lx), s.isHTML = false → s.rest = lexemesSrc b x →
    LexemesOK s.isDirective x b →
    ∃ toks s1, Run s toks s1 ∧ toks.map key = b.map (·.2.key) ∧ s1.rest = x ∧ mode s1 = mode s
  | [], s, _, hr, _ => ⟨[], s, Run.nil s, rfl, hr, rfl⟩
  | (g, l) :: r, s, hh, hr, hok => by
    obtain ⟨_, t, s1, h1, h2, h3, h4⟩ := lexeme_step s g (lexemesSrc r x) l hh hok.1 hr hok.2.1
    obtain ⟨ts, s2, r1, r2, r3, r4⟩ := lex_lexemes x r s1 (by rw [mode_html h4.md]; exact hh) h4.rest (by rw [mode_dir h4.md]; exact hok.2.2)
    exact ⟨t :: ts, s2, Run.cons _ _ _ _ _ h1 h3 r1, by simp [h2, r2], r3, by rw [r4, h4.md]⟩

def blockKeys (b : List (Bytes × Lexeme)) : List (TT × Bytes) :=
  (.LBRACES, [123, 123]) :: (b.map (·.2.key) ++ [(.RBRACES, [125, 125])])

theorem lexemes_first (dir : Bool) (g2 tl : Bytes) (hg2 : allWs g2) : ∀ b : List (Bytes × Lexeme),
    LexemesOK dir (g2 ++ 125 :: 125 :: tl) b → (∀ ty r, b ≠ ([], .sym 45 ty) :: r) → (∀ ty pr h r, b ≠ ([], .op 45 ty pr h) :: r) →
    (lexemesSrc b (g2 ++ 125 :: 125 :: tl)).headD 0 ≠ 45
  | [], _, _, _ => by
    cases g2 with
    | nil => exact fun e => by cases e
    | cons w t => intro e; have := hg2 w List.mem_cons_self; simp only [lexemesSrc, List.cons_append, List.headD_cons] at e; rw [e] at this; cases this
  | (g, l) :: r, hok, hne, hne' => by
    cases g with
    | cons w t =>
      intro e; have := hok.1 w List.mem_cons_self
      simp only [lexemesSrc, List.cons_append, List.headD_cons] at e; rw [e] at this; cases this
    | nil =>
      simp only [lexemesSrc, List.nil_append]
      cases l with
      | word n =>
        obtain ⟨⟨c, v, rfl, hc⟩, _⟩ := hok.2.1.1
        exact (NotSpecial.of_identCh hc).ne_minus
      | int d =>
        obtain ⟨c, v, rfl⟩ := List.exists_cons_of_ne_nil hok.2.1.1.1
        exact (NotSpecial.of_digit (hok.2.1.1.2 c List.mem_cons_self)).ne_minus
      | str q c => rcases hok.2.1.1 with rfl | rfl <;> exact fun e => by cases e
      | sym c ty => exact fun e => hne ty r (by simp only [Lexeme.src, List.cons_append, List.headD_cons] at e; rw [e])
      | op c ty pr ho =>
        intro e
        simp only [Lexeme.src, List.cons_append, List.headD_cons] at e
        subst e
        exact hne' ty pr ho r rfl

/-- `{{ lexemes g2 }}`, from text mode back to text mode.  `hb`: "}}" closes the block only with the brace counter at
    zero.  `hne`, `hne'`: the code does not begin with "-" (what `lex_open` asks, so that "{{" does not open a comment) -/
theorem lex_block (s : Lx) (b : List (Bytes × Lexeme)) (g2 tl : Bytes) (hh : s.isHTML = true) (hb : s.braces = 0) (hg2 : allWs g2)
    (hr : s.rest = 123 :: 123 :: lexemesSrc b (g2 ++ 125 :: 125 :: tl)) (hne : ∀ ty r, b ≠ ([], .sym 45 ty) :: r)
    (hok : LexemesOK s.isDirective (g2 ++ 125 :: 125 :: tl) b)
    (hne' : ∀ ty pr h r, b ≠ ([], .op 45 ty pr h) :: r := by exact fun _ _ _ _ h => by cases h) :
    ∃ toks sf, Run s toks sf ∧ toks.map key = blockKeys b ∧ sf.rest = tl ∧ sf.prev = 125 ∧
      mode sf = (true, s.isDirective, s.parens, 0, s.panicked) := by
  obtain ⟨t1, s1, st1, k1, ne1, r1, _, m1⟩ := lex_open s _ hh hr (lexemes_first _ g2 tl hg2 b hok hne hne')
  obtain ⟨a1, a2, a3, a4, a5⟩ := mode_fields m1
  obtain ⟨ts, s2, run, hk, r2, m2⟩ := lex_lexemes _ b s1 a1 r1 (by rw [a2]; exact hok)
  obtain ⟨t3, s3, st3, k3, ne3, r3, pv3, m3⟩ := code_close_step s2 g2 tl (by rw [mode_html m2]; exact a1)
    (by rw [mode_braces m2, a4]; exact hb) hg2 r2
  refine ⟨t1 :: (ts ++ [t3]), s3, Run.cons _ _ _ _ _ st1 ne1 (Run.append run (Run.cons _ _ _ _ _ st3 ne3 (Run.nil _))),
    by simp [blockKeys, k1, hk, k3], r3, pv3, ?_⟩
  rw [m3, mode_dir m2, mode_parens m2, mode_pan m2, a2, a3, a5]

theorem lex_block_one (s : Lx) (g1 : Bytes) (l : Lexeme) (g2 tl : Bytes) (hh : s.isHTML = true) (hb : s.braces = 0)
    (hg1 : allWs g1) (hg2 : allWs g2) (hl : l.OKBefore s.isDirective ((g2 ++ 125 :: 125 :: tl).headD 0)) (hne : ∀ ty, l ≠ .sym 45 ty)
    (hr : s.rest = 123 :: 123 :: (g1 ++ (l.src ++ (g2 ++ 125 :: 125 :: tl))))
    (hne' : ∀ ty pr h, l ≠ .op 45 ty pr h := by exact fun _ _ _ h => by cases h) :
    ∃ t1 t2 t3 s3, Run s [t1, t2, t3] s3 ∧ key t1 = (.LBRACES, [123, 123]) ∧ key t2 = l.key ∧ key t3 = (.RBRACES, [125, 125]) ∧
      s3.rest = tl ∧ s3.isHTML = true ∧ s3.braces = 0 ∧ s3.panicked = s.panicked ∧ s3.prev = 125 ∧
      s3.isDirective = s.isDirective ∧ s3.parens = s.parens := by
  obtain ⟨toks, s3, run, hkeys, r3, pv, m⟩ := lex_block s [(g1, l)] g2 tl hh hb hg2 hr
    (fun ty r e => hne ty (by cases e; rfl)) ⟨hg1, hl, trivial⟩ (fun ty pr h r e => hne' ty pr h (by cases e; rfl))
  obtain ⟨t1, _, rfl, k1, hkeys⟩ := List.map_eq_cons_iff.mp hkeys
  obtain ⟨t2, _, rfl, k2, hkeys⟩ := List.map_eq_cons_iff.mp hkeys
  obtain ⟨t3, _, rfl, k3, hkeys⟩ := List.map_eq_cons_iff.mp hkeys
  cases List.map_eq_nil_iff.mp hkeys
  obtain ⟨f1, f2, f3, f4, f5⟩ := mode_fields m
  exact ⟨t1, t2, t3, s3, run, k1, k2, k3, r3, f1, f4, f5, pv, f2, f3⟩

/-- `{{ g1 "c" g2 }}`, either quote -/
theorem lex_lit (s : Lx) (g1 : Bytes) (q : Byte) (c g2 tl : Bytes) (hh : s.isHTML = true) (hb : s.braces = 0)
    (hg1 : allWs g1) (hg2 : allWs g2) (hq : q = 34 ∨ q = 39) (hp : PlainStr q c)
    (hr : s.rest = [123, 123] ++ g1 ++ (q :: (c ++ [q])) ++ g2 ++ [125, 125] ++ tl) :
    ∃ t1 t2 t3 s3, Run s [t1, t2, t3] s3 ∧ key t1 = (.LBRACES, [123, 123]) ∧ key t2 = (.STR, c) ∧ key t3 = (.RBRACES, [125, 125]) ∧
      s3.rest = tl ∧ s3.isHTML = true ∧ s3.braces = 0 ∧ s3.panicked = s.panicked ∧ s3.prev = 125 ∧
      s3.isDirective = s.isDirective ∧ s3.parens = s.parens :=
  lex_block_one s g1 (.str q c) g2 tl hh hb hg1 hg2 ⟨hq, hp⟩ (fun _ e => by cases e) (by rw [hr]; simp [Lexeme.src, strLit])

/-- `{{ g1 name g2 }}` -/
theorem lex_print (s : Lx) (g1 n g2 tl : Bytes) (hh : s.isHTML = true) (hb : s.braces = 0)
    (hg1 : allWs g1) (hg2 : allWs g2) (hn : isName n)
    (hr : s.rest = [123, 123] ++ g1 ++ n ++ g2 ++ [125, 125] ++ tl) :
    ∃ t1 t2 t3 s3, Run s [t1, t2, t3] s3 ∧ key t1 = (.LBRACES, [123, 123]) ∧ key t2 = (.IDENT, n) ∧ key t3 = (.RBRACES, [125, 125]) ∧
      s3.rest = tl ∧ s3.isHTML = true ∧ s3.braces = 0 ∧ s3.panicked = s.panicked ∧ s3.prev = 125 ∧
      s3.isDirective = s.isDirective ∧ s3.parens = s.parens := by
  have h := lex_block_one s g1 (.word n) g2 tl hh hb hg1 hg2 (Lexeme.word_ok (isName_word hn) hg2 (fun _ => rfl))
    (fun _ e => by cases e) (by rw [hr]; simp [Lexeme.src])
  rwa [show (Lexeme.word n).key = (.IDENT, n) from congrArg (·, n) hn.2.2] at h

def kwIf : Bytes := [64, 105, 102]
def kwElse : Bytes := [64, 101, 108, 115, 101]
def kwEnd : Bytes := [64, 101, 110, 100]

/-- the table of the sixteen directive keywords written out in bytes.  `directivesB` builds it from strings, and a `decide`
    about `lookupDirective` or `longestDirective` would encode all sixteen again each time it is checked. -/
def directiveTable : List (Bytes × TT) :=
  [([64, 98, 114, 101, 97, 107], .BREAK),
    ([64, 98, 114, 101, 97, 107, 73, 102], .BREAK_IF),
    ([64, 99, 111, 109, 112, 111, 110, 101, 110, 116], .COMPONENT),
    ([64, 99, 111, 110, 116, 105, 110, 117, 101], .CONTINUE),
    ([64, 99, 111, 110, 116, 105, 110, 117, 101, 73, 102], .CONTINUE_IF),
    ([64, 100, 117, 109, 112], .DUMP),
    ([64, 101, 97, 99, 104], .EACH),
    ([64, 101, 108, 115, 101], .ELSE),
    ([64, 101, 108, 115, 101, 105, 102], .ELSE_IF),
    ([64, 101, 110, 100], .END),
    ([64, 102, 111, 114], .FOR),
    ([64, 105, 102], .IF),
    ([64, 105, 110, 115, 101, 114, 116], .INSERT),
    ([64, 114, 101, 115, 101, 114, 118, 101], .RESERVE),
    ([64, 115, 108, 111, 116], .SLOT),
    ([64, 117, 115, 101], .USE)]

theorem directivesB_eq : directivesB = directiveTable := by decide

theorem lookupDirective_bytes (k : Bytes) : lookupDirective k = (lookupAssoc directiveTable k).getD .ILLEGAL := by
  rw [lookupDirective, directivesB_eq]

theorem longestDirective_eq : longestDirective = 11 := by
  rw [longestDirective, directivesB_eq]
  decide

theorem dirScan_kw (ty : TT) (x : Bytes) (hty : ty ≠ .ILLEGAL) (hlong : isPotentiallyLong ty x = false) :
    ∀ (kw acc : Bytes) (tok : TT), kw ≠ [] → kw.all isLetterWord = true →
      (∀ i, i < kw.length → 0 < i → lookupDirective (acc ++ kw.take i) = .ILLEGAL) → lookupDirective (acc ++ kw) = ty →
      dirScan acc tok (kw ++ x) = (acc ++ kw, ty)
  | [], _, _, h, _, _, _ => absurd rfl h
  | [c], acc, tok, _, hl, _, hk => by
    have hc : isLetterWord c = true := by simpa using hl
    simp [dirScan, hc, hk, hlong, hty]
  | c :: c2 :: r, acc, tok, _, hl, hpre, hk => by
    have hc : isLetterWord c = true := by simp at hl; exact hl.1
    have h1 : lookupDirective (acc ++ [c]) = .ILLEGAL := hpre 1 (by simp) (by decide)
    have ih := dirScan_kw ty x hty hlong (c2 :: r) (acc ++ [c]) .ILLEGAL (List.cons_ne_nil _ _) (by simp at hl ⊢; exact hl.2)
      (fun i hi h0 => by simpa using hpre (i + 1) (by simpa using hi) (Nat.succ_pos _)) (by simpa using hk)
    rw [List.cons_append, dirScan, if_pos hc]
    simp only [h1, bne_self_eq_false, Bool.and_false, Bool.false_eq_true, if_false]
    simpa using ih

theorem isPotentiallyLong_of_parens {ty : TT} (h : tokensWithoutParens.contains ty = false) (x : Bytes) :
    isPotentiallyLong ty x = false := by
  have h3 : (ty == .ELSE) = false ∧ (ty == .BREAK) = false ∧ (ty == .CONTINUE) = false := by
    simp only [tokensWithoutParens, List.contains_cons, List.contains_nil, Bool.or_false, Bool.or_eq_false_iff] at h
    exact ⟨h.1, h.2.2.1, h.2.2.2.1⟩
  simp only [isPotentiallyLong, h3, Bool.false_and, Bool.or_self]

theorem dirScan_else (x : Bytes) (hx : ¬ (x.headD 0 = 105 ∧ (x.drop 1).headD 0 = 102)) :
    dirScan [] .ILLEGAL (kwElse ++ x) = (kwElse, .ELSE) := by
  have hp : isPotentiallyLong .ELSE x = false := by
    unfold isPotentiallyLong
    have : (x.headD 0 == 105 && (x.drop 1).headD 0 == 102) = false := by
      cases h : (x.headD 0 == 105 && (x.drop 1).headD 0 == 102)
      · rfl
      · simp only [Bool.and_eq_true, beq_iff_eq] at h; exact absurd h hx
    simp only [beq_self_eq_true, Bool.true_and, this]
    rfl
  exact dirScan_kw .ELSE x (by decide) hp kwElse [] _ (by decide) (by decide) (by simp only [lookupDirective_bytes]; decide)
    (by rw [lookupDirective_bytes]; decide)

theorem dirScan_end (x : Bytes) : dirScan [] .ILLEGAL (kwEnd ++ x) = (kwEnd, .END) :=
  dirScan_kw .END x (by decide) rfl kwEnd [] _ (by decide) (by decide) (by simp only [lookupDirective_bytes]; decide)
    (by rw [lookupDirective_bytes]; decide)

theorem hasDirectivePrefix_kw (kw x : Bytes) (hk : lookupDirective kw ≠ .ILLEGAL) (hl2 : kw.length ≤ longestDirective) :
    hasDirectivePrefix (kw ++ x) = true := by
  have hl : 1 ≤ kw.length := by
    cases kw with
    | nil => exact absurd (by rw [lookupDirective_bytes]; rfl) hk
    | cons c v => exact Nat.succ_pos _
  unfold hasDirectivePrefix
  rw [List.any_eq_true]
  refine ⟨kw.length - 1, by simp; omega, ?_⟩
  have e : kw.length - 1 + 1 = kw.length := by omega
  rw [e]
  simp only [List.length_append, Bool.and_eq_true, decide_eq_true_eq]
  refine ⟨by omega, ?_⟩
  rw [List.take_left']
  · simpa using hk
  · rfl

structure IsKw (kw : Bytes) (ty : TT) : Prop where
  hat : kw.headD 0 = 64
  len1 : 1 ≤ kw.length
  len2 : kw.length ≤ longestDirective
  lk : lookupDirective kw ≠ .ILLEGAL
  ty1 : ty ≠ .ILLEGAL
  ty2 : ty ≠ .EOF

theorem IsKw.of_lookup {kw : Bytes} {ty : TT} (hk : lookupDirective kw = ty) (hty : ty ≠ .ILLEGAL) : IsKw kw ty := by
  subst hk
  have h : ∀ p ∈ directiveTable, p.1.headD 0 = 64 ∧ 1 ≤ p.1.length ∧ p.1.length ≤ 11 := by decide
  obtain ⟨h1, h2, h3⟩ := h _ (directivesB_eq ▸ lookupDirective_mem kw hty)
  exact ⟨h1, h2, longestDirective_eq ▸ h3, hty, hty, lookupDirective_ne_eof kw⟩

theorem isKw_else : IsKw kwElse .ELSE := .of_lookup (by rw [lookupDirective_bytes]; decide) (by decide)
theorem isKw_end : IsKw kwEnd .END := .of_lookup (by rw [lookupDirective_bytes]; decide) (by decide)

/-- the lexer stays in text mode exactly when no argument list follows: the kind takes none (`@else`, `@end`), or an
    optional one and the next byte is not "(" -/
theorem lex_keyword (s : Lx) (kw x : Bytes) (ty : TT) (hh : s.isHTML = true) (hprev : s.prev ≠ 92)
    (hr : s.rest = kw ++ x) (hat : kw.headD 0 = 64) (hl : 1 ≤ kw.length) (hl2 : kw.length ≤ longestDirective)
    (hscan : dirScan [] .ILLEGAL (kw ++ x) = (kw, ty)) (hty : ty ≠ .ILLEGAL) (hlk : lookupDirective kw ≠ .ILLEGAL) (hne : ty ≠ .EOF) :
    ∃ t s1, nextStep s = (.tok t, s1) ∧ key t = (ty, kw) ∧ t.ty ≠ .EOF ∧ s1.rest = x ∧
      s1.isHTML = (tokensWithoutParens.contains ty && !(tokensWithOptionalParens.contains ty && x.headD 0 == 40)) ∧
      s1.isDirective = !(tokensWithoutParens.contains ty && !(tokensWithOptionalParens.contains ty && x.headD 0 == 40)) ∧
      s1.parens = s.parens ∧ s1.braces = s.braces ∧ s1.panicked = s.panicked ∧ s1.prev = kw.reverse.headD 0 := by
  have hkne : kw ≠ [] := by intro e; rw [e] at hl; simp at hl
  obtain ⟨c, v, rfl⟩ := List.exists_cons_of_ne_nil hkne
  have hchar : s.char = 64 := by rw [Lx.char, hr]; exact hat
  have hneof : s.isEOF = false := by rw [Lx.isEOF, hr]; rfl
  have hdt : (isDirectiveToken s).1 = true := by
    unfold isDirectiveToken
    rw [hchar, hneof, if_neg (by decide), hr, hasDirectivePrefix_kw (c :: v) x hlk hl2]
    have : (s.prev == 92) = false := by simpa using hprev
    simp [this]
  have hdesc : directiveDesc s = { st := s, n := (c :: v).length, ty := ty, lit := c :: v } := by
    unfold directiveDesc
    rw [if_neg (by rw [hchar]; simp), hr, hscan]
    simp only []
    rw [if_neg (by simpa using hty)]
  obtain ⟨a1, a2, a3⟩ := TokDesc.emit_after (directiveDesc s) (c :: v) x hkne (by rw [hdesc]; exact hr) (by rw [hdesc])
  have hdtok : directiveToken s = ((directiveDesc s).emit.1,
      { (directiveDesc s).emit.2 with
        isDirective := (tokensWithOptionalParens.contains ty && (directiveDesc s).emit.2.char == 40) || !tokensWithoutParens.contains ty,
        isHTML := !((tokensWithOptionalParens.contains ty && (directiveDesc s).emit.2.char == 40) || !tokensWithoutParens.contains ty) }) := by
    unfold directiveToken
    simp only []
    rw [hdesc]
    simp only []
    rw [if_neg (by simpa using hty)]
  have hc1 : (directiveDesc s).emit.2.char = x.headD 0 := by simp [Lx.char, a1]
  have hm : mode (directiveDesc s).emit.2 = mode s := by rw [a2, hdesc]
  refine ⟨(directiveToken s).1, (directiveToken s).2, by rw [nextStep_html s hh, stepAt_dir s hh hdt], ?_, ?_, ?_, ?_, ?_, ?_, ?_, ?_, ?_⟩
  · rw [hdtok]; simp only []; rw [TokDesc.emit_key, hdesc]
  · rw [hdtok]; simp only []; rw [TokDesc.emit_ty, hdesc]; exact hne
  · rw [hdtok]; exact a1
  · rw [hdtok]; simp only [hc1]
    cases tokensWithoutParens.contains ty <;> cases tokensWithOptionalParens.contains ty <;> cases (x.headD 0 == 40) <;> rfl
  · rw [hdtok]; simp only [hc1]
    cases tokensWithoutParens.contains ty <;> cases tokensWithOptionalParens.contains ty <;> cases (x.headD 0 == 40) <;> rfl
  · rw [hdtok]; simp only []; exact mode_parens hm
  · rw [hdtok]; simp only []; exact mode_braces hm
  · rw [hdtok]; simp only []; exact mode_pan hm
  · rw [hdtok]; simp only [Lx.prev]; exact a3

theorem IsKw.step {kw : Bytes} {ty : TT} (hk : IsKw kw ty) (s : Lx) (x : Bytes) (hh : s.isHTML = true) (hprev : s.prev ≠ 92)
    (hr : s.rest = kw ++ x) (hscan : dirScan [] .ILLEGAL (kw ++ x) = (kw, ty))
    (hnp : (tokensWithoutParens.contains ty && !(tokensWithOptionalParens.contains ty && x.headD 0 == 40)) = true)
    (hlast : kw.reverse.headD 0 ≠ 92) :
    ∃ t s1, nextStep s = (.tok t, s1) ∧ key t = (ty, kw) ∧ t.ty ≠ .EOF ∧ s1.rest = x ∧ s1.prev ≠ 92 ∧
      mode s1 = (true, false, s.parens, s.braces, s.panicked) := by
  obtain ⟨t, s1, st, k, ne, r1, h1, d1, pa1, b1, p1, pv1⟩ := lex_keyword s kw x ty hh hprev hr hk.hat hk.len1 hk.len2 hscan hk.ty1 hk.lk hk.ty2
  rw [hnp] at h1 d1
  exact ⟨t, s1, st, k, ne, r1, by rw [pv1]; exact hlast, by simp only [mode, h1, d1, pa1, b1, p1]; rfl⟩

theorem end_step (s : Lx) (tl : Bytes) (hh : s.isHTML = true) (hprev : s.prev ≠ 92) (hr : s.rest = kwEnd ++ tl) :
    ∃ t s1, nextStep s = (.tok t, s1) ∧ key t = (.END, kwEnd) ∧ t.ty ≠ .EOF ∧ s1.rest = tl ∧ s1.prev ≠ 92 ∧
      mode s1 = (true, false, s.parens, s.braces, s.panicked) :=
  isKw_end.step s tl hh hprev hr (dirScan_end _) rfl (by decide)

/-- `@else` in text mode, when what follows does not begin with "if" (that would be `@elseif`) -/
theorem else_step (s : Lx) (x : Bytes) (hh : s.isHTML = true) (hprev : s.prev ≠ 92) (hr : s.rest = kwElse ++ x)
    (hx : ¬ (x.headD 0 = 105 ∧ (x.drop 1).headD 0 = 102)) :
    ∃ t s1, nextStep s = (.tok t, s1) ∧ key t = (.ELSE, kwElse) ∧ t.ty ≠ .EOF ∧ s1.rest = x ∧ s1.prev ≠ 92 ∧
      mode s1 = (true, false, s.parens, s.braces, s.panicked) :=
  isKw_else.step s x hh hprev hr (dirScan_else _ hx) rfl (by decide)

/-- what a directive keyword must satisfy to open an argument list -/
structure DirKw (kw : Bytes) (ty : TT) : Prop where
  hat : kw.headD 0 = 64
  len1 : 1 ≤ kw.length
  len2 : kw.length ≤ longestDirective
  scan : ∀ x, dirScan [] .ILLEGAL (kw ++ x) = (kw, ty)
  ty1 : ty ≠ .ILLEGAL
  lk : lookupDirective kw ≠ .ILLEGAL
  ty2 : ty ≠ .EOF
  paren : tokensWithoutParens.contains ty = false

theorem DirKw.isKw {kw : Bytes} {ty : TT} (h : DirKw kw ty) : IsKw kw ty := ⟨h.hat, h.len1, h.len2, h.lk, h.ty1, h.ty2⟩

/-- the scan reads the keyword off whatever follows, since no proper prefix of it is a keyword and the kinds that may
    go on (`@else`, `@break`, `@continue`) take no argument list -/
theorem DirKw.of_lookup {kw : Bytes} {ty : TT} (hk : lookupDirective kw = ty) (hty : ty ≠ .ILLEGAL)
    (hpre : ∀ i, i < kw.length → 0 < i → lookupDirective (kw.take i) = .ILLEGAL) (hpar : tokensWithoutParens.contains ty = false) :
    DirKw kw ty := by
  have h := IsKw.of_lookup hk hty
  have hne : kw ≠ [] := fun e => by have := h.len1; rw [e] at this; cases this
  exact ⟨h.hat, h.len1, h.len2,
    fun x => dirScan_kw ty x hty (isPotentiallyLong_of_parens hpar x) kw [] _ hne (directive_letters kw h.lk) hpre hk,
    hty, h.lk, h.ty2, hpar⟩

theorem dirKw_if : DirKw kwIf .IF :=
  .of_lookup (by rw [lookupDirective_bytes]; decide) (by decide) (by simp only [lookupDirective_bytes]; decide) (by decide)

theorem isKw_if : IsKw kwIf .IF := dirKw_if.isKw

theorem lex_dir_open (kw : Bytes) (ty : TT) (hk : DirKw kw ty) (s : Lx) (x : Bytes) (hh : s.isHTML = true) (hprev : s.prev ≠ 92)
    (hp0 : s.parens = 0) (hr : s.rest = kw ++ (40 :: x)) :
    ∃ t1 t2 s2, Run s [t1, t2] s2 ∧ key t1 = (ty, kw) ∧ key t2 = (.LPAREN, [40]) ∧ s2.rest = x ∧
      mode s2 = (false, true, 1, s.braces, s.panicked) := by
  obtain ⟨t1, s1, st1, k1, ne1, r1, h1, d1, p1, b1, pa1, _⟩ := lex_keyword s kw _ ty hh hprev hr hk.hat hk.len1 hk.len2
    (hk.scan _) hk.ty1 hk.lk hk.ty2
  have h1' : s1.isHTML = false := by rw [h1, hk.paren]; rfl
  have d1' : s1.isDirective = true := by rw [d1, hk.paren]; rfl
  obtain ⟨t2, s2, st2, k2, ne2, r2, _, m2⟩ := code_lparen_step s1 x h1' d1' r1
  refine ⟨t1, t2, s2, Run.cons _ _ _ _ _ st1 ne1 (Run.cons _ _ _ _ _ st2 ne2 (Run.nil _)), k1, k2, r2, ?_⟩
  rw [m2, p1, hp0, b1, pa1]
  rfl

/-- `@kw( lexemes g2 )`, from text mode back to text mode.  `hp0`: ")" ends the directive when it brings the counter of
    parentheses back to zero.  `LexemesOK true`: behind the keyword `isDirective` is set -/
theorem lex_dir_args (kw : Bytes) (ty : TT) (hk : DirKw kw ty) (s : Lx) (b : List (Bytes × Lexeme)) (g2 tl : Bytes)
    (hh : s.isHTML = true) (hprev : s.prev ≠ 92) (hp0 : s.parens = 0) (hg2 : allWs g2)
    (hr : s.rest = kw ++ (40 :: lexemesSrc b (g2 ++ 41 :: tl))) (hok : LexemesOK true (g2 ++ 41 :: tl) b) :
    ∃ toks sf, Run s toks sf ∧ toks.map key = (ty, kw) :: (.LPAREN, [40]) :: (b.map (·.2.key) ++ [(.RPAREN, [41])]) ∧ sf.rest = tl ∧
      sf.prev = 41 ∧ mode sf = (true, false, 0, s.braces, s.panicked) := by
  obtain ⟨t1, t2, s2, run2, k1, k2, r2, m2⟩ := lex_dir_open kw ty hk s _ hh hprev hp0 hr
  obtain ⟨f1, f2, f3, f4, f5⟩ := mode_fields m2
  obtain ⟨ts, s3, run3, hk3, r3, m3⟩ := lex_lexemes _ b s2 f1 r2 (by rw [f2]; exact hok)
  obtain ⟨t4, s4, st4, k4, ne4, r4, pv4, m4⟩ := code_rparen_close_step s3 g2 tl (by rw [mode_html m3]; exact f1) (by rw [mode_dir m3]; exact f2)
    (by rw [mode_parens m3]; exact f3) hg2 r3
  exact ⟨[t1, t2] ++ (ts ++ [t4]), s4, Run.append run2 (Run.snoc run3 st4 ne4), by simp [k1, k2, hk3, k4], r4, pv4,
    by rw [m4, mode_braces m3, mode_pan m3, f4, f5]⟩

/-- `@kw( g1 l g2 )` -/
theorem lex_dir_one (kw : Bytes) (ty : TT) (hk : DirKw kw ty) (s : Lx) (g1 : Bytes) (l : Lexeme) (g2 tl : Bytes) (hh : s.isHTML = true)
    (hprev : s.prev ≠ 92) (hp0 : s.parens = 0) (hg1 : allWs g1) (hg2 : allWs g2) (hl : l.OKBefore true ((g2 ++ 41 :: tl).headD 0))
    (hr : s.rest = kw ++ (40 :: (g1 ++ (l.src ++ (g2 ++ (41 :: tl)))))) :
    ∃ t1 t2 t3 t4 s4, Run s [t1, t2, t3, t4] s4 ∧ key t1 = (ty, kw) ∧ key t2 = (.LPAREN, [40]) ∧ key t3 = l.key ∧
      key t4 = (.RPAREN, [41]) ∧ s4.rest = tl ∧ s4.prev = 41 ∧ mode s4 = (true, false, 0, s.braces, s.panicked) := by
  obtain ⟨toks, s4, run, hkeys, h⟩ := lex_dir_args kw ty hk s [(g1, l)] g2 tl hh hprev hp0 hg2 hr ⟨hg1, hl, trivial⟩
  obtain ⟨t1, _, rfl, k1, hkeys⟩ := List.map_eq_cons_iff.mp hkeys
  obtain ⟨t2, _, rfl, k2, hkeys⟩ := List.map_eq_cons_iff.mp hkeys
  obtain ⟨t3, _, rfl, k3, hkeys⟩ := List.map_eq_cons_iff.mp hkeys
  obtain ⟨t4, _, rfl, k4, hkeys⟩ := List.map_eq_cons_iff.mp hkeys
  cases List.map_eq_nil_iff.mp hkeys
  exact ⟨t1, t2, t3, t4, s4, run, k1, k2, k3, k4, h⟩

/-- `@kw( g1 name g2 )` -/
theorem lex_cond_header (kw : Bytes) (ty : TT) (hk : DirKw kw ty) (s : Lx) (g1 n g2 tl : Bytes) (hh : s.isHTML = true) (hprev : s.prev ≠ 92)
    (hp0 : s.parens = 0) (hg1 : allWs g1) (hg2 : allWs g2) (hn : isName n)
    (hr : s.rest = kw ++ (40 :: (g1 ++ (n ++ (g2 ++ (41 :: tl)))))) :
    ∃ t1 t2 t3 t4 s4, Run s [t1, t2, t3, t4] s4 ∧ key t1 = (ty, kw) ∧ key t2 = (.LPAREN, [40]) ∧ key t3 = (.IDENT, n) ∧
      key t4 = (.RPAREN, [41]) ∧ s4.rest = tl ∧ s4.prev = 41 ∧ mode s4 = (true, false, 0, s.braces, s.panicked) := by
  have h := lex_dir_one kw ty hk s g1 (.word n) g2 tl hh hprev hp0 hg1 hg2 (Lexeme.word_ok (isName_word hn) hg2 (fun _ => rfl)) hr
  rwa [show (Lexeme.word n).key = (.IDENT, n) from congrArg (·, n) hn.2.2] at h

end Tw
