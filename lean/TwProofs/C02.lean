/-
  TwProofs.C02 — `@if / @elseif / @else` renders exactly the first truthy branch.

  Theorems about the model's evaluator (tied to `evaluator.go` by the correspondence check):
  the construct's value is the body of the first branch whose condition is truthy — the later
  conditions do not occur in the result at all, so nothing in them (errors included) can
  surface — else the `@else` body, else nothing; one truthiness function decides `@if`, the
  ternary, `@breakIf` and `@continueIf`; text around the construct is concatenated unchanged.
  And from the source bytes, lexer and parser included: `if_else_renders_the_chosen_branch_from_source`,
  `elseif_chain_renders_the_first_truthy_branch_from_source`.
-/
import TwModel
import TwProofs.Lemmas.EvalStep
import TwProofs.Lemmas.EvalWalk
import TwProofs.Lemmas.TextIf
import TwProofs.Lemmas.TextIfChain

namespace Tw.C02
open Tw

/-- the falsy values are exactly false, nil, 0, 0.0 and the empty string -/
theorem falsy_iff (v : Val) :
    isTruthy v = false ↔
      v = .bool false ∨ v = .nil ∨ v = .int 0 ∨ (∃ x, v = .float x ∧ (x != 0.0) = false) ∨ v = .str [] := by
  cases v with
  | bool x => cases x <;> simp [isTruthy]
  | nil => simp [isTruthy]
  | int x => simp [isTruthy]
  | float x => simp [isTruthy]
  | str s => cases s <;> simp [isTruthy]
  | arr xs => simp [isTruthy]
  | obj kvs => simp [isTruthy]

/-- empty arrays and empty objects are truthy -/
theorem empty_containers_truthy : isTruthy (.arr []) = true ∧ isTruthy (.obj []) = true := ⟨rfl, rfl⟩

/-- a truthy `@if` condition: the result is the consequence block alone; `alts` and `alt` do not
    occur on the right-hand side, so they are never evaluated -/
theorem if_true (f : Nat) (c : Ctx) (env : Env) (t : Token) (cnd : Expr) (cons : List Stmt)
    (alts : List (Expr × List Stmt)) (alt : Option (List Stmt)) (v : Val)
    (hc : evalExpr f c env cnd = .ok v) (hv : isTruthy v = true) :
    evalStmt (f + 1) c env (.ifS t cnd cons alts alt) = (evalBlock f c env.push cons).bind fun r => .ok (r.1, env) := by
  rw [evalStmt_ifS, hc, Res.bind_ok, if_pos hv]

theorem if_false (f : Nat) (c : Ctx) (env : Env) (t : Token) (cnd : Expr) (cons : List Stmt)
    (alts : List (Expr × List Stmt)) (alt : Option (List Stmt)) (v : Val)
    (hc : evalExpr f c env cnd = .ok v) (hv : isTruthy v = false) :
    evalStmt (f + 1) c env (.ifS t cnd cons alts alt) = evalElseIfs f c env alts alt := by
  rw [evalStmt_ifS, hc, Res.bind_ok, if_neg (by rw [hv]; simp)]

/-- an error in the `@if` condition is the construct's error -/
theorem if_cond_error (f : Nat) (c : Ctx) (env : Env) (t : Token) (cnd : Expr) (cons : List Stmt)
    (alts : List (Expr × List Stmt)) (alt : Option (List Stmt)) (code : String) (line : Nat) (args : List Bytes)
    (hc : evalExpr f c env cnd = .err code line args) :
    evalStmt (f + 1) c env (.ifS t cnd cons alts alt) = .err code line args := by
  rw [evalStmt_ifS, hc, Res.bind_err]

/-- branches whose conditions are falsy are passed over, one unit of fuel each -/
theorem elseifs_skip_falsy (f : Nat) (c : Ctx) (env : Env) (rest : List (Expr × List Stmt)) (alt : Option (List Stmt)) :
    ∀ (pre : List (Expr × List Stmt)), (∀ p ∈ pre, ∃ w, evalExpr f c env p.1 = .ok w ∧ isTruthy w = false) →
      evalElseIfs (f + pre.length + 1) c env (pre ++ rest) alt = evalElseIfs (f + 1) c env rest alt
  | [], _ => rfl
  | (pe, pb) :: pre, hpre => by
    obtain ⟨w, hw, hwf⟩ := hpre _ List.mem_cons_self
    rw [List.cons_append, List.length_cons, show f + (pre.length + 1) + 1 = (f + (pre.length + 1)) + 1 from rfl, evalElseIfs_cons,
      evalExpr_mono f (pre.length + 1) c env pe (by rw [hw]; simp), hw, Res.bind_ok, if_neg (by rw [hwf]; simp)]
    exact elseifs_skip_falsy f c env rest alt pre (fun q hq => hpre q (List.mem_cons_of_mem _ hq))

/-- when the conditions of `pre` are all falsy and the next one is truthy,
    the result is that branch's body — whatever `post` and `alt` are (they are not evaluated) -/
theorem elseifs_first_truthy (f : Nat) (c : Ctx) (env : Env) (ce : Expr) (body : List Stmt)
    (post : List (Expr × List Stmt)) (alt : Option (List Stmt)) (v : Val)
    (hce : evalExpr f c env ce = .ok v) (hv : isTruthy v = true) :
    ∀ (pre : List (Expr × List Stmt)),
      (∀ p ∈ pre, ∃ w, evalExpr f c env p.1 = .ok w ∧ isTruthy w = false) →
      evalElseIfs (f + pre.length + 1) c env (pre ++ (ce, body) :: post) alt =
        (evalBlock f c env.push body).bind fun r => .ok (r.1, env) := fun pre hpre => by
  rw [elseifs_skip_falsy f c env _ alt pre hpre, evalElseIfs_cons, hce, Res.bind_ok, if_pos hv]

/-- no condition is truthy: the `@else` body when there is one, nothing otherwise -/
theorem elseifs_none_truthy (f : Nat) (c : Ctx) (env : Env) (alt : Option (List Stmt)) :
    ∀ (alts : List (Expr × List Stmt)),
      (∀ p ∈ alts, ∃ w, evalExpr f c env p.1 = .ok w ∧ isTruthy w = false) →
      evalElseIfs (f + alts.length + 1) c env alts alt =
        match alt with
        | some ab => (evalBlock f c env.push ab).bind fun r => .ok (r.1, env)
        | none => .ok ({}, env) := fun alts hall => by
  have h := elseifs_skip_falsy f c env [] alt alts hall
  rw [List.append_nil] at h
  rw [h, evalElseIfs_nil]
  cases alt <;> rfl

theorem ternary_uses_truthiness (f : Nat) (c : Ctx) (env : Env) (t : Token) (cnd a bb : Expr) (v : Val)
    (hc : evalExpr f c env cnd = .ok v) :
    evalExpr (f + 1) c env (.tern t cnd a bb) = if isTruthy v then evalExpr f c env a else evalExpr f c env bb := by
  rw [evalExpr_tern_match, hc]

theorem breakIf_uses_truthiness (f : Nat) (c : Ctx) (env : Env) (t : Token) (cnd : Expr) (v : Val)
    (hc : evalExpr f c env cnd = .ok v) :
    evalStmt (f + 1) c env (.breakIf t cnd) = .ok ({ brk := isTruthy v }, env) := by
  rw [evalStmt_succ]; simp only [stmtBody, calleesAt]; rw [hc, Res.bind_ok]

theorem continueIf_uses_truthiness (f : Nat) (c : Ctx) (env : Env) (t : Token) (cnd : Expr) (v : Val)
    (hc : evalExpr f c env cnd = .ok v) :
    evalStmt (f + 1) c env (.continueIf t cnd) = .ok ({ cont := isTruthy v }, env) := by
  rw [evalStmt_succ]; simp only [stmtBody, calleesAt]; rw [hc, Res.bind_ok]

/-- a program is rendered statement by statement: the text of what precedes a statement is kept
    in front of its output, what follows is appended (at any nesting depth: the same holds for
    blocks, `evalBlock_cons`) -/
theorem text_before_is_kept (f : Nat) (c : Ctx) (env : Env) (t : Token) (rest : List Stmt) (acc : Bytes) :
    evalProg (f + 1 + 1) c env (.html t :: rest) acc = evalProg (f + 1) c env rest (acc ++ t.lit) := by
  rw [evalProg_cons, evalStmt_html, Res.bind_ok]

theorem text_after_is_appended (f : Nat) (c : Ctx) (env : Env) (t : Token) (acc : Bytes) :
    evalProg (f + 1 + 1 + 1) c env [.html t] acc = .ok (acc ++ t.lit, env) := by
  rw [evalProg_cons, evalStmt_html, Res.bind_ok, evalProg_nil]

/-- **exactly the chosen branch, from the source bytes to the output** — for every template made
    of text runs, comments, `{{ name }}` blocks and `@if(name) text [@else text] @end` constructs
    (any white space around the names), and every data map binding the names: each construct
    renders its first text when the value of its name is truthy, its `@else` text when it is not
    and one exists, and nothing otherwise; the text before, between and after the constructs is
    unaffected. -/
theorem if_else_renders_the_chosen_branch_from_source (custom : List ((VType × Bytes) × Nat)) (items : List WItem)
    (hok : WItemsOK items) (hsize : (wspec items).length + 6 ≤ evalFuel)
    (data : List (Bytes × GoVal)) (env : Env) (henv : envFromMap data = .ok env) (hb : wbound env (wspec items)) :
    evaluateStringPure custom (witemsSrc items) data = .ok (wrender env (wspec items)) :=
  witems_render custom items hok hsize data env henv hb

section example_if
private def exItems : List WItem := [.text [.plain (b "a ")], .ifelse [] (b "ok") (b " ") [.plain (b "yes")] (some [.plain (b " no")]),
  .text [.plain (b " m ")], .ifelse (b " ") (b "n") [] [.plain (b "N")] none, .comment (b " c "), .print [] (b "n") [], .text [.plain (b " z")]]
private def exData (okv : GoVal) : List (Bytes × GoVal) := [(b "ok", okv), (b "n", .int 0)]

private theorem exSrc : witemsSrc exItems = b "a @if(ok )yes@else no@end m @if( n)N@end{{-- c --}}{{n}} z" := by decide +kernel
private theorem exOK : WItemsOK exItems := by decide +kernel

example : witemsSrc exItems = b "a @if(ok )yes@else no@end m @if( n)N@end{{-- c --}}{{n}} z" := exSrc
example : WItemsOK exItems := exOK

/-- ok = true: the first branch; n = 0 is falsy and has no `@else`: nothing -/
example : evaluateStringPure [] (b "a @if(ok )yes@else no@end m @if( n)N@end{{-- c --}}{{n}} z") (exData (.bool true)) = .ok (b "a yes m 0 z") := by
  have h := if_else_renders_the_chosen_branch_from_source [] exItems exOK (by decide +kernel) (exData (.bool true))
    [[(b "n", .int 0), (b "ok", .bool true)]] (by rfl) (by decide +kernel)
  have h2 : wrender [[(b "n", .int 0), (b "ok", .bool true)]] (wspec exItems) = b "a yes m 0 z" := by decide +kernel
  rw [exSrc, h2] at h
  exact h

/-- ok = "" (falsy): the `@else` text -/
example : evaluateStringPure [] (b "a @if(ok )yes@else no@end m @if( n)N@end{{-- c --}}{{n}} z") (exData (.str [])) = .ok (b "a  no m 0 z") := by
  have h := if_else_renders_the_chosen_branch_from_source [] exItems exOK (by decide +kernel) (exData (.str []))
    [[(b "n", .int 0), (b "ok", .str [])]] (by rfl) (by decide +kernel)
  have h2 : wrender [[(b "n", .int 0), (b "ok", .str [])]] (wspec exItems) = b "a  no m 0 z" := by decide +kernel
  rw [exSrc, h2] at h
  exact h
end example_if

/-- for every template of text runs and
    chains `@if(c0) t0 @elseif(c1) t1 … @elseif(cn) tn [@else te] @end` (any white space around the
    names, texts without "{", "@" and backslash, the `@else` text not beginning with "if") and every
    data map, each chain renders exactly the text of the FIRST branch whose name is truthy — the
    `@else` text when none is, nothing when there is no `@else` — and the text before, between and
    after the chains is unaffected.  Only the names up to the first truthy one have to be bound
    (`kbound`): the conditions of the later branches are never evaluated, so they may even be
    undefined. -/
theorem elseif_chain_renders_the_first_truthy_branch_from_source (custom : List ((VType × Bytes) × Nat)) (items : List KItem)
    (hok : KItemsOK items) (data : List (Bytes × GoVal)) (env : Env) (henv : envFromMap data = .ok env)
    (hb : kbound env items) (hsize : kneed items ≤ evalFuel) :
    evaluateStringPure custom (chainTplSrc items) data = .ok (krender env items) := by
  obtain ⟨prog, hp, hm⟩ := parse_kitems items hok
  exact source_renders hp henv (evalProg_kitems _ env prog.stmts items hm hb evalFuel [] hsize)

section example_chain
private def exChain : Chain := { g1 := [], c := b "a", g2 := [], t := b "A", alts := [⟨[32], b "bb", [32], b "B"⟩, ⟨[], b "nosuch", [], b "C"⟩], els := some (b " none") }
private def exK : List KItem := [.text [.plain (b "x ")], .chain exChain, .text [.plain (b " y")]]

private theorem exKSrc : chainTplSrc exK = b "x @if(a)A@elseif( bb )B@elseif(nosuch)C@else none@end y" := by decide +kernel
private theorem exKOK : KItemsOK exK := by decide +kernel

example : chainTplSrc exK = b "x @if(a)A@elseif( bb )B@elseif(nosuch)C@else none@end y" := exKSrc
example : KItemsOK exK := exKOK

/-- a falsy, bb truthy: the second branch; the third condition names an undefined variable and is never looked at -/
example : evaluateStringPure [] (b "x @if(a)A@elseif( bb )B@elseif(nosuch)C@else none@end y") [(b "a", .int 0), (b "bb", .str (b "s"))] = .ok (b "x B y") := by
  have h := elseif_chain_renders_the_first_truthy_branch_from_source [] exK exKOK [(b "a", .int 0), (b "bb", .str (b "s"))]
    [[(b "a", .int 0), (b "bb", .str (b "s"))]] (by rfl) (by
      refine ⟨⟨by decide +kernel, fun _ => ⟨by decide +kernel, fun h => ?_⟩⟩, trivial⟩
      exact absurd h (by decide +kernel)) (by decide +kernel)
  have h2 : krender [[(b "a", .int 0), (b "bb", .str (b "s"))]] exK = b "x B y" := by decide +kernel
  rw [exKSrc, h2] at h
  exact h
end example_chain

example : (match evaluateStringPure [] (b "a@if(0)x@elseif(\"\")y@elseif([])z@elseif(1 % 0)w@else v@end b") [] with
    | .ok out => out == b "az b" | _ => false) = true := by decide +kernel

end Tw.C02
